/-
  Model of /repo/code39/encoder.go.
-/
import BV.Model.Util
import BV.Gen.Code39
namespace BV.Model.Code39
open BV BV.Model

def table := Gen.Code39.v_encodeTable
def extTable := Gen.Code39.v_extendedTable

/-- the `for r, v := range encodeTable { if v.value == sum ...` search; map order is arbitrary in Go,
    the model takes source order (values are unique: obligation `C15.C15_code39_search_order_free`) -/
def runeWithValue (v : Int) : Option Nat :=
  match table.find? (fun e => e.2.1 == v) with
  | some e => some e.1.toNat
  | none => none

/-- `getChecksum`; returns a string -/
def getChecksum (content : Bytes) : Bytes :=
  let rec go (rs : List (Nat × Nat)) (sum : Int) : Option Int :=
    match rs with
    | [] => some sum
    | (_, r) :: rest =>
      match mapGet table r with
      | none => none
      | some (value, _) => if value < 0 then none else go rest (sum + value)
  match go (runes content) 0 with
  | none => [35] -- "#"
  | some sum =>
    match runeWithValue (sum.tmod 43) with
    | some r => encodeRune r
    | none => [35]

/-- `prepare`; `none` is the error return -/
def prepare (content : Bytes) : Option Bytes :=
  let rec go (rs : List (Nat × Nat)) (acc : Bytes) : Option Bytes :=
    match rs with
    | [] => some acc
    | (_, r) :: rest =>
      if r > 127 then none
      else match mapGet extTable r with
        | some v => go rest (acc ++ v)
        | none => go rest (acc ++ encodeRune r)
  go (runes content) []

/-- the symbol loop of `EncodeWithColor` -/
def drawData (data : Bytes) : Option (List Bool) :=
  let rec go (rs : List (Nat × Nat)) (acc : List Bool) : Option (List Bool) :=
    match rs with
    | [] => some acc
    | (i, r) :: rest =>
      let acc := if i != 0 then acc ++ [false] else acc
      match mapGet table r with
      | none => none
      | some (_, bars) => go rest (acc ++ bars)
  go (runes data) []

/-- the checksum value loop (after the `fix:` commit) -/
def checkValue (content : Bytes) : Int :=
  (runes (getChecksum content)).foldl (fun cs p =>
    match mapGet table p.2 with
    | some (value, _) => if value > 0 then value else cs
    | none => cs) 0

def encodeWithColor (content : Bytes) (includeChecksum fullASCII : Bool) (s : Scheme) : Res Barcode :=
  let content? : Option Bytes :=
    if fullASCII then prepare content
    else if containsRune content 42 then none else some content
  match content? with
  | none => .error .rejected
  | some content =>
    let data := [42] ++ content
    let data := if includeChecksum then data ++ getChecksum content else data
    let data := data ++ [42]
    match drawData data with
    | none => .error .rejected
    | some bits => .ok (mk1D (kindStr Gen.Root.c_TypeCode39) content bits (some (checkValue content)) s)

def encode (content : Bytes) (cs full : Bool) : Res Barcode := encodeWithColor content cs full scheme16

end BV.Model.Code39
