/-
  BV.Proofs.ListLemmas — facts about `Nat` bit masks, `List`, `Array`, `Option` and `Except` of core that several proof
  modules need and that say nothing about barcodes.
-/
namespace BV

theorem foldl_congr_mem {α β} {f g : β → α → β} : ∀ (l : List α) (init : β),
    (∀ acc x, x ∈ l → f acc x = g acc x) → l.foldl f init = l.foldl g init
  | [], _, _ => rfl
  | x :: l, init, h => by
    rw [List.foldl_cons, List.foldl_cons, h init x List.mem_cons_self]
    exact foldl_congr_mem l _ (fun acc y hy => h acc y (List.mem_cons_of_mem _ hy))

theorem length_flatMap_const {α β} {g : α → List β} {k : Nat} (hg : ∀ a, (g a).length = k) :
    ∀ l : List α, (l.flatMap g).length = l.length * k
  | [] => (Nat.zero_mul k).symm
  | a :: l => by
    rw [List.flatMap_cons, List.length_append, hg, length_flatMap_const hg l, List.length_cons, Nat.succ_mul,
      Nat.add_comm]

theorem getD_setIfInBounds {α} (a : Array α) (i : Nat) (x d : α) (j : Nat) :
    (a.setIfInBounds i x).getD j d = if i = j ∧ i < a.size then x else a.getD j d := by
  rw [Array.getD_eq_getD_getElem?, Array.getD_eq_getD_getElem?, Array.getElem?_setIfInBounds]
  by_cases h : i = j
  · subst h
    by_cases h2 : i < a.size
    · rw [if_pos rfl, if_pos h2, if_pos ⟨rfl, h2⟩]; rfl
    · rw [if_pos rfl, if_neg h2, if_neg (fun c => h2 c.2), Array.getElem?_eq_none (by omega)]
  · rw [if_neg h, if_neg (fun c => h c.1)]

/-! ### duplicate check with a bit mask

  Linear in the length of the list, where deciding `List.Nodup` compares all pairs. -/

/-- `seen` with the bits of `l` set one after the other; `none` as soon as one of them is set already -/
def maskOf : List Nat → Nat → Option Nat
  | [], seen => some seen
  | x :: l, seen =>
    match seen.testBit x with
    | true => none
    | false => maskOf l (seen ||| 1 <<< x)

theorem testBit_set (seen x v : Nat) :
    (seen ||| 1 <<< x).testBit v = (seen.testBit v || decide (x = v)) := by
  rw [Nat.testBit_or, Nat.one_shiftLeft, Nat.testBit_two_pow]

theorem maskOf_sound : ∀ (l : List Nat) (seen m : Nat), maskOf l seen = some m →
    l.Nodup ∧ (∀ x ∈ l, seen.testBit x = false) ∧ ∀ v, m.testBit v = true ↔ seen.testBit v = true ∨ v ∈ l
  | [], seen, m, h => by
    cases h
    exact ⟨List.nodup_nil, fun _ hx => absurd hx List.not_mem_nil, fun v => by simp⟩
  | x :: l, seen, m, h => by
    unfold maskOf at h
    cases hx : seen.testBit x with
    | true => rw [hx] at h; cases h
    | false =>
      rw [hx] at h
      obtain ⟨hnd, hseen, hm⟩ := maskOf_sound l _ m h
      simp only [testBit_set, Bool.or_eq_false_iff, Bool.or_eq_true, decide_eq_false_iff_not,
        decide_eq_true_eq] at hseen hm
      refine ⟨List.nodup_cons.mpr ⟨fun hxl => (hseen x hxl).2 rfl, hnd⟩, fun y hy => ?_, fun v => ?_⟩
      · rcases List.mem_cons.mp hy with rfl | hy
        · exact hx
        · exact (hseen y hy).1
      · rw [hm v, List.mem_cons, or_assoc, eq_comm (a := x)]

/-- a list whose images under `key` pass the mask check has no duplicates -/
theorem nodup_of_maskOf {α} (key : α → Nat) {l : List α} (h : (maskOf (l.map key) 0).isSome = true) :
    l.Nodup := by
  obtain ⟨m, hm⟩ := Option.isSome_iff_exists.mp h
  exact (List.pairwise_map.mp (maskOf_sound _ 0 m hm).1).imp (fun hne he => hne (congrArg key he))

/-! ### sums, folds in `Option`/`Except`, small facts -/

theorem eq_ofFn {α} {a : Array α} {n : Nat} {f : Nat → α} (h : ∀ i, a[i]? = if i < n then some (f i) else none) :
    a = Array.ofFn (n := n) (fun i => f i) := by
  apply Array.ext_getElem?
  intro i
  rw [h i]
  by_cases hi : i < n
  · simp [hi]
  · simp [hi]

theorem sum_update (p q : Nat → Nat) (c : Nat) (hq : q c = 0) (hpq : ∀ i, i ≠ c → p i = q i) : ∀ N, c < N →
    ((List.range N).map p).sum = ((List.range N).map q).sum + p c := by
  intro N
  induction N with
  | zero => intro h; omega
  | succ N ih =>
    intro hc
    rw [List.range_succ, List.map_append, List.map_append, List.sum_append, List.sum_append]
    simp only [List.map_cons, List.map_nil, List.sum_cons, List.sum_nil, Nat.add_zero]
    by_cases hcN : c = N
    · subst hcN
      have : (List.range c).map p = (List.range c).map q := by
        apply List.map_congr_left
        intro i hi
        exact hpq i (by have := List.mem_range.mp hi; omega)
      rw [this, hq]; omega
    · rw [ih (by omega), hpq N (by omega)]; omega

theorem sum_zero {α} (L : List α) : (L.map (fun _ => 0)).sum = 0 := by
  induction L with
  | nil => rfl
  | cons a L ih => simp [ih]

theorem sum_indicator {α} (p : α → Bool) (L : List α) :
    (L.map (fun a => if p a then 1 else 0)).sum = L.countP p := by
  induction L with
  | nil => rfl
  | cons a L ih =>
    rw [List.map_cons, List.sum_cons, ih, List.countP_cons, Nat.add_comm]

theorem getD_mem_zip {α β} {l₁ : List α} {l₂ : List β} {i : Nat} {a : α} {b : β} (h1 : i < l₁.length)
    (h2 : i < l₂.length) : (l₁.getD i a, l₂.getD i b) ∈ l₁.zip l₂ := by
  have h3 : i < (l₁.zip l₂).length := by rw [List.length_zip]; omega
  rw [List.getD_eq_getElem?_getD, List.getD_eq_getElem?_getD, List.getElem?_eq_getElem h1,
    List.getElem?_eq_getElem h2, Option.getD_some, Option.getD_some, ← List.getElem_zip (h := h3)]
  exact List.getElem_mem h3

theorem opt_add_zero (o : Option Nat) : o.map (· + 0) = o := by cases o <;> rfl

/-- a monadic fold none of whose steps fails -/
theorem foldlM_some {α β} {f : β → α → Option β} {g : β → α → β} : ∀ (L : List α) (b : β),
    (∀ a ∈ L, ∀ b, f b a = some (g b a)) → L.foldlM f b = some (L.foldl g b) := by
  intro L
  induction L with
  | nil => intro b _; rfl
  | cons a L ih =>
    intro b h
    rw [List.foldlM_cons, List.foldl_cons, h a List.mem_cons_self b]
    exact ih _ (fun a' ha' => h a' (List.mem_cons_of_mem _ ha'))

theorem except_map_map {ε α β γ} (x : Except ε α) (f : α → β) (g : β → γ) :
    (x.map f).map g = x.map (g ∘ f) := by
  cases x <;> rfl

theorem map_range'_shift {α} (f : Nat → α) (k : Nat) : ∀ s,
    (List.range' (s + 1) k).map f = (List.range' s k).map (fun i => f (i + 1)) := by
  induction k with
  | zero => intro s; rfl
  | succ k ih => intro s; simp only [List.range'_succ, List.map_cons, ih]

theorem exists_ok_bind {ε α β} {r : Except ε α} {f : α → Except ε β} {P : α → Prop} {Q : β → Prop}
    (hr : ∃ c, r = .ok c ∧ P c) (hf : ∀ c, P c → ∃ b, f c = .ok b ∧ Q b) :
    ∃ b, (r >>= f) = .ok b ∧ Q b := by
  obtain ⟨c, e, hp⟩ := hr
  rw [e]
  exact hf c hp

end BV
