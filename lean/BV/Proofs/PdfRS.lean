/-
  BV.Proofs.PdfRS — Reed–Solomon over GF(929) for PDF417 (C04 / C12).

  The generated coefficient tables `v_correctionFactors[k]` are, lowest degree first and without the leading 1,
  the coefficients of g_k(x) = ∏_{i=1}^{2^(k+1)} (x − 3^i) mod 929 (`factors_eq_genPoly`).  The LFSR `Compute`
  (as a list function: `checkWords` in `BV.Proofs.PdfLfsr`) keeps in its register the remainder of data(x)·x^n
  modulo g_k, as a congruence with an explicit quotient, and returns its negation (`compute_division`);
  therefore data ++ check words evaluates to zero at 3^1 … 3^n: `Spec.RS.valid929` (`checkWords_valid`).
-/
import BV.Proofs.PdfLfsr
import BV.Spec.RS
import Mathlib.Data.ZMod.Basic
import Mathlib.Tactic.Ring
namespace BV.Proofs.PdfRS
open BV BV.Model.Pdf417 BV.Gen.Pdf417 BV.Spec.RS

abbrev F := ZMod 929

/-! ### evaluation of coefficient lists

Evaluation is defined in an arbitrary commutative ring `R` of characteristic 929: `R = ZMod 929` gives the
Spec's `evalMod 929`, and `R = (ZMod 929)[X]`, `y = X` turns every identity below into an identity of
polynomials (not just of polynomial functions). -/

section generic
variable {R : Type} [CommRing R]

/-- Horner evaluation, highest-degree coefficient first (the order of codeword sequences) -/
def evalZ (w : List Nat) (y : R) : R := w.foldl (fun (acc : R) (c : Nat) => acc * y + (c : R)) 0

theorem foldl_evalZ (w : List Nat) (y a : R) :
    w.foldl (fun (acc : R) (c : Nat) => acc * y + (c : R)) a = a * y ^ w.length + evalZ w y := by
  induction w generalizing a with
  | nil => simp [evalZ]
  | cons c cs ih =>
    simp only [List.foldl_cons, List.length_cons, evalZ]
    rw [ih, ih (0 * y + (c : R))]
    ring

theorem evalZ_nil (y : R) : evalZ [] y = 0 := rfl

theorem evalZ_cons (c : Nat) (cs : List Nat) (y : R) :
    evalZ (c :: cs) y = (c : R) * y ^ cs.length + evalZ cs y := by
  simp only [evalZ, List.foldl_cons]
  rw [foldl_evalZ]
  simp [evalZ]

theorem evalZ_append (a b : List Nat) (y : R) :
    evalZ (a ++ b) y = evalZ a y * y ^ b.length + evalZ b y := by
  simp only [evalZ, List.foldl_append]
  rw [foldl_evalZ]
  simp [evalZ]

/-- evaluation, lowest-degree coefficient first -/
def evalLowZ (p : List Nat) (y : R) : R := p.foldr (fun (c : Nat) (acc : R) => (c : R) + y * acc) 0

theorem evalZ_reverse (p : List Nat) (y : R) : evalZ p.reverse y = evalLowZ p y := by
  simp only [evalZ, evalLowZ, List.foldl_reverse]
  induction p with
  | nil => rfl
  | cons c cs ih => simp only [List.foldr_cons]; rw [ih]; ring

variable [CharP R 929]

theorem c929 : (929 : R) = 0 := by exact_mod_cast CharP.cast_eq_zero R 929

theorem cast_mod929 (a : Nat) : ((a % 929 : Nat) : R) = (a : R) := by
  have h := Nat.mod_add_div a 929
  have e : (a : R) = ((a % 929 + 929 * (a / 929) : Nat) : R) := by rw [h]
  rw [e]
  push_cast
  rw [c929]
  ring

theorem cast_sub_mod (a b : Nat) : (((a + 929 - b % 929) % 929 : Nat) : R) = (a : R) - (b : R) := by
  rw [cast_mod929, Nat.cast_sub (by have := Nat.mod_lt b (show 929 > 0 by omega); omega)]
  push_cast
  rw [cast_mod929, c929]
  ring

end generic

/-- the Spec's `evalMod 929` is evaluation in `ZMod 929` -/
theorem evalMod_cast (w : List Nat) (x : Nat) : ((evalMod 929 w x : Nat) : F) = evalZ w (x : F) := by
  have h : ∀ (a : Nat), ((w.foldl (fun acc c => (acc * x + c) % 929) a : Nat) : F) =
      w.foldl (fun (acc : F) (c : Nat) => acc * (x : F) + (c : F)) (a : F) := by
    induction w with
    | nil => intro a; rfl
    | cons c cs ih =>
      intro a
      simp only [List.foldl_cons]
      rw [ih]
      congr 1
      rw [ZMod.natCast_mod]
      push_cast
      ring
  simpa [evalMod, evalZ] using h 0

theorem evalMod_lt (w : List Nat) (x : Nat) : evalMod 929 w x < 929 := by
  have h : ∀ (a : Nat), a < 929 → w.foldl (fun acc c => (acc * x + c) % 929) a < 929 := by
    induction w with
    | nil => intro a ha; exact ha
    | cons c cs ih => intro a _; exact ih _ (Nat.mod_lt _ (by omega))
  exact h 0 (by omega)

theorem evalMod_eq_zero_iff (w : List Nat) (x : Nat) : evalMod 929 w x = 0 ↔ evalZ w (x : F) = 0 := by
  rw [← evalMod_cast, ZMod.natCast_eq_zero_iff]
  have := evalMod_lt w x
  constructor
  · intro h; rw [h]; exact Nat.dvd_zero _
  · intro h; exact Nat.eq_zero_of_dvd_of_lt h this

theorem powMod_cast (a n : Nat) : ((powMod a n 929 : Nat) : F) = (a : F) ^ n := by
  induction n with
  | zero => simp [powMod]
  | succ n ih =>
    simp only [powMod]
    rw [ZMod.natCast_mod]
    push_cast
    rw [ih]
    ring

/-- `p(x)·(x − r)` for `p` given lowest degree first; `prev` is the coefficient of `p` one position below -/
def mulLinAux (r : Nat) : Nat → List Nat → List Nat
  | prev, [] => [prev]
  | prev, b :: rest => (prev + 929 - (r * b) % 929) % 929 :: mulLinAux r b rest

/-- `p(x)·(x − r)` mod 929, coefficients lowest degree first -/
def mulLin (p : List Nat) (r : Nat) : List Nat := mulLinAux r 0 p

/-- `p · (x − r)(x − 3r)(x − 9r)…` with `n` factors -/
def genAux : Nat → Nat → List Nat → List Nat
  | 0, _, p => p
  | n + 1, r, p => genAux n (r * 3 % 929) (mulLin p r)

/-- g(x) = ∏_{i=1}^{n} (x − 3^i) mod 929, coefficients lowest degree first (the last one is 1) -/
def genPoly (n : Nat) : List Nat := genAux n 3 [1]

/-! #### the factor tables against `genPoly`

`genPoly n` is not evaluated on coefficient lists: the product is taken in ℕ[x], with `x + (929 − r)` for `x − r`,
and evaluated at a base `B` that no coefficient reaches (their sum, the value at 1, is at most 930^n).  It is then
one product of naturals, whose base-`B` digits reduced mod 929 are the coefficients of `genPoly n`. -/

/-- `p(x)·(x + a)` in ℕ[x], lowest degree first; `prev` as in `mulLinAux` -/
def mulLinN (a : Nat) : Nat → List Nat → List Nat
  | prev, [] => [prev]
  | prev, b :: rest => (prev + a * b) :: mulLinN a b rest

/-- `genAux` in ℕ[x], nothing reduced: the factor `x − r` is taken as `x + (929 − r)` -/
def genAuxN : Nat → Nat → List Nat → List Nat
  | 0, _, p => p
  | n + 1, r, p => genAuxN n (r * 3 % 929) (mulLinN (929 - r) 0 p)

/-- the value of `genAuxN n r p` at `x = B`, given that of `p` -/
def genPacked (B : Nat) : Nat → Nat → Nat → Nat
  | 0, _, P => P
  | n + 1, r, P => genPacked B n (r * 3 % 929) ((B + (929 - r)) * P)

/-- value at `x = B` -/
def packLow (B : Nat) (p : List Nat) : Nat := p.foldr (fun c acc => c + B * acc) 0

/-- the `n` lowest base-`B` digits, reduced mod 929 -/
def unpack (B : Nat) : Nat → Nat → List Nat
  | 0, _ => []
  | n + 1, P => P % B % 929 :: unpack B n (P / B)

theorem mod929_eq_iff (x y : Nat) : x % 929 = y % 929 ↔ (x : F) = (y : F) :=
  (ZMod.natCast_eq_natCast_iff' x y 929).symm

theorem mulLinAux_mod (r : Nat) (hr : r ≤ 929) (prev : Nat) (p : List Nat) :
    mulLinAux r (prev % 929) (p.map (· % 929)) = (mulLinN (929 - r) prev p).map (· % 929) := by
  induction p generalizing prev with
  | nil => rfl
  | cons b rest ih =>
    simp only [List.map_cons, mulLinAux, mulLinN, ih, List.cons.injEq, and_true]
    have hlt : r * (b % 929) % 929 < 929 := Nat.mod_lt _ (by omega)
    rw [mod929_eq_iff, Nat.cast_sub (by omega)]
    push_cast [cast_mod929, Nat.cast_sub hr, c929]
    ring

theorem genAux_mod (n r : Nat) (hr : r < 929) (p : List Nat) :
    genAux n r (p.map (· % 929)) = (genAuxN n r p).map (· % 929) := by
  induction n generalizing r p with
  | zero => rfl
  | succ n ih =>
    rw [genAux, genAuxN, ← ih _ (Nat.mod_lt _ (by omega)), mulLin, ← mulLinAux_mod r (by omega)]

theorem packLow_mulLinN (B a prev : Nat) (p : List Nat) :
    packLow B (mulLinN a prev p) = prev + (B + a) * packLow B p := by
  induction p generalizing prev with
  | nil => simp [mulLinN, packLow]
  | cons b rest ih =>
    simp only [mulLinN, packLow, List.foldr_cons] at ih ⊢
    rw [ih]; ring

theorem packLow_genAuxN (B n r : Nat) (p : List Nat) :
    packLow B (genAuxN n r p) = genPacked B n r (packLow B p) := by
  induction n generalizing r p with
  | zero => rfl
  | succ n ih => rw [genAuxN, ih, packLow_mulLinN, Nat.zero_add, genPacked]

theorem genPacked_one_le (n r P : Nat) : genPacked 1 n r P ≤ 930 ^ n * P := by
  induction n generalizing r P with
  | zero => simp [genPacked]
  | succ n ih =>
    rw [genPacked]
    calc _ ≤ 930 ^ n * ((1 + (929 - r)) * P) := ih _ _
      _ ≤ 930 ^ n * (930 * P) := Nat.mul_le_mul_left _ (Nat.mul_le_mul_right _ (by omega))
      _ = _ := by ring

theorem le_packLow_one (p : List Nat) : ∀ c ∈ p, c ≤ packLow 1 p := by
  induction p with
  | nil => simp
  | cons b rest ih =>
    intro c hc
    simp only [packLow, List.foldr_cons, Nat.one_mul] at ih ⊢
    rcases List.mem_cons.mp hc with rfl | hc
    · omega
    · have := ih c hc; omega

theorem length_mulLinN (a prev : Nat) (p : List Nat) : (mulLinN a prev p).length = p.length + 1 := by
  induction p generalizing prev with
  | nil => rfl
  | cons b rest ih => simp [mulLinN, ih]

theorem length_genAuxN (n r : Nat) (p : List Nat) : (genAuxN n r p).length = p.length + n := by
  induction n generalizing r p with
  | zero => rfl
  | succ n ih => rw [genAuxN, ih, length_mulLinN]; omega

theorem unpack_packLow (B : Nat) (p : List Nat) (h : ∀ c ∈ p, c < B) :
    unpack B p.length (packLow B p) = p.map (· % 929) := by
  induction p with
  | nil => rfl
  | cons b rest ih =>
    have hb : b < B := h b List.mem_cons_self
    have hpos : 0 < B := by omega
    simp only [packLow, List.foldr_cons, List.length_cons, unpack, List.map_cons] at ih ⊢
    rw [Nat.add_mul_mod_self_left, Nat.mod_eq_of_lt hb, Nat.add_mul_div_left _ _ hpos, Nat.div_eq_of_lt hb,
      Nat.zero_add, ih (fun c hc => h c (List.mem_cons_of_mem _ hc))]

/-- the generator from one product of naturals: for `B` beyond the sum `∏ (930 − 3^i mod 929)` of the
    coefficients of `∏ (x + 929 − 3^i mod 929) ∈ ℕ[x]`, these are the base-`B` digits of its value at `B` -/
theorem genPoly_eq_unpack (n B : Nat) (hB : 930 ^ n < B) :
    genPoly n = unpack B (n + 1) (genPacked B n 3 1) := by
  have hlt : ∀ c ∈ genAuxN n 3 [1], c < B := by
    intro c hc
    have h1 := le_packLow_one _ c hc
    rw [packLow_genAuxN] at h1
    have h2 := genPacked_one_le n 3 (packLow 1 [1])
    simp only [packLow, List.foldr_cons, List.foldr_nil] at h1 h2
    omega
  have := unpack_packLow B _ hlt
  rw [length_genAuxN, packLow_genAuxN, ← genAux_mod n 3 (by omega)] at this
  simpa [genPoly, packLow, Nat.add_comm] using this.symm

/-- certificate by evaluation: for every level 0..8 the table `correctionFactors[level]` followed by 1 consists
    of the digits of the product, base 1024^n for n = 2^(level+1) factors -/
theorem factors_cert : ∀ k < 9, factorsOf k ++ [1] =
    unpack (1024 ^ 2 ^ (k + 1)) (2 ^ (k + 1) + 1) (genPacked (1024 ^ 2 ^ (k + 1)) (2 ^ (k + 1)) 3 1) := by
  decide +kernel

/-- the factor tables are the generator polynomials: for every level 0..8, factors ++ [1] =
    ∏_{i=1}^{2^(level+1)} (x − 3^i), lowest degree first (the order in which `Compute` indexes the table) -/
theorem factors_eq_genPoly (level : Nat) (h : level ≤ 8) :
    factorsOf level ++ [1] = genPoly (2 ^ (level + 1)) := by
  rw [factors_cert level (by omega)]
  exact (genPoly_eq_unpack _ _ (Nat.pow_lt_pow_left (by decide) (Nat.two_pow_pos _).ne')).symm

section generic
variable {R : Type} [CommRing R] [CharP R 929]

theorem evalLowZ_mulLinAux (r prev : Nat) (p : List Nat) (y : R) :
    evalLowZ (mulLinAux r prev p) y = (prev : R) + (y - (r : R)) * evalLowZ p y := by
  induction p generalizing prev with
  | nil => simp [mulLinAux, evalLowZ]
  | cons b rest ih =>
    simp only [mulLinAux, evalLowZ, List.foldr_cons] at ih ⊢
    rw [ih, cast_sub_mod]
    push_cast
    ring

/-- multiplication by a linear factor, as evaluation -/
theorem evalLowZ_mulLin (p : List Nat) (r : Nat) (y : R) :
    evalLowZ (mulLin p r) y = evalLowZ p y * (y - (r : R)) := by
  rw [mulLin, evalLowZ_mulLinAux]
  push_cast
  ring

theorem genAux_zero (n r : Nat) (p : List Nat) (y : R) (h : evalLowZ p y = 0) :
    evalLowZ (genAux n r p) y = 0 := by
  induction n generalizing r p with
  | zero => exact h
  | succ n ih => exact ih _ _ (by rw [evalLowZ_mulLin, h]; ring)

theorem genAux_root (n r : Nat) (p : List Nat) (j : Nat) (hj : j < n) :
    evalLowZ (genAux n r p) ((r : R) * 3 ^ j) = 0 := by
  induction n generalizing r p j with
  | zero => omega
  | succ n ih =>
    simp only [genAux]
    rcases j with _ | j
    · apply genAux_zero
      rw [evalLowZ_mulLin]
      ring
    · have := ih (r * 3 % 929) (mulLin p r) j (by omega)
      rw [cast_mod929] at this
      push_cast at this
      rw [show (r : R) * 3 ^ (j + 1) = (r : R) * 3 * 3 ^ j by ring]
      exact this

/-- by its product form, g_n vanishes at 3^1 … 3^n -/
theorem genPoly_root (n i : Nat) (hi : i < n) : evalLowZ (genPoly n) ((3 : R) ^ (i + 1)) = 0 := by
  have := genAux_root (R := R) n 3 [1] i hi
  rw [show ((3 : Nat) : R) * 3 ^ i = (3 : R) ^ (i + 1) by push_cast; ring] at this
  exact this

theorem evalZ_zipWith_sub (t : Nat) (y : R) : ∀ (A B : List Nat), A.length = B.length →
    evalZ (List.zipWith (fun a b => (a + 929 - (t * b) % 929) % 929) A B) y =
      evalZ A y - (t : R) * evalZ B y
  | [], [], _ => by simp [evalZ_nil]
  | a :: A, b :: B, h => by
    have hl : A.length = B.length := by simpa using h
    simp only [List.zipWith_cons_cons, evalZ_cons, List.length_zipWith]
    rw [evalZ_zipWith_sub t y A B hl, cast_sub_mod]
    simp only [hl, Nat.min_self]
    push_cast
    ring
  | [], _ :: _, h => by simp at h
  | _ :: _, [], h => by simp at h

/-- the value at `y` of the monic polynomial g(x) = x^n + Σ f_i x^i -/
def gEval (f : List Nat) (y : R) : R := y ^ f.length + evalLowZ f y

/-- one LFSR round as polynomial arithmetic: T' = T·x + v·x^n − temp·g, temp = v + leading coefficient of T -/
theorem lfsrStep_eval (f reg : List Nat) (v : Nat) (y : R) (h : f.length = reg.length) (hpos : 0 < reg.length) :
    evalZ (lfsrStep f reg v) y =
      evalZ reg y * y + (v : R) * y ^ f.length - (((v + reg.headD 0) % 929 : Nat) : R) * gEval f y := by
  obtain ⟨r0, tail, rfl⟩ : ∃ r0 tail, reg = r0 :: tail := by
    cases reg with
    | nil => simp at hpos
    | cons a b => exact ⟨a, b, rfl⟩
  have hl : (tail ++ [0]).length = f.reverse.length := by simp [h]
  unfold lfsrStep
  simp only [List.tail_cons, List.headD_cons]
  rw [evalZ_zipWith_sub _ y _ _ hl, evalZ_append, evalZ_reverse, evalZ_cons, gEval, cast_mod929]
  have hf : f.length = tail.length + 1 := by simpa using h
  simp only [List.length_singleton, evalZ_cons, evalZ_nil, List.length_nil, hf]
  push_cast
  ring

end generic

/-- the state of the division: register (remainder) and the quotient digits produced so far -/
def lfsrQ (f : List Nat) (st : List Nat × List Nat) (v : Nat) : List Nat × List Nat :=
  (lfsrStep f st.1 v, st.2 ++ [(v + st.1.headD 0) % 929])

theorem lfsrQ_fst (f : List Nat) (data : List Nat) : ∀ (st : List Nat × List Nat),
    (data.foldl (lfsrQ f) st).1 = data.foldl (lfsrStep f) st.1 := by
  induction data with
  | nil => intro st; rfl
  | cons v rest ih => intro st; simp only [List.foldl_cons]; rw [ih]; rfl

section generic
variable {R : Type} [CommRing R] [CharP R 929]

/-- the invariant of the LFSR: dividing `pre ++ data` continues the division of `pre`: if
    pre(x)·x^n = q(x)·g(x) + reg(x) then (pre ++ data)(x)·x^n = q'(x)·g(x) + reg'(x) for the new state. Holds in
    every commutative ring of characteristic 929, in particular as an identity of polynomials. -/
theorem lfsrQ_inv (f : List Nat) (y : R) (data : List Nat) : ∀ (pre : List Nat) (st : List Nat × List Nat),
    f.length = st.1.length → 0 < st.1.length →
    evalZ pre y * y ^ f.length = evalZ st.2 y * gEval f y + evalZ st.1 y →
    evalZ (pre ++ data) y * y ^ f.length =
      evalZ (data.foldl (lfsrQ f) st).2 y * gEval f y + evalZ (data.foldl (lfsrQ f) st).1 y := by
  induction data with
  | nil => intro pre st _ _ h; simpa using h
  | cons v rest ih =>
    intro pre st hlen hpos h
    simp only [List.foldl_cons]
    have := ih (pre ++ [v]) (lfsrQ f st v)
      (by simp only [lfsrQ]; rw [lfsrStep_length f st.1 v hlen hpos]; exact hlen)
      (by simp only [lfsrQ]; rw [lfsrStep_length f st.1 v hlen hpos]; exact hpos)
      (by
        simp only [lfsrQ]
        rw [lfsrStep_eval f st.1 v y hlen hpos, evalZ_append, evalZ_append]
        simp only [List.length_singleton, evalZ_cons, evalZ_nil, List.length_nil]
        have h' : evalZ pre y * y ^ f.length = evalZ st.2 y * gEval f y + evalZ st.1 y := h
        calc (evalZ pre y * y ^ 1 + ((v : R) * y ^ 0 + 0)) * y ^ f.length
            = (evalZ pre y * y ^ f.length) * y + (v : R) * y ^ f.length := by ring
          _ = _ := by rw [h']; ring)
    simpa using this

omit [CharP R 929] in
theorem evalZ_replicate_zero (n : Nat) (y : R) : evalZ (List.replicate n 0) y = 0 := by
  induction n with
  | zero => rfl
  | succ n ih => rw [List.replicate_succ, evalZ_cons, ih]; simp

theorem evalZ_neg (reg : List Nat) (y : R) (h : ∀ x ∈ reg, x < 929) :
    evalZ (reg.map (fun word => if word > 0 then 929 - word else word)) y = - evalZ reg y := by
  induction reg with
  | nil => simp [evalZ_nil]
  | cons a rest ih =>
    rw [List.map_cons, evalZ_cons, evalZ_cons, ih (fun x hx => h x (List.mem_cons_of_mem _ hx)), List.length_map]
    have ha := h a List.mem_cons_self
    have : (((if a > 0 then 929 - a else a : Nat)) : R) = - (a : R) := by
      split
      · rw [Nat.cast_sub (by omega)]; push_cast; rw [c929]; ring
      · have : a = 0 := by omega
        subst this; simp
    rw [this]; ring

omit [CharP R 929] in
theorem evalLowZ_append_one (f : List Nat) (y : R) : evalLowZ (f ++ [1]) y = gEval f y := by
  unfold gEval
  induction f with
  | nil => simp [evalLowZ]
  | cons a rest ih =>
    simp only [evalLowZ, List.cons_append, List.foldr_cons, List.length_cons] at ih ⊢
    rw [ih]; ring

/-- the division identity: with q the quotient digits and T the final register of the LFSR,
    data(y)·y^n = q(y)·g(y) + T(y) in every commutative ring of characteristic 929 (for `R = (ZMod 929)[X]`,
    `y = X` this says: T is the remainder of data(x)·x^n modulo the monic g, since T has n coefficients), and
    the check words are −T -/
theorem compute_division (level : Nat) (h : level ≤ 8) (data : List Nat) (y : R) :
    ∃ q T : List Nat, T.length = 2 ^ (level + 1) ∧ (∀ x ∈ T, x < 929) ∧
      checkWords level data = T.map (fun word => if word > 0 then 929 - word else word) ∧
      evalZ data y * y ^ (2 ^ (level + 1)) = evalZ q y * gEval (factorsOf level) y + evalZ T y ∧
      evalZ (checkWords level data) y = - evalZ T y := by
  have hpos : 0 < 2 ^ (level + 1) := Nat.pow_pos (by omega)
  have hfl := factorsOf_length level h
  have hinv := lfsrQ_inv (factorsOf level) y data [] (List.replicate (2 ^ (level + 1)) 0, [])
    (by simp [hfl]) (by simp) (by simp [evalZ_nil, evalZ_replicate_zero])
  rw [lfsrQ_fst, List.nil_append, hfl] at hinv
  have hlt := foldl_lfsrStep_lt (factorsOf level) data (List.replicate (2 ^ (level + 1)) 0)
    (by intro x hx; rw [(List.mem_replicate.mp hx).2]; omega)
  refine ⟨_, _, ?_, hlt, rfl, hinv, evalZ_neg _ y hlt⟩
  rw [foldl_lfsrStep_length _ _ _ (by simp [hfl]) (by simp)]
  simp

/-- data followed by its check words vanishes wherever g does -/
theorem codeword_root (level : Nat) (h : level ≤ 8) (data : List Nat) (y : R)
    (hy : gEval (factorsOf level) y = 0) : evalZ (data ++ checkWords level data) y = 0 := by
  obtain ⟨q, T, _, _, _, hdiv, hneg⟩ := compute_division level h data y
  rw [evalZ_append, checkWords_length level h, hdiv, hneg, hy]
  ring

/-- g_level vanishes at 3^1 … 3^(2^(level+1)) (product form, `factors_eq_genPoly`) -/
theorem gEval_root (level : Nat) (h : level ≤ 8) (i : Nat) (hi : i < 2 ^ (level + 1)) :
    gEval (factorsOf level) ((3 : R) ^ (i + 1)) = 0 := by
  rw [← evalLowZ_append_one, factors_eq_genPoly level h]
  exact genPoly_root _ i hi

end generic

/-- data followed by its check words is a Reed–Solomon codeword in the sense of ISO/IEC 15438
    (`Spec.RS.valid929`: all words < 929, zero at 3^1 … 3^k) -/
theorem checkWords_valid (level : Nat) (h : level ≤ 8) (data : List Nat) (hd : ∀ d ∈ data, d < 929) :
    valid929 (2 ^ (level + 1)) (data ++ checkWords level data) = true := by
  unfold valid929
  rw [Bool.and_eq_true, List.all_eq_true, List.all_eq_true]
  constructor
  · intro i hi
    rw [List.mem_range] at hi
    rw [beq_iff_eq, evalMod_eq_zero_iff, powMod_cast]
    have := codeword_root (R := F) level h data ((3 : F) ^ (i + 1)) (gEval_root level h i hi)
    exact_mod_cast this
  · intro x hx
    rcases List.mem_append.mp hx with hx | hx
    · simpa using hd x hx
    · simpa using checkWords_lt level data x hx

end BV.Proofs.PdfRS
