/-
  QR: the version search (`findSmallestVersionInfo`), the padding (`addPaddingAndTerminator`) and the shape of the data
  bit stream the mode encoders return (`StreamSpec`).  The three mode encoders are instances of one shape
  (`encodeWith`: version search, header, payload, padding); their payload loops are given in closed form
  (`numericChunks_step`, `alphaPairs_eq`), which the length, acceptance and round-trip proofs start from.
-/
import BV.Proofs.QrTables
import BV.Proofs.Bits
namespace BV.Proofs.QrStreamA
open BV BV.Model BV.Model.Qr BV.Gen.Qr BV.Proofs.QrTables BV.Proofs.Bits

/-- row `vi` can hold `dataBits` payload bits in mode `mode`: mode indicator (4) + character count + payload
    do not exceed the data capacity -/
def Fits (mode dataBits : Nat) (vi : VersionInfo) : Prop :=
  dataBits + 4 + vi.charCountBits mode ≤ 8 * vi.totalDataBytes

instance (mode dataBits : Nat) (vi : VersionInfo) : Decidable (Fits mode dataBits vi) := by
  unfold Fits; infer_instance

theorem findSmallest_pred (ecl mode dataBits : Nat) (vi : VersionInfo) :
    ((vi.level == ecl && decide (vi.totalDataBytes * 8 ≥ dataBits + 4 + vi.charCountBits mode)) = true) ↔
      (vi.level = ecl ∧ Fits mode dataBits vi) := by
  unfold Fits
  simp only [Bool.and_eq_true, beq_iff_eq, decide_eq_true_eq]
  constructor
  · rintro ⟨a, b⟩; exact ⟨a, by omega⟩
  · rintro ⟨a, b⟩; exact ⟨a, by omega⟩

theorem findSmallest_fits {ecl mode dataBits : Nat} {vi : VersionInfo}
    (h : findSmallestVersionInfo ecl mode dataBits = some vi) :
    vi ∈ versionInfos ∧ vi.level = ecl ∧ Fits mode dataBits vi := by
  unfold findSmallestVersionInfo at h
  have hm := List.mem_of_find?_eq_some h
  have hp := List.find?_some h
  exact ⟨hm, (findSmallest_pred ecl mode dataBits vi).mp hp⟩

/-- property C13 for QR: no row of the same level with a smaller version fits (the table is sorted by version) -/
theorem findSmallest_minimal {ecl mode dataBits : Nat} {vi : VersionInfo}
    (h : findSmallestVersionInfo ecl mode dataBits = some vi) :
    ∀ vi', vi' ∈ versionInfos → vi'.level = ecl → vi'.version < vi.version → ¬ Fits mode dataBits vi' := by
  unfold findSmallestVersionInfo at h
  obtain ⟨_, as, bs, e, hall⟩ := List.find?_eq_some_iff_append.mp h
  intro vi' hmem hl hv hf
  have hs := versionInfos_sorted
  rw [e] at hmem hs
  rcases List.mem_append.mp hmem with h1 | h2
  · have := hall vi' h1
    rw [Bool.not_eq_true', ← Bool.not_eq_true, findSmallest_pred] at this
    exact this ⟨hl, hf⟩
  · rcases List.mem_cons.mp h2 with rfl | h3
    · omega
    · have := (List.pairwise_append.mp hs).2.1
      have := List.rel_of_pairwise_cons this h3
      omega

theorem findSmallest_none_iff (ecl mode dataBits : Nat) :
    findSmallestVersionInfo ecl mode dataBits = none ↔
      ∀ vi, vi ∈ versionInfos → vi.level = ecl → ¬ Fits mode dataBits vi := by
  unfold findSmallestVersionInfo
  rw [List.find?_eq_none]
  constructor
  · intro h vi hm hl hf
    exact h vi hm ((findSmallest_pred ecl mode dataBits vi).mpr ⟨hl, hf⟩)
  · intro h vi hm hp
    obtain ⟨hl, hf⟩ := (findSmallest_pred ecl mode dataBits vi).mp hp
    exact h vi hm hl hf

theorem findSmallest_none_of_level (ecl mode dataBits : Nat) (h : 4 ≤ ecl) :
    findSmallestVersionInfo ecl mode dataBits = none := by
  rw [findSmallest_none_iff]
  intro vi hm hl
  have := (mem_versionInfos_range hm).2.2
  omega

theorem findSmallest_isSome_iff (ecl mode dataBits : Nat) :
    (findSmallestVersionInfo ecl mode dataBits).isSome = true ↔
      ∃ vi, vi ∈ versionInfos ∧ vi.level = ecl ∧ Fits mode dataBits vi := by
  constructor
  · intro h
    obtain ⟨vi, hvi⟩ := Option.isSome_iff_exists.mp h
    exact ⟨vi, findSmallest_fits hvi⟩
  · rintro ⟨vi, hm, hl, hf⟩
    cases hr : findSmallestVersionInfo ecl mode dataBits with
    | some _ => rfl
    | none => exact absurd hf ((findSmallest_none_iff ecl mode dataBits).mp hr vi hm hl)

theorem terminatorBits_eq (k len cap : Nat) :
    terminatorBits k len cap = List.replicate (min k (cap - len)) false := by
  induction k generalizing len with
  | zero => simp [terminatorBits]
  | succ k ih =>
    unfold terminatorBits
    by_cases h : len < cap
    · rw [if_pos h, ih]
      have : min (k + 1) (cap - len) = min k (cap - (len + 1)) + 1 := by omega
      rw [this, List.replicate_succ]
    · rw [if_neg h]
      have : min (k + 1) (cap - len) = 0 := by omega
      rw [this]; rfl

/-- number of terminator bits for a stream of `len` bits in a symbol of `cap` bits -/
def termLen (len cap : Nat) : Nat := min 4 (cap - len)
/-- number of zero bits up to the next codeword boundary -/
def alignLen (len : Nat) : Nat := (8 - len % 8) % 8

theorem alignLen_lt (l : Nat) : alignLen l < 8 := Nat.mod_lt _ (by decide)

theorem alignLen_succ {l : Nat} (h : l % 8 ≠ 0) : alignLen l = alignLen (l + 1) + 1 := by unfold alignLen; omega

theorem add_alignLen (l : Nat) : l + alignLen l = (l + 7) / 8 * 8 := by unfold alignLen; omega

theorem div_sub_alignLen (T l : Nat) : (8 * T - (l + alignLen l)) / 8 = (8 * T - l) / 8 := by
  unfold alignLen; omega

theorem alignBits_eq (k len : Nat) : alignBits k len = List.replicate (min k (alignLen len)) false := by
  induction k generalizing len with
  | zero => simp [alignBits]
  | succ k ih =>
    unfold alignBits
    by_cases h : len % 8 = 0
    · simp [h, alignLen]
    · rw [alignLen_succ h, Nat.succ_min_succ, List.replicate_succ, ← ih]
      simp [h]

/-- `n` pad codewords, starting with 236 when `i` is even -/
def padSeq (n i : Nat) : List Bool :=
  (List.range n).flatMap (fun j => msbBits (if (i + j) % 2 == 0 then 236 else 17) 8)

theorem padSeq_succ (n i : Nat) :
    padSeq (n + 1) i = msbBits (if i % 2 == 0 then 236 else 17) 8 ++ padSeq n (i + 1) := by
  unfold padSeq
  rw [List.range_succ_eq_map, List.flatMap_cons, List.flatMap_map]
  congr 2
  funext j
  rw [show i + j.succ = i + 1 + j by omega]

theorem length_padSeq (n i : Nat) : (padSeq n i).length = 8 * n := by
  induction n generalizing i with
  | zero => rfl
  | succ n ih => rw [padSeq_succ, List.length_append, length_msbBits, ih]; omega

theorem padBytes_eq (k i len cap : Nat) :
    padBytes k i len cap = padSeq (min k ((cap - len + 7) / 8)) i := by
  induction k generalizing i len with
  | zero => simp [padBytes, padSeq]
  | succ k ih =>
    unfold padBytes
    by_cases h : len < cap
    · rw [if_pos h, ih]
      have : min (k + 1) ((cap - len + 7) / 8) = min k ((cap - (len + 8) + 7) / 8) + 1 := by omega
      rw [this, padSeq_succ]
    · rw [if_neg h]
      have : min (k + 1) ((cap - len + 7) / 8) = 0 := by omega
      rw [this]; rfl

/-- the stream after `addPaddingAndTerminator`: the input, at most four 0 bits (fewer only if the capacity is
    reached), 0 bits up to a codeword boundary, then the pad codewords 236, 17, 236, … up to the capacity -/
def padded (bl : List Bool) (cap : Nat) : List Bool :=
  let t := termLen bl.length cap
  let a := alignLen (bl.length + t)
  bl ++ (List.replicate t false ++ (List.replicate a false ++ padSeq ((cap - (bl.length + t + a)) / 8) 0))

/-- `addPaddingAndTerminator` in closed form; also for an input above the capacity, to which nothing is added -/
theorem addPaddingAndTerminator_padded (bl : List Bool) (vi : VersionInfo) :
    addPaddingAndTerminator bl vi = padded bl (8 * vi.totalDataBytes) := by
  unfold addPaddingAndTerminator padded termLen
  simp only [terminatorBits_eq, alignBits_eq, padBytes_eq, List.length_replicate]
  rw [Nat.mul_comm vi.totalDataBytes 8]
  generalize vi.totalDataBytes = T
  -- only the position `l` reached after the terminator matters for the two remaining counts
  generalize bl.length + min 4 (8 * T - bl.length) = l
  have e3 : min (8 * T) ((8 * T - (l + alignLen l) + 7) / 8) = (8 * T - (l + alignLen l)) / 8 := by
    rw [add_alignLen]; omega
  rw [Nat.min_eq_right (Nat.le_of_lt (alignLen_lt l)), e3]

theorem length_padded (bl : List Bool) (T : Nat) (h : bl.length ≤ 8 * T) :
    (padded bl (8 * T)).length = 8 * T := by
  unfold padded termLen alignLen
  simp only [List.length_append, List.length_replicate, length_padSeq]
  generalize bl.length = n at *
  omega

theorem padded_tail (bl : List Bool) (cap : Nat) :
    ∃ tail, padded bl cap = bl ++ tail ∧
      (4 ≤ cap - bl.length → ∃ tail', tail = List.replicate 4 false ++ tail') := by
  refine ⟨_, rfl, fun h4 => ?_⟩
  rw [show termLen bl.length cap = 4 by unfold termLen; omega]
  exact ⟨_, rfl⟩

theorem length_addPaddingAndTerminator (bl : List Bool) (vi : VersionInfo)
    (h : bl.length ≤ 8 * vi.totalDataBytes) :
    (addPaddingAndTerminator bl vi).length = 8 * vi.totalDataBytes := by
  rw [addPaddingAndTerminator_padded, length_padded bl _ h]


/-- payload bits of `n` digits: 10 per group of three, 4 / 7 for a final group of one / two -/
def numericBits (n : Nat) : Nat := 10 * (n / 3) + (if n % 3 = 1 then 4 else if n % 3 = 2 then 7 else 0)
/-- payload bits of `n` alphanumeric characters: 11 per pair, 6 for a final single one -/
def alnumBits (n : Nat) : Nat := 11 * (n / 2) + 6 * (n % 2)
/-- payload bits of `n` bytes -/
def byteBits (n : Nat) : Nat := 8 * n

/-- the header the encoders write: mode indicator and character count -/
def header (mode n : Nat) (vi : VersionInfo) : List Bool :=
  msbBits mode 4 ++ msbBits n (vi.charCountBits mode)

theorem length_header (mode n : Nat) (vi : VersionInfo) :
    (header mode n vi).length = 4 + vi.charCountBits mode := by
  simp [header]

/-- what the three mode encoders have in common: the version search for `pb` payload bits, then header,
    payload, padding; `payload = none` is the error return of the payload loop -/
def encodeWith (mode pb n ecl : Nat) (payload : Option (List Bool)) : Option (List Bool × VersionInfo) :=
  match findSmallestVersionInfo ecl mode pb with
  | none => none
  | some vi =>
    match payload with
    | none => none
    | some p => some (addPaddingAndTerminator (header mode n vi ++ p) vi, vi)

theorem encodeWith_eq_some {mode pb n ecl : Nat} {payload : Option (List Bool)} {bits : List Bool}
    {vi : VersionInfo} :
    encodeWith mode pb n ecl payload = some (bits, vi) ↔
      findSmallestVersionInfo ecl mode pb = some vi ∧
      ∃ p, payload = some p ∧ bits = addPaddingAndTerminator (header mode n vi ++ p) vi := by
  unfold encodeWith
  cases findSmallestVersionInfo ecl mode pb <;> cases payload <;> simp only [Option.some.injEq, Prod.mk.injEq,
    reduceCtorEq, false_and, exists_false, and_false, exists_eq_left']
  exact ⟨fun ⟨hb, hv⟩ => ⟨hv, hv ▸ hb.symm⟩, fun ⟨hv, hb⟩ => ⟨hv ▸ hb.symm, hv⟩⟩

theorem encodeWith_none_of_level (mode pb n : Nat) {ecl : Nat} (h : 4 ≤ ecl) (payload : Option (List Bool)) :
    encodeWith mode pb n ecl payload = none := by
  unfold encodeWith
  rw [findSmallest_none_of_level ecl mode pb h]

theorem encodeWith_isSome (mode pb n ecl : Nat) (payload : Option (List Bool)) :
    (encodeWith mode pb n ecl payload).isSome = true ↔
      payload.isSome = true ∧ (findSmallestVersionInfo ecl mode pb).isSome = true := by
  unfold encodeWith
  cases findSmallestVersionInfo ecl mode pb <;> cases payload <;> simp

/-- the payload `encodeAlphaNumeric` writes for a content of `n` bytes whose indices arrive on the channel `ch`:
    `n / 2` pairs and, for odd `n`, one more character in 6 bits; `none` = the error return -/
def alnumSeg (n : Nat) (ch : List Int) : Option (List Bool) :=
  match alphaPairs (n / 2) ch with
  | none => none
  | some (pairs, rest) =>
    if n % 2 = 1 then
      if (recv rest).1 < 0 then none else some (pairs ++ msbBits (recv rest).1.toNat 6)
    else some pairs

theorem encodeNumeric_eq (content : Bytes) (ecl : Nat) :
    encodeNumeric content ecl =
      encodeWith 1 (numericBits content.length) content.length ecl (numericChunks content.length content) := by
  unfold encodeNumeric numericBits encodeWith header c_numericMode
  have h : content.length % 3 = 0 ∨ content.length % 3 = 1 ∨ content.length % 3 = 2 := by omega
  rw [Nat.mul_comm 10]
  rcases h with h | h | h <;> simp only [h, Nat.reduceEqDiff, reduceIte, Nat.add_zero] <;> rfl

theorem encodeAlphaNumeric_eq (content : Bytes) (ecl : Nat) :
    encodeAlphaNumeric content ecl =
      encodeWith 2 (alnumBits content.length) content.length ecl
        (alnumSeg content.length (stringToAlphaIdx content)) := by
  have hb : (if (content.length % 2 == 1) = true then content.length / 2 * 11 + 6 else content.length / 2 * 11) =
      alnumBits content.length := by
    unfold alnumBits
    rcases (by omega : content.length % 2 = 0 ∨ content.length % 2 = 1) with h | h <;> simp [h] <;> omega
  unfold encodeAlphaNumeric encodeWith alnumSeg header c_alphaNumericMode
  simp only [hb]
  cases findSmallestVersionInfo ecl 2 (alnumBits content.length) with
  | none => rfl
  | some vi =>
    cases alphaPairs (content.length / 2) (stringToAlphaIdx content) with
    | none => rfl
    | some r =>
      by_cases ho : content.length % 2 = 1
      · by_cases hn : (recv r.2).1 < 0 <;> simp [ho, hn]
      · simp [ho]

theorem encodeUnicode_eq (content : Bytes) (ecl : Nat) :
    encodeUnicode content ecl =
      encodeWith 4 (byteBits content.length) content.length ecl
        (some (content.flatMap (fun b => msbBits b.toNat 8))) := by
  unfold encodeUnicode byteBits encodeWith header c_byteMode
  rw [Nat.mul_comm]
  rfl

theorem length_flatMap_of_const {α β} (l : List α) (f : α → List β) (k : Nat) (h : ∀ a, (f a).length = k) :
    (l.flatMap f).length = k * l.length := by
  induction l with
  | nil => rfl
  | cons a l ih => rw [List.flatMap_cons, List.length_append, h, ih, List.length_cons, Nat.mul_succ, Nat.add_comm]

theorem foldl_cast (s : Bytes) (n : Nat) :
    s.foldl (fun (a : Int) b => a * 10 + ((b.toNat - 48 : Nat) : Int)) (n : Int) =
      ((s.foldl (fun a b => a * 10 + (b.toNat - 48)) n : Nat) : Int) := by
  induction s generalizing n with
  | nil => rfl
  | cons b s ih =>
    simp only [List.foldl_cons]
    rw [← ih]
    congr 1

theorem atoi_nosign (x : UInt8) (rest : Bytes) (h43 : x ≠ 43) (h45 : x ≠ 45) :
    atoi (x :: rest) = if ∀ b ∈ x :: rest, 48 ≤ b.toNat ∧ b.toNat ≤ 57 then
      some (((x :: rest).foldl (fun a b => a * 10 + (b.toNat - 48)) 0 : Nat) : Int) else none := by
  have e43 : (x == 43) = false := by simpa using h43
  have e45 : (x == 45) = false := by simpa using h45
  simp only [atoi, e43, e45, Bool.or_false, Bool.false_eq_true, if_false, List.isEmpty_cons, List.all_eq_true,
    Bool.and_eq_true, decide_eq_true_eq]
  rw [← foldl_cast]
  rfl

/-- one iteration of the chunk loop of `encodeNumeric`: the next (up to) three bytes must be digits — a sign,
    which `Atoi` would accept, is rejected by the encoder's own check — and are written as their decimal value in
    10, 7 or 4 bits -/
theorem numericChunks_step (fuel : Nat) (s : Bytes) (hs : s ≠ []) :
    numericChunks (fuel + 1) s =
      if ∀ b ∈ s.take 3, 48 ≤ b.toNat ∧ b.toNat ≤ 57 then
        (numericChunks fuel (s.drop 3)).map
          (msbBits ((s.take 3).foldl (fun a b => a * 10 + (b.toNat - 48)) 0) (numericBits (s.take 3).length) ++ ·)
      else none := by
  obtain ⟨x, r, hc⟩ : ∃ x r, s.take 3 = x :: r := by
    obtain ⟨x, s', rfl⟩ := List.exists_cons_of_ne_nil hs
    exact ⟨x, _, rfl⟩
  have hk : r.length = 0 ∨ r.length = 1 ∨ r.length = 2 := by
    have := congrArg List.length hc
    simp only [List.length_take, List.length_cons] at this; omega
  rw [numericChunks, if_neg (by simpa using hs)]
  simp only [hc, List.head?_cons]
  by_cases hsign : x = 43 ∨ x = 45
  · have hx : ¬ (48 ≤ x.toNat ∧ x.toNat ≤ 57) := by rcases hsign with rfl | rfl <;> decide
    rw [if_neg (fun h => hx (h x List.mem_cons_self))]
    cases atoi (x :: r) with
    | none => rfl
    | some i => rcases hsign with rfl | rfl <;> simp
  · have h43 : x ≠ 43 := fun e => hsign (Or.inl e)
    have h45 : x ≠ 45 := fun e => hsign (Or.inr e)
    rw [atoi_nosign x r h43 h45]
    by_cases hd : ∀ b ∈ x :: r, 48 ≤ b.toNat ∧ b.toNat ≤ 57
    · have e : ∀ n : Nat, (decide ((n : Int) < 0) || some x == some 43 || some x == some 45) = false := by
        intro n; simp [h43, h45]
      simp only [if_pos hd, e, Bool.false_eq_true, if_false, Int.toNat_natCast]
      cases numericChunks fuel (s.drop 3) with
      | none => rfl
      | some rest => rcases hk with h | h | h <;> simp only [List.length_cons, h] <;> rfl
    · simp only [if_neg hd]

theorem numericBits_step (n : Nat) (h : 0 < n) : numericBits n = numericBits (min 3 n) + numericBits (n - 3) := by
  unfold numericBits
  by_cases h3 : 3 ≤ n
  · have e1 : n / 3 = (n - 3) / 3 + 1 := by omega
    have e2 : n % 3 = (n - 3) % 3 := by omega
    rw [e1, e2, Nat.min_eq_left h3]
    show _ = 10 * 1 + 0 + _
    omega
  · have : n = 1 ∨ n = 2 := by omega
    rcases this with rfl | rfl <;> rfl

theorem length_numericChunks (fuel : Nat) (s : Bytes) (chunks : List Bool)
    (h : numericChunks fuel s = some chunks) (hf : s.length ≤ fuel) :
    chunks.length = numericBits s.length := by
  induction fuel generalizing s chunks with
  | zero =>
    have : s = [] := List.eq_nil_of_length_eq_zero (by omega)
    subst this
    cases h; rfl
  | succ fuel ih =>
    by_cases hs : s = []
    · subst hs; cases h; rfl
    · rw [numericChunks_step fuel s hs] at h
      split at h
      · obtain ⟨rest, hr, rfl⟩ := Option.map_eq_some_iff.mp h
        have hpos : 0 < s.length := List.length_pos_iff.mpr hs
        rw [List.length_append, length_msbBits, ih _ _ hr (by rw [List.length_drop]; omega), List.length_take,
          List.length_drop, ← numericBits_step _ hpos]
      · cases h

theorem recv_eq (ch : List Int) : recv ch = (ch.getD 0 0, ch.drop 1) := by
  cases ch <;> rfl

theorem getD_drop (ch : List Int) (k i : Nat) : (ch.drop k).getD i 0 = ch.getD (k + i) 0 := by
  simp only [List.getD_eq_getElem?_getD, List.getElem?_drop]

/-- the 11 bits of the `k`-th pair received from the channel `ch` (a closed channel yields 0) -/
def pairAt (ch : List Int) (k : Nat) : List Bool :=
  msbBits (ch.getD (2 * k) 0 * 45 + ch.getD (2 * k + 1) 0).toNat 11

theorem pairAt_succ (ch : List Int) (k : Nat) : pairAt ch (k + 1) = pairAt (ch.drop 2) k := by
  unfold pairAt
  rw [getD_drop, getD_drop, show 2 + 2 * k = 2 * (k + 1) by omega,
    show 2 + (2 * k + 1) = 2 * (k + 1) + 1 by omega]

theorem alphaPairs_eq (n : Nat) (ch : List Int) :
    alphaPairs n ch =
      if ∀ i, i < 2 * n → 0 ≤ ch.getD i 0 then some ((List.range n).flatMap (pairAt ch), ch.drop (2 * n))
      else none := by
  induction n generalizing ch with
  | zero => simp [alphaPairs]
  | succ n ih =>
    have hall : (∀ i, i < 2 * (n + 1) → 0 ≤ ch.getD i 0) ↔
        (0 ≤ ch.getD 0 0 ∧ 0 ≤ ch.getD 1 0) ∧ ∀ i, i < 2 * n → 0 ≤ (ch.drop 2).getD i 0 := by
      simp only [getD_drop]
      constructor
      · exact fun h => ⟨⟨h 0 (by omega), h 1 (by omega)⟩, fun i hi => h (2 + i) (by omega)⟩
      · rintro ⟨⟨h0, h1⟩, h2⟩ i hi
        rcases (by omega : i = 0 ∨ i = 1 ∨ i = 2 + (i - 2)) with rfl | rfl | e
        · exact h0
        · exact h1
        · rw [e]; exact h2 (i - 2) (by omega)
    have e1 : (ch.drop 1).getD 0 0 = ch.getD 1 0 := getD_drop ch 1 0
    rw [alphaPairs]
    simp only [recv_eq, List.drop_drop, ih, List.range_succ_eq_map, List.flatMap_cons,
      List.flatMap_map, pairAt_succ]
    rw [e1, show 1 + 1 + 2 * n = 2 * (n + 1) by omega]
    simp only [hall]
    by_cases h01 : 0 ≤ ch.getD 0 0 ∧ 0 ≤ ch.getD 1 0
    · rw [if_neg (by simp only [Bool.or_eq_true, decide_eq_true_eq]; omega)]
      by_cases hr : ∀ i, i < 2 * n → 0 ≤ (ch.drop 2).getD i 0
      · rw [if_pos hr, if_pos ⟨h01, hr⟩]; rfl
      · rw [if_neg hr, if_neg (fun h => hr h.2)]
    · rw [if_pos (by simp only [Bool.or_eq_true, decide_eq_true_eq]; omega), if_neg (fun h => h01 h.1)]

theorem alnumSeg_eq (n : Nat) (ch : List Int) :
    alnumSeg n ch =
      if ∀ i, i < n → 0 ≤ ch.getD i 0 then
        some ((List.range (n / 2)).flatMap (pairAt ch) ++
          if n % 2 = 1 then msbBits (ch.getD (2 * (n / 2)) 0).toNat 6 else [])
      else none := by
  unfold alnumSeg
  rw [alphaPairs_eq]
  by_cases hp : ∀ i, i < 2 * (n / 2) → 0 ≤ ch.getD i 0
  · simp only [if_pos hp, recv_eq, getD_drop, Nat.add_zero]
    by_cases hodd : n % 2 = 1
    · simp only [if_pos hodd]
      by_cases hl : ch.getD (2 * (n / 2)) 0 < 0
      · rw [if_pos hl, if_neg (fun h => by have := h (2 * (n / 2)) (by omega); omega)]
      · rw [if_neg hl, if_pos (fun i hi => by
          rcases (by omega : i < 2 * (n / 2) ∨ i = 2 * (n / 2)) with h | rfl
          · exact hp i h
          · omega)]
    · simp only [if_neg hodd, List.append_nil]
      rw [if_pos (fun i hi => hp i (by omega))]
  · simp only [if_neg hp]
    rw [if_neg (fun h => hp (fun i hi => h i (by omega)))]

theorem length_alnumSeg {n : Nat} {ch : List Int} {p : List Bool} (h : alnumSeg n ch = some p) :
    p.length = alnumBits n := by
  rw [alnumSeg_eq] at h
  split at h
  · cases h
    rw [List.length_append, length_flatMap_of_const _ (pairAt ch) 11 (fun _ => length_msbBits _ _), List.length_range]
    unfold alnumBits
    split <;> simp <;> omega
  · cases h

theorem length_byteBits (data : Bytes) : (data.flatMap (fun b => msbBits b.toNat 8)).length = 8 * data.length :=
  length_flatMap_of_const _ _ 8 (fun _ => length_msbBits _ _)

theorem numericBits_ge (n : Nat) : 10 * n ≤ 3 * numericBits n := by
  unfold numericBits
  split
  · omega
  · split <;> omega

theorem alnumBits_ge (n : Nat) : 11 * n ≤ 2 * alnumBits n := by
  unfold alnumBits; omega

/-- What an encoder returns: `bits` is the complete data bit stream for the row `vi`.
    `mode` = mode indicator, `payloadBits` = number of payload bits for `content`. -/
structure StreamSpec (mode : Nat) (content : Bytes) (payloadBits : Nat) (ecl : Nat)
    (bits : List Bool) (vi : VersionInfo) : Prop where
  /-- `vi` is a row of the table … -/
  mem : vi ∈ versionInfos
  /-- … of the requested level … -/
  level : vi.level = ecl
  /-- … namely the one the version search returns for the payload size (hence the smallest that fits) -/
  found : findSmallestVersionInfo ecl mode payloadBits = some vi
  /-- the stream fills the data capacity exactly: `IterateBytes` yields `totalDataBytes` bytes -/
  length : bits.length = 8 * vi.totalDataBytes
  /-- mode indicator, character count, payload, terminator, bit padding, pad codewords -/
  shape : ∃ payload : List Bool, payload.length = payloadBits ∧
    bits = padded (header mode content.length vi ++ payload) (8 * vi.totalDataBytes)
  /-- the byte length fits into the character count field … -/
  count_lt : content.length < 2 ^ vi.charCountBits mode
  /-- … whose width is that of Table 3 -/
  width : vi.charCountBits mode = Spec.Qr.countBits vi.version mode

theorem StreamSpec.of_encodeWith {mode pb ecl : Nat} {content : Bytes} {payload : Option (List Bool)}
    {bits : List Bool} {vi : VersionInfo}
    (h : encodeWith mode pb content.length ecl payload = some (bits, vi))
    (hp : ∀ p, payload = some p → p.length = pb) (hm : mode ≠ 8)
    (hc : vi ∈ versionInfos → Fits mode pb vi → content.length < 2 ^ vi.charCountBits mode) :
    StreamSpec mode content pb ecl bits vi := by
  obtain ⟨hfind, p, hpay, rfl⟩ := encodeWith_eq_some.mp h
  obtain ⟨hmem, hl, hf⟩ := findSmallest_fits hfind
  have hlen : (header mode content.length vi ++ p).length ≤ 8 * vi.totalDataBytes := by
    rw [List.length_append, length_header, hp p hpay]
    unfold Fits at hf; omega
  exact
    { mem := hmem, level := hl, found := hfind,
      length := length_addPaddingAndTerminator _ _ hlen,
      shape := ⟨p, hp p hpay, addPaddingAndTerminator_padded _ _⟩,
      count_lt := hc hmem hf,
      width := charCountBits_eq vi mode hm }

/-- the stream starts with the 4-bit mode indicator followed by the character count, which reads back as the
    byte length of the content -/
theorem StreamSpec.prefix {mode : Nat} {content : Bytes} {payloadBits ecl : Nat} {bits : List Bool}
    {vi : VersionInfo} (h : StreamSpec mode content payloadBits ecl bits vi) :
    ∃ rest, bits = msbBits mode 4 ++ (msbBits content.length (Spec.Qr.countBits vi.version mode) ++ rest) ∧
      bitsToNat (msbBits content.length (Spec.Qr.countBits vi.version mode)) = content.length := by
  obtain ⟨payload, _, hb⟩ := h.shape
  refine ⟨?_, ?_, ?_⟩
  rotate_left
  · rw [hb]; unfold padded header
    rw [h.width]
    simp only [List.append_assoc]
    rfl
  · rw [bitsToNat_msbBits, ← h.width]
    exact Nat.mod_eq_of_lt h.count_lt

/-- the count field can hold the byte length `n`: every byte takes at least `c / d` payload bits (`hn`), and `hrow`
    is the bound that `rowOk` checks for the mode -/
theorem count_lt_of_fits {mode pb : Nat} {vi : VersionInfo} (hf : Fits mode pb vi) (c d : Nat) {n : Nat}
    (hd : 0 < d) (hn : c * n ≤ d * pb) (hrow : d * (8 * vi.totalDataBytes) ≤ c * 2 ^ vi.charCountBits mode) :
    n < 2 ^ vi.charCountBits mode := by
  unfold Fits at hf
  have h : d * (pb + 1) ≤ d * (8 * vi.totalDataBytes) := Nat.mul_le_mul_left d (by omega)
  rw [Nat.mul_add, Nat.mul_one] at h
  exact Nat.lt_of_mul_lt_mul_left (a := c) (by omega)

theorem encodeNumeric_stream {content : Bytes} {ecl : Nat} {bits : List Bool} {vi : VersionInfo}
    (h : encodeNumeric content ecl = some (bits, vi)) :
    StreamSpec 1 content (numericBits content.length) ecl bits vi := by
  rw [encodeNumeric_eq] at h
  exact .of_encodeWith h (fun p hp => length_numericChunks _ _ _ hp (Nat.le_refl _)) (by decide) fun hmem hf =>
    count_lt_of_fits hf 10 3 (by decide) (numericBits_ge _) (Nat.le_of_lt (rowSide_of_mem hmem).2.2.1)

theorem encodeAlphaNumeric_stream {content : Bytes} {ecl : Nat} {bits : List Bool} {vi : VersionInfo}
    (h : encodeAlphaNumeric content ecl = some (bits, vi)) :
    StreamSpec 2 content (alnumBits content.length) ecl bits vi := by
  rw [encodeAlphaNumeric_eq] at h
  exact .of_encodeWith h (fun p hp => length_alnumSeg hp) (by decide) fun hmem hf =>
    count_lt_of_fits hf 11 2 (by decide) (alnumBits_ge _) (Nat.le_of_lt (rowSide_of_mem hmem).2.2.2.1)

theorem encodeUnicode_stream {content : Bytes} {ecl : Nat} {bits : List Bool} {vi : VersionInfo}
    (h : encodeUnicode content ecl = some (bits, vi)) :
    StreamSpec 4 content (byteBits content.length) ecl bits vi := by
  rw [encodeUnicode_eq] at h
  exact .of_encodeWith h (fun p hp => by cases hp; exact length_byteBits content) (by decide) fun hmem hf =>
    count_lt_of_fits hf 8 1 (by decide) (Nat.le_of_eq (Nat.one_mul _).symm)
      (Nat.one_mul _ ▸ Nat.mul_le_mul_left 8 (rowSide_of_mem hmem).2.2.2.2)

theorem encodeAuto_cases {content : Bytes} {ecl : Nat} {r : List Bool × VersionInfo}
    (h : encodeAuto content ecl = some r) :
    encodeNumeric content ecl = some r ∨
    (encodeNumeric content ecl = none ∧ encodeAlphaNumeric content ecl = some r) ∨
    (encodeNumeric content ecl = none ∧ encodeAlphaNumeric content ecl = none ∧
      encodeUnicode content ecl = some r) := by
  unfold encodeAuto at h
  cases h1 : encodeNumeric content ecl with
  | some r1 => rw [h1] at h; exact Or.inl h
  | none =>
    cases h2 : encodeAlphaNumeric content ecl with
    | some r2 => rw [h1, h2] at h; exact Or.inr (Or.inl ⟨rfl, h⟩)
    | none =>
      cases h3 : encodeUnicode content ecl with
      | some r3 => rw [h1, h2, h3] at h; exact Or.inr (Or.inr ⟨rfl, rfl, h⟩)
      | none => rw [h1, h2, h3] at h; cases h

theorem encodeAuto_eq (content : Bytes) (ecl : Nat) :
    encodeAuto content ecl =
      ((encodeNumeric content ecl).orElse fun _ =>
        (encodeAlphaNumeric content ecl).orElse fun _ => encodeUnicode content ecl) := by
  unfold encodeAuto
  cases encodeNumeric content ecl <;> cases encodeAlphaNumeric content ecl <;>
    cases encodeUnicode content ecl <;> rfl

theorem encodeAuto_stream {content : Bytes} {ecl : Nat} {bits : List Bool} {vi : VersionInfo}
    (h : encodeAuto content ecl = some (bits, vi)) :
    StreamSpec 1 content (numericBits content.length) ecl bits vi ∨
    StreamSpec 2 content (alnumBits content.length) ecl bits vi ∨
    StreamSpec 4 content (byteBits content.length) ecl bits vi := by
  rcases encodeAuto_cases h with h1 | ⟨_, h2⟩ | ⟨_, _, h3⟩
  · exact Or.inl (encodeNumeric_stream h1)
  · exact Or.inr (Or.inl (encodeAlphaNumeric_stream h2))
  · exact Or.inr (Or.inr (encodeUnicode_stream h3))

theorem encoder_cases {mode : Nat} {enc : EncodeFn} (hg : getEncoder mode = some enc) {content : Bytes}
    {ecl : Nat} {r : List Bool × VersionInfo} (h : enc content ecl = some r) :
    encodeNumeric content ecl = some r ∨ encodeAlphaNumeric content ecl = some r ∨
      encodeUnicode content ecl = some r := by
  unfold getEncoder at hg
  split at hg
  · cases hg
    rcases encodeAuto_cases h with h1 | ⟨_, h2⟩ | ⟨_, _, h3⟩
    · exact Or.inl h1
    · exact Or.inr (Or.inl h2)
    · exact Or.inr (Or.inr h3)
  · split at hg
    · cases hg; exact Or.inl h
    · split at hg
      · cases hg; exact Or.inr (Or.inl h)
      · split at hg
        · cases hg; exact Or.inr (Or.inr h)
        · cases hg

theorem encoder_result {mode : Nat} {enc : EncodeFn} (hg : getEncoder mode = some enc)
    {content : Bytes} {level : Nat} {bits : List Bool} {vi : VersionInfo}
    (h : enc content level = some (bits, vi)) :
    vi ∈ versionInfos ∧ vi.level = level ∧ bits.length = 8 * vi.totalDataBytes := by
  rcases encoder_cases hg h with h | h | h
  · have s := encodeNumeric_stream h; exact ⟨s.mem, s.level, s.length⟩
  · have s := encodeAlphaNumeric_stream h; exact ⟨s.mem, s.level, s.length⟩
  · have s := encodeUnicode_stream h; exact ⟨s.mem, s.level, s.length⟩

end BV.Proofs.QrStreamA
