/-
  BV.Proofs.QrChain — the round trip of the data bit stream: whatever a mode encoder of `Model.Qr` returns is
  read back by the reference parser `Spec.Qr.parseSegments` as one segment with exactly the content, a conformant
  terminator and pad codewords.  One theorem (`stream_parse`) for what the three encoders have in common; the
  modes differ in the payload and in the body parser that reads it back.
-/
import BV.Proofs.QrAlnum
import BV.Proofs.QrBlocks
namespace BV.Proofs.QrChain
open BV BV.Model.Qr BV.Spec.Qr BV.Proofs.Bits BV.Proofs.QrTables BV.Proofs.QrStreamA BV.Proofs.QrStream
open BV.Proofs.QrAccept BV.Proofs.QrAlnum BV.Proofs.QrBlocks
open BV.Gen.Qr

/-- the result `Spec.Qr.parseSegments` must give for a stream with one segment of mode `m` that uses `used` bits
    of the `cap` data bits: the content, a terminator of four zero bits (fewer only if the capacity is reached),
    and pad codewords filling the rest -/
def streamResult (m : Nat) (content : Bytes) (used cap : Nat) : Parsed :=
  { modes := [m], content := content, terminatorBits := min 4 (cap - used),
    padCodewords := (cap - (used + min 4 (cap - used))) / 8 }

/-- the names the statements of `BV.Props.QrB` use for the payload sizes -/
abbrev numBitCount (len : Nat) : Nat := numericBits len
abbrev alnumBitCount (len : Nat) : Nat := alnumBits len

/-- the stream of header and `payload` that an encoder pads for the row it found is parsed as one segment with
    the content, provided the body parser of the mode reads the payload back as the content wherever it stands -/
theorem stream_parse {ecl mode pb : Nat} {vi : VersionInfo} {content : Bytes} {payload : List Bool}
    (hfind : findSmallestVersionInfo ecl mode pb = some vi) (hp : payload.length = pb)
    (hm : mode = 1 ∨ mode = 2 ∨ mode = 4) (hc : content.length < 2 ^ vi.charCountBits mode)
    (hbody : ∀ pre post : List Bool, parseBody (pre ++ (payload ++ post)).toArray mode content.length pre.length =
      .ok (content, pre.length + pb)) (fuel : Nat) :
    parseSegments vi.version
        (addPaddingAndTerminator (header mode content.length vi ++ payload) vi).toArray (fuel + 2) 0 [] [] =
      .ok (streamResult mode content (4 + countBits vi.version mode + pb) (vi.totalDataBytes * 8)) := by
  have hf := (findSmallest_fits hfind).2.2
  have hw := charCountBits_eq vi mode (by omega)
  unfold Fits at hf
  rw [hw] at hf hc
  rw [addPaddingAndTerminator_padded, header, hw,
    List.append_assoc, Nat.mul_comm vi.totalDataBytes 8, ← hp]
  exact single_segment vi.version mode _ content.length payload content vi.totalDataBytes fuel (by omega)
    (by omega) rfl (countBits_pos _ _ hm) hc (by rw [hp]; exact hbody) (by omega)

/-- numeric mode: every string that `encodeNumeric` accepts is read back unchanged -/
theorem numeric_stream {content : Bytes} {ecl : Nat} {bits : List Bool} {vi : VersionInfo}
    (h : encodeNumeric content ecl = some (bits, vi)) (fuel : Nat) :
    parseSegments vi.version bits.toArray (fuel + 2) 0 [] [] =
      .ok (streamResult 1 content (4 + countBits vi.version 1 + numericBits content.length)
        (vi.totalDataBytes * 8)) := by
  have hc := (encodeNumeric_stream h).count_lt
  rw [encodeNumeric_eq] at h
  obtain ⟨hfind, chunks, hch, rfl⟩ := encodeWith_eq_some.mp h
  have hl := length_numericChunks _ _ _ hch (Nat.le_refl _)
  exact stream_parse hfind hl (Or.inl rfl) hc
    (fun pre post => hl ▸ parseNumeric_chunks _ _ _ (Nat.le_refl _) hch _ pre post (Nat.lt_succ_self _)) fuel

/-- alphanumeric mode: every string that `encodeAlphaNumeric` accepts is read back unchanged -/
theorem alnum_stream {content : Bytes} {ecl : Nat} {bits : List Bool} {vi : VersionInfo}
    (h : encodeAlphaNumeric content ecl = some (bits, vi)) (fuel : Nat) :
    parseSegments vi.version bits.toArray (fuel + 2) 0 [] [] =
      .ok (streamResult 2 content (4 + countBits vi.version 2 + alnumBits content.length)
        (vi.totalDataBytes * 8)) := by
  have hc := (encodeAlphaNumeric_stream h).count_lt
  rw [encodeAlphaNumeric_eq] at h
  obtain ⟨hfind, p, hseg, rfl⟩ := encodeWith_eq_some.mp h
  have hl := length_alnumSeg hseg
  exact stream_parse hfind hl (Or.inr (Or.inl rfl)) hc
    (fun pre post => hl ▸ (alnumSeg_accepted hseg).2.2 pre post) fuel

/-- byte mode: every byte string that `encodeUnicode` accepts is read back unchanged -/
theorem byte_stream {content : Bytes} {ecl : Nat} {bits : List Bool} {vi : VersionInfo}
    (h : encodeUnicode content ecl = some (bits, vi)) (fuel : Nat) :
    parseSegments vi.version bits.toArray (fuel + 2) 0 [] [] =
      .ok (streamResult 4 content (4 + countBits vi.version 4 + byteBits content.length)
        (vi.totalDataBytes * 8)) := by
  have hc := (encodeUnicode_stream h).count_lt
  rw [encodeUnicode_eq] at h
  obtain ⟨hfind, p, hp, rfl⟩ := encodeWith_eq_some.mp h
  cases hp
  exact stream_parse hfind (length_byteBits content) (Or.inr (Or.inr rfl)) hc
    (fun pre post => parseBytes_body content pre post) fuel

theorem encoder_stream_of_spec {m pb l : Nat} {content : Bytes} {bits : List Bool} {vi : VersionInfo} {fuel : Nat}
    (hs : StreamSpec m content pb l bits vi) (hm : m = 1 ∨ m = 2 ∨ m = 4)
    (hp : parseSegments vi.version bits.toArray fuel 0 [] [] =
      .ok (streamResult m content (4 + countBits vi.version m + pb) (vi.totalDataBytes * 8))) :
    vi ∈ versionInfos ∧ vi.level = l ∧ bits.length = vi.totalDataBytes * 8 ∧
    ∃ m used, (m = 1 ∨ m = 2 ∨ m = 4) ∧ used ≤ vi.totalDataBytes * 8 ∧
      parseSegments vi.version bits.toArray fuel 0 [] [] =
        .ok (streamResult m content used (vi.totalDataBytes * 8)) := by
  have hf := (findSmallest_fits hs.found).2.2
  unfold Fits at hf
  rw [hs.width] at hf
  exact ⟨hs.mem, hs.level, by rw [hs.length, Nat.mul_comm], m, _, hm, by omega, hp⟩

/-- each of the four encodings of `getEncoder`: whatever it accepts is read back unchanged, as a single segment
    whose mode is 1, 2 or 4 -/
theorem encoder_stream {mode : Nat} {enc : EncodeFn} (hg : getEncoder mode = some enc)
    {content : Bytes} {l : Nat} {bits : List Bool} {vi : VersionInfo}
    (h : enc content l = some (bits, vi)) (fuel : Nat) :
    vi ∈ versionInfos ∧ vi.level = l ∧ bits.length = vi.totalDataBytes * 8 ∧
    ∃ m used, (m = 1 ∨ m = 2 ∨ m = 4) ∧ used ≤ vi.totalDataBytes * 8 ∧
      parseSegments vi.version bits.toArray (fuel + 2) 0 [] [] =
        .ok (streamResult m content used (vi.totalDataBytes * 8)) := by
  rcases encoder_cases hg h with h | h | h
  · exact encoder_stream_of_spec (encodeNumeric_stream h) (Or.inl rfl) (numeric_stream h fuel)
  · exact encoder_stream_of_spec (encodeAlphaNumeric_stream h) (Or.inr (Or.inl rfl)) (alnum_stream h fuel)
  · exact encoder_stream_of_spec (encodeUnicode_stream h) (Or.inr (Or.inr rfl)) (byte_stream h fuel)

end BV.Proofs.QrChain
