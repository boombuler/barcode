/-
  QR: `render` as function-pattern phase (`drawn`), data loop (`written`) and mask selection (`selectMask`); all
  nine bitmaps keep side `modulWidth` and the results stay eight (`StOk`), so the selection finds its bitmap and
  the pipeline `encodeQR` / `encodeWithColor` never takes a panic path of the model.  `QROk`, `StOk` and their
  preservation (up to `drawn_ok`, `written_ok`) are declared in namespace `BV.Proofs.QrCoords`.
-/
import BV.Proofs.QrAccept
import BV.Proofs.QrBlocks
import BV.Proofs.QrMatrixCells
namespace BV.Proofs.QrRender
open BV BV.Model BV.Model.Qr BV.Gen.Qr BV.Proofs.QrTables BV.Proofs.QrStreamA BV.Proofs.QrBlocks BV.Proofs.QrMatrix
open BV.Proofs.QrCoords

/-- the state of `render` before the data modules are written: all function patterns drawn -/
def drawn (vi : VersionInfo) (color : Scheme) : RenderState :=
  let dim := vi.modulWidth
  let st : RenderState :=
    { occupied := newBarCodeWithColor dim color,
      results := (List.range 8).foldl (fun a _ => a.push (newBarCodeWithColor dim color)) #[] }
  let st := drawFinderPatterns vi setAll st
  let st := drawAlignmentPatterns (fun st x y => st.occupied.get x y) vi setAll st
  let st := (List.range dim).foldl (fun (st : RenderState) i =>
    let st := if !st.occupied.get i 6 then setAll i 6 (i % 2 == 0) st else st
    let st := if !st.occupied.get 6 i then setAll 6 i (i % 2 == 0) st else st
    st) st
  let st := setAll 8 (dim - 8) true st
  let st := drawVersionInfo vi setAll st
  let st := drawFormatInfo vi (-1) setOccupied st
  (List.range 8).foldl (fun st (i : Nat) => drawFormatInfo vi (i : Int) (setResult i) st) st

/-- the data loop of `render`: the eight result bitmaps and the bit counter -/
def written (data : List Nat) (st : RenderState) : Array QRCode × Nat :=
  let bytes := data.toArray
  let nbits := bytes.size * 8
  (iterateModules st.occupied).foldl
    (fun (acc : Array QRCode × Nat) (pos : Nat × Nat) =>
      let (results, curBitNo) := acc
      let curBit :=
        if curBitNo < nbits then ((bytes.getD (curBitNo / 8) 0) >>> (7 - (curBitNo % 8))) % 2 == 1
        else false
      let results := (List.range 8).foldl (fun (rs : Array QRCode) i =>
        rs.modify i (setMasked pos.1 pos.2 curBit i QRCode.set)) results
      (results, curBitNo + 1))
    (st.results, 0)

/-- one iteration of the `lowestPenalty` loop of `render` -/
def penStep (color : Scheme) (results : Array QRCode) (acc : Option Nat × Option Nat) (i : Nat) :
    Option Nat × Option Nat :=
  let p := (results.getD i (newBarCodeWithColor 0 color)).calcPenalty
  match acc.1 with
  | none => (some p, some i)
  | some lowest => if p < lowest then (some p, some i) else acc

/-- the mask selection of `render` -/
def selectMask (color : Scheme) (acc : Array QRCode × Nat) : Res (QRCode × Nat) :=
  let (results, _) := acc
  let (_, lowestPenaltyIdx) := (List.range 8).foldl (penStep color results) (none, none)
  match lowestPenaltyIdx with
  | none => .error .panic
  | some i =>
    match results[i]? with
    | some r => .ok (r, i)
    | none => .error .panic

/- Both sides unfold to the same term.  With the folds reducible the unifier, meeting `match <fold> with …`,
   would first try to run the data loop on the symbolic state. -/
attribute [local irreducible] Array.foldl List.foldl in
theorem renderWithMask_eq (data : List Nat) (vi : VersionInfo) (color : Scheme) :
    renderWithMask data vi color = selectMask color (written data (drawn vi color)) := rfl

/-- the state in which `render` starts: nine blank bitmaps -/
def blankState (dim : Nat) (color : Scheme) : RenderState :=
  { occupied := newBarCodeWithColor dim color,
    results := (List.range 8).foldl (fun a _ => a.push (newBarCodeWithColor dim color)) #[] }

theorem drawn_eq_drawnG (vi : VersionInfo) (color : Scheme) :
    drawn vi color = drawnG vi (fun st x y => st.occupied.get x y) setAll setOccupied setResult
      (blankState vi.modulWidth color) := rfl

theorem drawn_inv (P : RenderState → Prop) (hA : ∀ x y v st, P st → P (setAll x y v st))
    (hO : ∀ x y v st, P st → P (setOccupied x y v st)) (hR : ∀ i x y v st, P st → P (setResult i x y v st))
    (vi : VersionInfo) (color : Scheme) (h : P (blankState vi.modulWidth color)) : P (drawn vi color) := by
  rw [drawn_eq_drawnG]
  exact drawnG_inv P (fun _ => True) vi (fun _ _ => trivial) (fun x y v st _ => hA x y v st)
    (fun x y v st _ => hO x y v st) (fun i x y v st _ _ => hR i x y v st) _ h

theorem array_foldl_inv {α β} (P : α → Prop) (f : α → β → α) (l : Array β) (init : α)
    (h0 : P init) (hstep : ∀ a b, P a → P (f a b)) : P (l.foldl f init) := by
  rw [← Array.foldl_toList]
  exact foldl_inv P f _ _ h0 (fun a b _ => hstep a b)

theorem modifyAll_size (rs : Array QRCode) (f : Nat → QRCode → QRCode) :
    ((List.range 8).foldl (fun (rs : Array QRCode) i => rs.modify i (f i)) rs).size = rs.size := by
  apply foldl_inv (fun (a : Array QRCode) => a.size = rs.size)
  · rfl
  · intro a b _ h; rw [Array.size_modify]; exact h

theorem pushN_size {α} (x : α) (n : Nat) :
    ((List.range n).foldl (fun (a : Array α) _ => a.push x) #[]).size = n := by
  induction n with
  | zero => rfl
  | succ n ih => rw [List.range_succ, List.foldl_append, List.foldl_cons, List.foldl_nil, Array.size_push, ih]

theorem mem_pushN {α} (x : α) (n : Nat) :
    ∀ q ∈ (List.range n).foldl (fun (a : Array α) _ => a.push x) #[], q = x := by
  apply foldl_inv (fun (a : Array α) => ∀ q ∈ a, q = x)
  · intro q hq; exact absurd hq (Array.not_mem_empty q)
  · intro a _ _ ha q hq
    rcases Array.mem_push.mp hq with h | h
    · exact ha q h
    · exact h

end BV.Proofs.QrRender

namespace BV.Proofs.QrCoords
open BV BV.Model BV.Model.Qr BV.Proofs.QrMatrix BV.Proofs.QrRender

/-- a bitmap of side `d` with colour scheme `c` -/
def QROk (c : Scheme) (d : Nat) (q : QRCode) : Prop := q.dimension = d ∧ q.data.size = d * d ∧ q.color = c

variable {c : Scheme}

theorem QROk_new (d : Nat) (c : Scheme) : QROk c d (newBarCodeWithColor d c) := by
  unfold QROk newBarCodeWithColor; simp

theorem QROk_set (d x y : Nat) (v : Bool) (q : QRCode) (h : QROk c d q) : QROk c d (QRCode.set x y v q) := by
  unfold QROk QRCode.set at *; simp only [Array.size_setIfInBounds]; exact h

theorem QROk_setMasked (d x y : Nat) (v : Bool) (m : Nat) (q : QRCode) (h : QROk c d q) :
    QROk c d (setMasked x y v m QRCode.set q) := by
  unfold setMasked; exact QROk_set _ _ _ _ _ h

/-- all nine bitmaps of `render` have side `d` -/
def StOk (c : Scheme) (d : Nat) (st : RenderState) : Prop :=
  QROk c d st.occupied ∧ st.results.size = 8 ∧ ∀ q ∈ st.results, QROk c d q

/-- modifying one bitmap of an array -/
theorem modify_ok (d : Nat) (rs : Array QRCode) (i : Nat) (f : QRCode → QRCode)
    (hf : ∀ q, QROk c d q → QROk c d (f q)) (h : ∀ q ∈ rs, QROk c d q) : ∀ q ∈ rs.modify i f, QROk c d q := by
  intro q hq
  obtain ⟨j, hj, e⟩ := Array.mem_iff_getElem.mp hq
  rw [Array.getElem_modify] at e
  have hj' : j < rs.size := by simpa using hj
  split at e
  · rw [← e]; exact hf _ (h _ (Array.getElem_mem hj'))
  · rw [← e]; exact h _ (Array.getElem_mem hj')

theorem modifyAll_ok (d : Nat) (rs : Array QRCode) (f : Nat → QRCode → QRCode)
    (hf : ∀ i, i < 8 → ∀ q, QROk c d q → QROk c d (f i q)) (h : ∀ q ∈ rs, QROk c d q) :
    ∀ q ∈ (List.range 8).foldl (fun (rs : Array QRCode) i => rs.modify i (f i)) rs, QROk c d q :=
  foldl_inv (fun (a : Array QRCode) => ∀ q ∈ a, QROk c d q) _ _ _ h
    (fun a i hi ha => modify_ok d a i (f i) (hf i (List.mem_range.mp hi)) ha)

theorem setAll_ok (d x y : Nat) (v : Bool) (st : RenderState) (h : StOk c d st) : StOk c d (setAll x y v st) := by
  obtain ⟨h1, h2, h3⟩ := h
  unfold StOk setAll
  simp only
  refine ⟨QROk_set _ _ _ _ _ h1, ?_, ?_⟩
  · rw [modifyAll_size st.results (fun _ => QRCode.set x y v)]; exact h2
  · exact modifyAll_ok d st.results (fun _ => QRCode.set x y v) (fun _ _ q hq => QROk_set _ _ _ _ _ hq) h3

theorem setResult_ok (d i x y : Nat) (v : Bool) (st : RenderState) (h : StOk c d st) :
    StOk c d (setResult i x y v st) := by
  obtain ⟨h1, h2, h3⟩ := h
  unfold StOk setResult
  simp only [Array.size_modify]
  exact ⟨h1, h2, modify_ok d st.results i _ (fun q hq => QROk_set _ _ _ _ _ hq) h3⟩

theorem setOccupied_ok (d x y : Nat) (v : Bool) (st : RenderState) (h : StOk c d st) :
    StOk c d (setOccupied x y v st) :=
  ⟨QROk_set _ _ _ _ _ h.1, h.2⟩

theorem init_ok (d : Nat) (color : Scheme) : StOk color d (blankState d color) :=
  ⟨QROk_new d color, pushN_size _ 8, fun q hq => mem_pushN _ 8 q hq ▸ QROk_new d color⟩

/-- after the function patterns all nine bitmaps have side `modulWidth` -/
theorem drawn_ok (vi : VersionInfo) (color : Scheme) : StOk color vi.modulWidth (drawn vi color) :=
  drawn_inv _ (setAll_ok vi.modulWidth) (setOccupied_ok vi.modulWidth) (setResult_ok vi.modulWidth) vi color
    (init_ok _ _)

/-- the data loop keeps the eight result bitmaps and their side -/
theorem written_ok (d : Nat) (data : List Nat) (st : RenderState) (h : StOk c d st) :
    (written data st).1.size = 8 ∧ ∀ q ∈ (written data st).1, QROk c d q := by
  unfold written
  simp only
  apply array_foldl_inv (fun (acc : Array QRCode × Nat) => acc.1.size = 8 ∧ ∀ q ∈ acc.1, QROk c d q)
  · exact h.2
  · intro acc pos hacc
    obtain ⟨results, n⟩ := acc
    simp only
    rw [modifyAll_size]
    exact ⟨hacc.1, modifyAll_ok d results _ (fun i _ q hq => QROk_setMasked _ _ _ _ _ _ hq) hacc.2⟩

end BV.Proofs.QrCoords

namespace BV.Proofs.QrRender
open BV BV.Model BV.Model.Qr BV.Gen.Qr BV.Proofs.QrTables BV.Proofs.QrStreamA BV.Proofs.QrBlocks BV.Proofs.QrMatrix
open BV.Proofs.QrCoords

/-- a `lowestPenalty` loop whose step keeps the pair or replaces it by the current index ends with an index in 0..7 -/
theorem lowest_idx (f : Option Nat × Option Nat → Nat → Option Nat × Option Nat)
    (hf : ∀ acc i, (f acc i = acc ∧ acc.1.isSome = true) ∨ ∃ p, f acc i = (some p, some i)) :
    ∃ p i, i < 8 ∧ (List.range 8).foldl f (none, none) = (some p, some i) := by
  have hstep : ∀ (l : List Nat) (acc : Option Nat × Option Nat), (∀ i ∈ l, i < 8) →
      (∃ p i, i < 8 ∧ acc = (some p, some i)) →
      ∃ p i, i < 8 ∧ l.foldl f acc = (some p, some i) := by
    intro l
    induction l with
    | nil => intro acc _ h; exact h
    | cons x xs ih =>
      intro acc hl h
      rw [List.foldl_cons]
      apply ih _ (fun i hi => hl i (List.mem_cons_of_mem _ hi))
      obtain ⟨p, i, hi, e⟩ := h
      rcases hf acc x with ⟨h1, _⟩ | ⟨q, h2⟩
      · rw [h1]; exact ⟨p, i, hi, e⟩
      · exact ⟨q, x, hl x List.mem_cons_self, h2⟩
  have e : List.range 8 = 0 :: [1, 2, 3, 4, 5, 6, 7] := by decide
  rw [e, List.foldl_cons]
  apply hstep
  · decide
  · rcases hf (none, none) 0 with ⟨_, h1⟩ | ⟨q, h2⟩
    · cases h1
    · exact ⟨q, 0, by decide, h2⟩

theorem selectMask_ok (color : Scheme) (acc : Array QRCode × Nat) (h : acc.1.size = 8) :
    ∃ r, selectMask color acc = .ok r := by
  obtain ⟨results, n⟩ := acc
  unfold selectMask
  simp only
  obtain ⟨p, i, hi, e⟩ := lowest_idx (penStep color results) (by
    intro acc i
    unfold penStep
    simp only
    split
    · exact Or.inr ⟨_, rfl⟩
    · rename_i lowest hl
      split
      · exact Or.inr ⟨_, rfl⟩
      · exact Or.inl ⟨rfl, by rw [hl]; rfl⟩)
  rw [e]
  simp only
  have : i < results.size := by simp only at h; omega
  rw [Array.getElem?_eq_getElem this]
  exact ⟨_, rfl⟩

theorem selectMask_mem (color : Scheme) (acc : Array QRCode × Nat) (r : QRCode) (i : Nat)
    (h : selectMask color acc = .ok (r, i)) : acc.1[i]? = some r := by
  obtain ⟨results, n⟩ := acc
  unfold selectMask at h
  simp only at h
  split at h
  · cases h
  · rename_i j hj
    split at h
    · rename_i r' hr
      simp only [Except.ok.injEq, Prod.mk.injEq] at h
      rw [← h.1, ← h.2]; exact hr
    · cases h

/-- `render` never takes a panic path, whatever the data, version row and colours -/
theorem renderWithMask_ok (data : List Nat) (vi : VersionInfo) (color : Scheme) :
    ∃ r, renderWithMask data vi color = .ok r := by
  rw [renderWithMask_eq]
  exact selectMask_ok _ _ (written_ok vi.modulWidth data _ (drawn_ok vi color)).1


theorem getEncoder_isSome (mode : Nat) : (getEncoder mode).isSome = true ↔ mode ≤ 3 := by
  unfold getEncoder c_Auto c_Numeric c_AlphaNumeric c_Unicode
  by_cases h0 : mode = 0
  · subst h0; simp
  · by_cases h1 : mode = 1
    · subst h1; simp
    · by_cases h2 : mode = 2
      · subst h2; simp
      · by_cases h3 : mode = 3
        · subst h3; simp
        · simp [h0, h1, h2, h3]; omega

theorem encodeQR_outcome (content : Bytes) (level mode : Nat) (color : Scheme) {enc : EncodeFn}
    (hg : getEncoder mode = some enc) :
    (enc content level = none ∧ encodeQR content level mode color = .error .rejected) ∨
    (∃ bits vi qr mask, enc content level = some (bits, vi) ∧
      encodeQR content level mode color = .ok (qr, vi, mask)) := by
  unfold encodeQR
  rw [hg]
  simp only
  cases he : enc content level with
  | none => exact Or.inl ⟨rfl, rfl⟩
  | some r =>
    obtain ⟨bits, vi⟩ := r
    right
    obtain ⟨hmem, _, _⟩ := encoder_result hg he
    obtain ⟨blocks, hb, _⟩ := splitToBlocks_spec vi (iterateBytes bits) (rowSide_of_mem hmem).1
    obtain ⟨r, hr⟩ := renderWithMask_ok (interleave blocks vi) vi color
    obtain ⟨res, mask⟩ := r
    refine ⟨bits, vi, { res with content := content }, mask, rfl, ?_⟩
    simp only [hb, bind, Except.bind, hr]
    rfl

theorem encodeQR_ok {content : Bytes} {level mode : Nat} {color : Scheme} {qr : QRCode} {vi : VersionInfo}
    {mask : Nat} (h : encodeQR content level mode color = .ok (qr, vi, mask)) :
    ∃ enc bits blocks res, getEncoder mode = some enc ∧ enc content level = some (bits, vi) ∧
      splitToBlocks (iterateBytes bits) vi = .ok blocks ∧
      renderWithMask (interleave blocks vi) vi color = .ok (res, mask) ∧
      qr = { res with content := content } := by
  unfold encodeQR at h
  split at h
  · cases h
  · rename_i enc hg
    split at h
    · cases h
    · rename_i bits vi' he
      cases hs : splitToBlocks (iterateBytes bits) vi' with
      | error e => rw [hs] at h; cases h
      | ok blocks =>
        cases hr : renderWithMask (interleave blocks vi') vi' color with
        | error e => rw [hs] at h; simp only [bind, Except.bind, hr] at h; cases h
        | ok r =>
          rw [hs] at h
          simp only [bind, Except.bind, hr, pure, Except.pure, Except.ok.injEq, Prod.mk.injEq] at h
          obtain ⟨hq, rfl, rfl⟩ := h
          exact ⟨enc, bits, blocks, r.1, hg, he, hs, hr, hq.symm⟩

/-- `EncodeWithColor` with a defined encoding (0..3) never panics: it returns the error of the mode encoder or
    a barcode -/
theorem encodeWithColor_outcome (content : Bytes) (level mode : Nat) (color : Scheme) (hm : mode ≤ 3) :
    ∃ enc, getEncoder mode = some enc ∧
      ((enc content level = none ∧ encodeWithColor content level mode color = .error .rejected) ∨
       ((enc content level).isSome = true ∧ ∃ bc, encodeWithColor content level mode color = .ok bc)) := by
  have := (getEncoder_isSome mode).mpr hm
  obtain ⟨enc, hg⟩ := Option.isSome_iff_exists.mp this
  refine ⟨enc, hg, ?_⟩
  unfold encodeWithColor
  rcases encodeQR_outcome content level mode color hg with ⟨h1, h2⟩ | ⟨bits, vi, qr, mask, h1, h2⟩
  · left; rw [h2]; exact ⟨h1, rfl⟩
  · right; rw [h2, h1]; exact ⟨rfl, _, rfl⟩

/-- an undefined encoding is the call of a nil function: the only panic of `EncodeWithColor` -/
theorem encodeWithColor_undefined_mode (content : Bytes) (level mode : Nat) (color : Scheme) (hm : 4 ≤ mode) :
    encodeWithColor content level mode color = .error .panic := by
  have h : getEncoder mode = none := by
    cases hg : getEncoder mode with
    | none => rfl
    | some e =>
      have := (getEncoder_isSome mode).mp (by rw [hg]; rfl)
      omega
  unfold encodeWithColor encodeQR
  rw [h]
  rfl


end BV.Proofs.QrRender
