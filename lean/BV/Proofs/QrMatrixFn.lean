/-
  QR matrix layer: the function patterns as a picture, in closed form.  `Geo vi` collects what is used of a row of the
  version table and of its alignment centres (Annex E, `centres_facts`); `drawnP_eq` computes the picture `drawnP vi`
  as the fold of explicit cell lists over the blank picture: the `setAll` phases (`fnPhases`), then the format cells.
-/
import BV.Proofs.QrMatrixPix
namespace BV.Proofs.QrMatrix
open BV BV.Model BV.Model.Qr BV.Gen.Qr BV.Proofs.QrTables BV.Proofs.QrRender BV.Proofs.QrCoords

/-- the version row, its centres and what Annex E says about them -/
structure Geo (vi : VersionInfo) : Prop where
  ver1 : 1 ≤ vi.version
  ver40 : vi.version ≤ 40
  lvl : vi.level ≤ 3
  width : vi.modulWidth = 17 + 4 * vi.version
  d21 : 21 ≤ vi.modulWidth
  centres : Spec.Qr.alignmentCentres.lookup vi.version = some vi.alignmentPatternPlacements
  even : ∀ c ∈ vi.alignmentPatternPlacements, c % 2 = 0
  cls : ∀ c ∈ vi.alignmentPatternPlacements, c = 6 ∨ c = vi.modulWidth - 7 ∨ (18 ≤ c ∧ c + 23 ≤ vi.modulWidth)
  sorted : vi.alignmentPatternPlacements.Pairwise (fun a b => a + 5 ≤ b)
  last : vi.alignmentPatternPlacements ≠ [] → vi.alignmentPatternPlacements.getLastD 0 = vi.modulWidth - 7

/-- every row of the version table satisfies `Geo`: its centres are those of Annex E (`alignment_eq_annexE`), of
    which `centres_facts` speaks -/
theorem geo_of_mem {vi : VersionInfo} (hmem : vi ∈ versionInfos) : Geo vi := by
  obtain ⟨h1, h40, hl3⟩ := mem_versionInfos_range hmem
  have hdim := modulWidth_eq vi h1
  have hcs := alignment_eq_annexE vi h1 h40
  obtain ⟨c1, c2, _, c4, c5, c6, _⟩ := centres_facts vi.version h1 h40 _ hcs
  simp only [← hdim] at c1 c5 c6
  refine ⟨h1, h40, hl3, hdim, by omega, hcs, fun c hc => (c1 c hc).1, ?_, c2.imp (fun h => by omega), ?_⟩
  · intro c hc
    have := c6 c hc
    omega
  · intro hne
    rw [c5, if_neg (fun hv => hne (c4.mp hv))]

theorem Geo.apart {vi : VersionInfo} (g : Geo vi) :
    ∀ a ∈ vi.alignmentPatternPlacements, ∀ b ∈ vi.alignmentPatternPlacements, a = b ∨ a + 5 ≤ b ∨ b + 5 ≤ a :=
  fun _ ha _ hb => List.Pairwise.forall_of_forall_of_flip (R := fun a b => a = b ∨ a + 5 ≤ b ∨ b + 5 ≤ a)
    (fun _ _ => Or.inl rfl) (g.sorted.imp (fun h => Or.inr (Or.inl h))) (g.sorted.imp (fun h => Or.inr (Or.inr h)))
    ha hb

theorem Geo.range {vi : VersionInfo} (g : Geo vi) :
    ∀ c ∈ vi.alignmentPatternPlacements, 6 ≤ c ∧ c + 7 ≤ vi.modulWidth ∧ (c ≤ 8 → c = 6) := by
  intro c hc
  have := g.cls c hc
  have := g.d21
  omega

theorem Geo.corner {vi : VersionInfo} (g : Geo vi) :
    ∀ c ∈ vi.alignmentPatternPlacements, (c ≤ 7 ↔ c = 6) ∧ (vi.modulWidth ≤ c + 8 ↔ c = vi.modulWidth - 7) := by
  intro c hc
  have := g.cls c hc
  have := g.d21
  omega

/-- `drawPattern xoff yoff` of `drawFinderPatterns` writes the 9×9 square from (xoff - 1, yoff - 1), cut off at the
    border -/
theorem hasCell_patCells (dim : Nat) (xoff yoff : Int) (X Y : Nat) :
    hasCell (patCells dim xoff yoff) X Y ↔
      (xoff ≤ X + 1 ∧ (X : Int) ≤ xoff + 7 ∧ X < dim) ∧ (yoff ≤ Y + 1 ∧ (Y : Int) ≤ yoff + 7 ∧ Y < dim) := by
  unfold hasCell
  constructor
  · rintro ⟨c, hc, e1, e2⟩
    obtain ⟨x, y, _, _, _, _, h5, _, h7, _, rfl⟩ := (mem_patCells dim xoff yoff c).mp hc
    have hx := Int.toNat_of_nonneg h5
    have hy := Int.toNat_of_nonneg h7
    simp only at e1 e2
    rw [e1] at hx
    rw [e2] at hy
    omega
  · rintro ⟨⟨a1, a2, a3⟩, b1, b2, b3⟩
    refine ⟨_, (mem_patCells dim xoff yoff _).mpr ⟨(X : Int) - xoff, (Y : Int) - yoff, by omega, by omega, by omega,
      by omega, by omega, by omega, by omega, by omega, rfl⟩, ?_, ?_⟩
    · simp only [Int.sub_add_cancel, Int.toNat_natCast]
    · simp only [Int.sub_add_cancel, Int.toNat_natCast]

theorem hasCell_sqCells (p : Nat × Nat) (h1 : 2 ≤ p.1) (h2 : 2 ≤ p.2) (X Y : Nat) :
    hasCell (sqCells p) X Y ↔ (p.1 ≤ X + 2 ∧ X ≤ p.1 + 2) ∧ (p.2 ≤ Y + 2 ∧ Y ≤ p.2 + 2) := by
  unfold hasCell
  constructor
  · rintro ⟨c, hc, rfl, rfl⟩
    obtain ⟨x, y, a1, a2, a3, a4, rfl⟩ := (mem_sqCells p c).mp hc
    simp only
    omega
  · rintro ⟨⟨a1, a2⟩, a3, a4⟩
    refine ⟨_, (mem_sqCells p _).mpr ⟨(X : Int) - p.1, (Y : Int) - p.2, by omega, by omega, by omega, by omega, rfl⟩,
      ?_, ?_⟩
    · simp only; omega
    · simp only; omega

theorem centrePairs_apart (cs : List Nat) (h : cs.Pairwise (fun a b => a + 5 ≤ b)) :
    (centrePairs cs).Pairwise (fun p q => ¬ ((p.1 ≤ q.1 + 2 ∧ q.1 ≤ p.1 + 2) ∧ (p.2 ≤ q.2 + 2 ∧ q.2 ≤ p.2 + 2))) := by
  unfold centrePairs
  rw [List.pairwise_flatMap]
  constructor
  · intro a _
    rw [List.pairwise_map]
    apply List.Pairwise.imp _ h
    intro b b' hb
    simp only; omega
  · apply List.Pairwise.imp _ h
    intro a a' ha x hx y hy
    obtain ⟨b, _, rfl⟩ := List.mem_map.mp hx
    obtain ⟨b', _, rfl⟩ := List.mem_map.mp hy
    simp only; omega

def pixF (dim : Nat) : Pix := applyCells Pix.setAll (finderCells dim) Pix.blank

/-- cells of the alignment patterns that are drawn: centres that are free after the finder patterns -/
def alignCells (dim : Nat) (cs : List Nat) : List Cell :=
  ((centrePairs cs).filter (fun p => !(pixF dim).occ p.1 p.2)).flatMap sqCells

def pixA (dim : Nat) (cs : List Nat) : Pix := applyCells Pix.setAll (alignCells dim cs) (pixF dim)

/-- the timing cells that are drawn: those that are free after finder and alignment patterns -/
def timingFree (dim : Nat) (cs : List Nat) : List Cell :=
  (timingCells dim).filter (fun c => !(pixA dim cs).occ c.1 c.2.1)

/-- the cell lists written with `setAll`, in order: finder, alignment, timing, dark module, version -/
def fnPhases (vi : VersionInfo) : List (List Cell) :=
  [finderCells vi.modulWidth, alignCells vi.modulWidth vi.alignmentPatternPlacements,
    timingFree vi.modulWidth vi.alignmentPatternPlacements, [(8, vi.modulWidth - 8, true)], versionCells vi]

theorem align_phase {vi : VersionInfo} (g : Geo vi) :
    applyFree (fun P x y => P.occ x y) Pix.setAll (alignBlocks vi.alignmentPatternPlacements) (pixF vi.modulWidth) =
      pixA vi.modulWidth vi.alignmentPatternPlacements := by
  unfold alignBlocks
  rw [applyFree_eq (fun p => p) sqCells]
  · rfl
  -- no square covers another centre
  · apply List.Pairwise.imp_of_mem _ (centrePairs_apart _ g.sorted)
    intro p q hp hq hR hc
    rw [mem_centrePairs] at hp
    have := g.range p.1 hp.1
    have := g.range p.2 hp.2
    rw [hasCell_sqCells p (by omega) (by omega)] at hc
    exact absurd hc hR

/-- (6, 6) is the only module the timing loop visits twice -/
theorem timing_phase (dim : Nat) (P : Pix) (h66 : P.occ 6 6 = true) :
    applyFree (fun P x y => P.occ x y) Pix.setAll (timingBlocks dim) P =
      applyCells Pix.setAll ((timingCells dim).filter (fun c => !P.occ c.1 c.2.1)) P := by
  unfold timingBlocks
  rw [applyFree_eq (fun (c : Cell) => (c.1, c.2.1)) (fun c => [c]), List.flatMap_singleton']
  simp only [hasCell_singleton]
  unfold timingCells
  rw [List.pairwise_flatMap]
  constructor
  · intro i _
    simp only [List.pairwise_cons, List.mem_cons, List.not_mem_nil, or_false, forall_eq, List.Pairwise.nil,
      and_true, false_imp_iff, implies_true]
    rintro ⟨rfl, _⟩
    exact h66
  · apply List.Pairwise.imp _ List.pairwise_lt_range
    intro i j hij x hx y hy
    simp only [List.mem_cons, List.not_mem_nil, or_false] at hx hy
    rcases hx with rfl | rfl <;> rcases hy with rfl | rfl <;> simp only <;> omega

theorem pixA_occ_66 (dim : Nat) (hd : 21 ≤ dim) (cs : List Nat) : (pixA dim cs).occ 6 6 = true :=
  (applyAll_occ_eq _ _ 6 6).mpr (Or.inl ((applyAll_occ_eq _ _ 6 6).mpr (Or.inr ((hasCell_append _ _ 6 6).mpr
    (Or.inl ((hasCell_patCells dim 0 0 6 6).mpr (by omega)))))))

theorem maskCells_mask {vi : VersionInfo} (g : Geo vi) (i : Nat) (hi : i < 8) :
    maskCells vi (i : Int) = fmtCells vi.modulWidth (formatInfoOf vi.level i) := by
  unfold maskCells
  have : ((i : Int) == -1) = false := by
    rw [beq_eq_false_iff_ne]; omega
  simp only [this, Bool.false_eq_true, if_false, Int.toNat_natCast,
    (formatInfos_bch vi.level i g.lvl (by omega)).1, beq_self_eq_true, if_true]

/-- the picture `drawnP vi` is the fold of the explicit cell lists: the `setAll` phases, then the format cells
    (all-true word on `occupied`, the word of mask `i` on result `i`) -/
theorem drawnP_eq (vi : VersionInfo) (hmem : vi ∈ versionInfos) :
    drawnP vi =
      (List.range 8).foldl (fun P (i : Nat) =>
          applyCells (Pix.setRes i) (fmtCells vi.modulWidth (formatInfoOf vi.level i)) P)
        (applyCells Pix.setOcc (fmtCells vi.modulWidth (List.replicate 15 true))
          (applyCells Pix.setAll (fnPhases vi).flatten Pix.blank)) := by
  have g := geo_of_mem hmem
  have hall : applyCells Pix.setAll (fnPhases vi).flatten Pix.blank =
      applyCells Pix.setAll ((8, vi.modulWidth - 8, true) :: versionCells vi)
        (applyCells Pix.setAll (timingFree vi.modulWidth vi.alignmentPatternPlacements)
          (pixA vi.modulWidth vi.alignmentPatternPlacements)) := by
    unfold fnPhases pixA pixF
    rw [List.flatten_cons, List.flatten_cons, List.flatten_cons, List.flatten_cons, List.flatten_cons, List.flatten_nil,
      List.append_nil, applyCells_append, applyCells_append, applyCells_append, List.singleton_append]
  unfold drawnP
  rw [drawnG_cells, hall, show applyCells Pix.setAll (finderCells vi.modulWidth) Pix.blank = pixF vi.modulWidth from rfl,
    align_phase g, timing_phase _ _ (pixA_occ_66 _ g.d21 _)]
  apply foldl_congr_mem
  intro P i hi
  rw [maskCells_mask g i (List.mem_range.mp hi)]

end BV.Proofs.QrMatrix
