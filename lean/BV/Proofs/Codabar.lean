/-
  BV.Proofs.Codabar — lemmas for C08 (Codabar): acceptance (Go's `ReplaceAllString` idiom = anchored match) and
  round trip through `Spec.OneD.codabarDecode`.
-/
import BV.Model.Codabar
import BV.Proofs.OneD
import BV.Proofs.Kind
namespace BV.Proofs.Codabar
open BV BV.Model BV.Model.Codabar BV.Spec.OneD BV.Proofs.Ascii BV.Proofs.OneD

/-! ### the anchored pattern on bytes -/

/-- `[A-D]` -/
def isStartStopByte (b : UInt8) : Bool := 65 ≤ b.toNat && b.toNat ≤ 68
/-- `[0-9\-$:/.+]` -/
def isMiddleByte (b : UInt8) : Bool :=
  (48 ≤ b.toNat && b.toNat ≤ 57) || b.toNat == 45 || b.toNat == 36 || b.toNat == 58 || b.toNat == 47 ||
    b.toNat == 46 || b.toNat == 43

/-- the whole byte string matches `^[A-D][0-9\-$:/.+]*[A-D]$` -/
def matchesCodabar : Bytes → Bool
  | [] => false
  | [_] => false
  | a :: rest => isStartStopByte a && isStartStopByte (rest.getLastD 0) && rest.dropLast.all isMiddleByte

theorem matchesCodabar_iff (c : Bytes) : matchesCodabar c = true ↔
    ∃ a mid z, c = a :: (mid ++ [z]) ∧ isStartStopByte a = true ∧ (∀ b ∈ mid, isMiddleByte b = true) ∧
      isStartStopByte z = true := by
  constructor
  · intro h
    match c, h with
    | a :: b :: rest, h =>
      have hne : b :: rest ≠ [] := by simp
      simp only [matchesCodabar, Bool.and_eq_true, List.all_eq_true] at h
      refine ⟨a, (b :: rest).dropLast, (b :: rest).getLast hne, ?_, h.1.1, h.2, ?_⟩
      · rw [List.dropLast_concat_getLast]
      · rw [List.getLastD_eq_getLast?, List.getLast?_eq_some_getLast hne] at h
        exact h.1.2
  · rintro ⟨a, mid, z, rfl, ha, hm, hz⟩
    have : mid ++ [z] ≠ [] := by simp
    match hmz : mid ++ [z], this with
    | b :: rest, _ =>
      simp only [matchesCodabar, Bool.and_eq_true, List.all_eq_true]
      rw [← hmz]
      simp only [List.getLastD_concat, List.dropLast_concat]
      exact ⟨⟨ha, hz⟩, hm⟩

/-! ### `accepted` is the anchored match -/

theorem isStartStop_lt (r : Nat) (h : isStartStop r = true) : r < 128 := by
  simp only [isStartStop, Bool.or_eq_true, beq_iff_eq] at h; omega

theorem isMiddle_lt (r : Nat) (h : isMiddle r = true) : r < 128 := by
  simp only [isMiddle, Bool.or_eq_true, Bool.and_eq_true, decide_eq_true_eq, beq_iff_eq] at h; omega

/-- a character of the Codabar alphabet: `[A-D]` or `[0-9\-$:/.+]` -/
def ValidRune (r : Nat) : Prop := (isStartStop r || isMiddle r) = true

theorem valid_lt (r : Nat) (h : ValidRune r) : r < 128 := by
  simp only [ValidRune, Bool.or_eq_true] at h
  rcases h with h | h
  · exact isStartStop_lt r h
  · exact isMiddle_lt r h

theorem matchesToEnd_valid (rs : List Nat) (h : matchesToEnd rs = true) : ∀ r ∈ rs, ValidRune r := by
  match rs, h with
  | a :: b :: rest, h =>
    simp only [matchesToEnd, Bool.and_eq_true, List.all_eq_true] at h
    intro r hr
    have hne : b :: rest ≠ [] := by simp
    simp only [List.mem_cons] at hr
    rcases hr with hr | hr
    · rw [hr]; simp [ValidRune, h.1.1]
    · have hr' : r ∈ b :: rest := by simpa using hr
      rw [← List.dropLast_concat_getLast hne, List.mem_append, List.mem_singleton] at hr'
      rcases hr' with hr' | hr'
      · simp [ValidRune, h.2 r hr']
      · rw [List.getLastD_eq_getLast?, List.getLast?_eq_some_getLast hne] at h
        rw [hr']; simp [ValidRune, show isStartStop ((b :: rest).getLast hne) = true from h.1.2]

theorem matchesToEnd_lt (rs : List Nat) (h : matchesToEnd rs = true) : ∀ r ∈ rs, r < 128 :=
  fun r hr => valid_lt r (matchesToEnd_valid rs h r hr)

theorem leftmost_ge (rs : List Nat) (k i : Nat) (h : leftmost rs k = some i) : k ≤ i := by
  induction rs generalizing k with
  | nil => simp [leftmost] at h
  | cons r rest ih =>
    simp only [leftmost] at h
    split at h
    · simp at h; omega
    · have := ih _ h; omega

theorem leftmost_zero (rs : List Nat) : leftmost rs 0 = some 0 ↔ matchesToEnd rs = true := by
  cases rs with
  | nil => simp [leftmost, matchesToEnd]
  | cons r rest =>
    simp only [leftmost]
    by_cases hm : matchesToEnd (r :: rest) = true
    · simp [hm]
    · simp only [hm, if_false, Bool.false_eq_true, iff_false]
      intro h
      have := leftmost_ge _ _ _ h
      omega

theorem encodeRune_ne_nil (r : Nat) : encodeRune r ≠ [] := by
  unfold encodeRune
  simp only
  generalize (if (0xD800 ≤ r ∧ r ≤ 0xDFFF) ∨ r > 0x10FFFF then runeError else r) = r'
  repeat' split
  all_goals simp

theorem encodeRunes_eq_nil (rs : List Nat) (h : encodeRunes rs = []) : rs = [] := by
  cases rs with
  | nil => rfl
  | cons r rest =>
    simp only [encodeRunes, List.flatMap_cons, List.append_eq_nil_iff] at h
    exact absurd h.1 (encodeRune_ne_nil r)

theorem accepted_iff_matchesToEnd (content : Bytes) :
    accepted content = true ↔ matchesToEnd (runeList content) = true := by
  unfold accepted replaceAll
  simp only [Bool.not_eq_true', Bool.or_eq_false_iff, beq_eq_false_iff_ne, ne_eq, bne_eq_false_iff_eq]
  constructor
  · rintro ⟨hne, hrep⟩
    cases hl : leftmost (runeList content) 0 with
    | none => rw [hl] at hrep; exact absurd hrep hne
    | some i =>
      rw [hl] at hrep
      simp only at hrep
      have h1 : encodeRunes ((runeList content).take i) = [] := by
        have := congrArg List.dropLast hrep
        simpa using this
      have h2 := encodeRunes_eq_nil _ h1
      have hi : i = 0 := by
        cases hrl : runeList content with
        | nil => rw [hrl] at hl; simp [leftmost] at hl
        | cons r rest =>
          rw [hrl] at h2
          cases i with
          | zero => rfl
          | succ i => simp at h2
      rw [hi] at hl
      exact (leftmost_zero _).1 hl
  · intro hm
    have hl := (leftmost_zero _).2 hm
    refine ⟨?_, ?_⟩
    · intro hc
      rw [hc] at hm
      revert hm; decide
    · rw [hl]; simp [encodeRunes]

theorem isStartStop_byte (b : UInt8) : isStartStop b.toNat = isStartStopByte b := by
  simp only [isStartStop, isStartStopByte]
  rw [Bool.eq_iff_iff]
  simp only [Bool.or_eq_true, beq_iff_eq, Bool.and_eq_true, decide_eq_true_eq]
  omega

theorem isMiddle_byte (b : UInt8) : isMiddle b.toNat = isMiddleByte b := rfl

theorem matchesToEnd_map (c : Bytes) : matchesToEnd (c.map (·.toNat)) = matchesCodabar c := by
  match c with
  | [] => rfl
  | [_] => rfl
  | a :: b :: rest =>
    simp only [List.map_cons, matchesToEnd, matchesCodabar, isStartStop_byte]
    have h1 : (b.toNat :: rest.map (·.toNat)).getLastD 0 = ((b :: rest).getLastD 0).toNat := by
      show ((b :: rest).map (fun x => x.toNat)).getLastD 0 = _
      rw [List.getLastD_eq_getLast?, List.getLastD_eq_getLast?, List.getLast?_map]
      cases (b :: rest).getLast? <;> rfl
    have h2 : (b.toNat :: rest.map (·.toNat)).dropLast = ((b :: rest).dropLast).map (·.toNat) := by
      show ((b :: rest).map (fun x => x.toNat)).dropLast = _
      rw [List.map_dropLast]
    rw [h1, h2, isStartStop_byte, List.all_map]
    rfl

/-- acceptance = anchored match on the bytes, for EVERY byte string: a byte ≥ 0x80 anywhere makes Go's `range`
    produce a rune ≥ 128, which the pattern does not match -/
theorem accepted_iff (content : Bytes) : accepted content = true ↔ matchesCodabar content = true := by
  rw [accepted_iff_matchesToEnd]
  by_cases ha : AllAscii content
  · rw [runeList_ascii content ha, matchesToEnd_map]
  · constructor
    · intro h
      exact absurd (Utf8.isAscii_of_runeList_lt content (matchesToEnd_lt _ h)) ha
    · intro h
      exfalso; apply ha
      rw [← matchesToEnd_map] at h
      intro b hb
      exact matchesToEnd_lt _ h b.toNat (List.mem_map_of_mem hb)

/-! ### table certificates -/

/-- element widths of a 7-element key string: '1' = wide = 2 modules -/
def keyW (s : String) : List Nat := s.toList.map (fun ch => if ch == '1' then 2 else 1)

/-- element widths of a character, from the reference table -/
def cbW (r : Nat) : List Nat :=
  match codabarTable.find? (·.1.toNat == r) with
  | some (_, s) => keyW s
  | none => []

theorem table_eq : Gen.Codabar.v_encodingTable = codabarTable.map (fun p => ((p.1.toNat : Int), drawW (keyW p.2))) := by
  decide +kernel

def cbStep (grp : List Nat) : Except String Nat := do
    if grp.getLastD 0 ≠ 1 then throw "inter-character gap is not narrow"
    let key := String.ofList ((grp.take 7).map (fun w => if w = 2 then '1' else '0'))
    match codabarTable.find? (·.2 == key) with
    | some (c, _) => pure c.toNat
    | none => throw "unknown character pattern"

theorem cbW_mem (r : Nat) : ∀ w ∈ cbW r, w = 1 ∨ w = 2 := by
  intro w hw
  unfold cbW at hw
  split at hw
  · simp only [keyW, List.mem_map] at hw
    obtain ⟨ch, _, rfl⟩ := hw
    split
    · exact Or.inr rfl
    · exact Or.inl rfl
  · cases hw

/-- certificate, for the 20 characters of the alphabet: the generated table maps the character to its reference key
    drawn with narrow = 1 and wide = 2 modules; the key has 7 elements; the reference decoder step reads the
    character back from them and a narrow gap -/
theorem valid_facts : ∀ r, r < 128 → (isStartStop r || isMiddle r) = true →
    mapGet table (r : Int) = some (drawW (cbW r)) ∧ (cbW r).length = 7 ∧ isOk (cbStep (cbW r ++ [1])) r = true := by
  decide +kernel

/-- what `valid_facts` says of a character of the alphabet -/
structure TableChar (r : Nat) : Prop where
  entry : mapGet table (r : Int) = some (drawW (cbW r))
  length : (cbW r).length = 7
  step : cbStep (cbW r ++ [1]) = .ok r

theorem tableChar (r : Nat) (h : ValidRune r) : TableChar r :=
  have hf := valid_facts r (valid_lt r h) h
  ⟨hf.1, hf.2.1, eq_of_isOk _ _ hf.2.2⟩

/-! ### drawing -/

def joinSep {α β} (f : α → List β) (sep : List β) : List α → List β
  | [] => []
  | [a] => f a
  | a :: b :: rest => f a ++ sep ++ joinSep f sep (b :: rest)

/-- element widths of a whole symbol: characters separated by one narrow space -/
def symW (rs : List Nat) : List Nat := joinSep cbW [1] rs

theorem foldl_draw (bs : Bytes) (off : Nat) (hoff : 0 < off) (acc : List Bool) :
    (asciiRunes off bs).foldl (fun acc p =>
      let acc := if p.1 > 0 then acc ++ [false] else acc
      acc ++ (mapGet table p.2).getD []) acc =
    acc ++ (bs.map (fun b => false :: (mapGet table (b.toNat : Int)).getD [])).flatten := by
  induction bs generalizing off acc with
  | nil => simp [asciiRunes]
  | cons b bs ih =>
    have : off > 0 := hoff
    simp only [asciiRunes, List.foldl_cons, this, if_true]
    rw [ih (off + 1) (by omega)]
    simp

theorem joinSep_cons {α β} (f : α → List β) (sep : List β) (a : α) (rest : List α) :
    joinSep f sep (a :: rest) = f a ++ (rest.map (fun b => sep ++ f b)).flatten := by
  induction rest generalizing a with
  | nil => simp [joinSep]
  | cons b rest ih => simp [joinSep, ih]

theorem draw_ascii (content : Bytes) (ha : AllAscii content) :
    draw content = joinSep (fun b : UInt8 => (mapGet table (b.toNat : Int)).getD []) [false] content := by
  unfold draw
  rw [runes_ascii content ha]
  cases content with
  | nil => rfl
  | cons b bs =>
    simp only [asciiRunes, List.foldl_cons]
    rw [foldl_draw bs _ (by omega), joinSep_cons]
    simp

theorem drawW_snoc_space (g : List Nat) (h : g.length % 2 = 1) : drawW (g ++ [1]) = drawW g ++ [false] := by
  have : ¬ g.length % 2 = 0 := by omega
  simp [drawW, barsFrom_append, expand_append, this, barsFrom, expand]

theorem drawW_symW (rs : List Nat) (h : ∀ r ∈ rs, (cbW r).length = 7) :
    drawW (symW rs) = joinSep (fun r => drawW (cbW r)) [false] rs := by
  match rs with
  | [] => rfl
  | [r] => rfl
  | a :: b :: rest =>
    have ha := h a (by simp)
    simp only [symW, joinSep]
    rw [drawW_append _ _ (by simp [ha]), drawW_snoc_space _ (by simp [ha])]
    congr 1
    exact drawW_symW (b :: rest) (fun r hr => h r (by simp [hr]))

theorem joinSep_congr_map {α β γ} (f : α → List γ) (g : β → List γ) (k : α → β) (sep : List γ) (l : List α)
    (h : ∀ a ∈ l, f a = g (k a)) : joinSep f sep l = joinSep g sep (l.map k) := by
  match l with
  | [] => rfl
  | [a] => simpa [joinSep] using h a (by simp)
  | a :: b :: rest =>
    simp only [joinSep, List.map_cons]
    rw [h a (by simp)]
    congr 1
    exact joinSep_congr_map f g k sep (b :: rest) (fun x hx => h x (by simp [hx]))

theorem draw_valid (content : Bytes) (hv : ∀ b ∈ content, ValidRune b.toNat) :
    draw content = drawW (symW (content.map (·.toNat))) := by
  have ha : AllAscii content := fun b hb => valid_lt _ (hv b hb)
  rw [draw_ascii content ha, drawW_symW]
  · exact joinSep_congr_map _ _ _ _ _ (fun b hb => by rw [(tableChar _ (hv b hb)).entry]; rfl)
  · intro r hr
    obtain ⟨b, hb, rfl⟩ := List.mem_map.1 hr
    exact (tableChar _ (hv b hb)).length

/-! ### decoding -/

theorem codabarDecode_eq (bits : List Bool) : codabarDecode bits = (do
  let rs := runLengths bits
  let ws ← match widthsFromBar rs with
    | some ws => pure ws
    | none => throw "does not start with a bar"
  if (ws.length + 1) % 8 ≠ 0 then throw "number of elements is not 8n-1"
  if ws.any (fun w => w ≠ 1 ∧ w ≠ 2) then throw "element is neither narrow nor wide"
  let chars ← (splitEvery 8 (ws ++ [1])).mapM cbStep
  let isSS := fun (c : Nat) => 65 ≤ c ∧ c ≤ 68
  if chars.length < 2 then throw "fewer than two characters"
  if ¬ isSS (chars.headD 0) ∨ ¬ isSS (chars.getLastD 0) then throw "start/stop character is not A-D"
  if ((chars.drop 1).dropLast).any (fun c => isSS c) then throw "start/stop character inside the data"
  pure chars) := rfl

theorem joinSep_forall {α β} (P : β → Prop) (f : α → List β) (sep : List β) (l : List α)
    (hf : ∀ a ∈ l, ∀ x ∈ f a, P x) (hs : ∀ x ∈ sep, P x) : ∀ x ∈ joinSep f sep l, P x := by
  match l with
  | [] => simp [joinSep]
  | [a] => simpa [joinSep] using hf a (by simp)
  | a :: b :: rest =>
    intro x hx
    simp only [joinSep, List.mem_append] at hx
    rcases hx with (hx | hx) | hx
    · exact hf a (by simp) x hx
    · exact hs x hx
    · exact joinSep_forall P f sep (b :: rest) (fun y hy => hf y (by simp [hy])) hs x hx

theorem joinSep_snoc {α β} (f : α → List β) (sep : List β) (l : List α) (h : l ≠ []) :
    joinSep f sep l ++ sep = (l.map (fun a => f a ++ sep)).flatten := by
  obtain ⟨a, tl, rfl⟩ := List.exists_cons_of_ne_nil h
  rw [joinSep_cons, ← List.flatMap_def, ← List.flatMap_def]
  exact flatMap_sep f sep a tl

theorem decode_symW (rs : List Nat) (hm : matchesToEnd rs = true) :
    codabarDecode (drawW (symW rs)) = .ok rs := by
  have hv := matchesToEnd_valid rs hm
  have hne : rs ≠ [] := by intro h; subst h; simp [matchesToEnd] at hm
  have hw : ∀ w ∈ symW rs, w = 1 ∨ w = 2 :=
    joinSep_forall (fun w => w = 1 ∨ w = 2) cbW [1] rs (fun r _ => cbW_mem r) (by simp)
  have hany : (symW rs).any (fun w => w ≠ 1 ∧ w ≠ 2) = false := by
    rw [List.any_eq_false]
    intro w h
    have := hw w h
    simp only [decide_eq_true_eq]
    omega
  have hgrp : ∀ r ∈ rs, (cbW r ++ [1]).length = 8 ∧ cbStep (cbW r ++ [1]) = .ok (id r) := by
    intro r hr
    rw [List.length_append, (tableChar r (hv r hr)).length]
    exact ⟨rfl, (tableChar r (hv r hr)).step⟩
  have hsnoc : symW rs ++ [1] = (rs.map (fun r => cbW r ++ [1])).flatten := joinSep_snoc cbW [1] rs hne
  have hl8 : ((symW rs).length + 1) % 8 = 0 := by
    have := congrArg List.length hsnoc
    rw [flatten_length_const 8 _ (List.forall_mem_map.2 fun r hr => (hgrp r hr).1), List.length_map] at this
    rw [show (symW rs).length + 1 = (symW rs ++ [1]).length by simp, this]
    omega
  rw [codabarDecode_eq]
  -- the guards of the decoder in their order: the drawing is read back as its widths (`widths_drawW`), which with one
  -- more narrow gap are groups of eight (`hl8`, `hsnoc`) of narrow and wide elements only (`hany`), and every group is
  -- read as its character (`mapM_splitEvery`); the check of first, last and middle characters remains
  simp only [widths_drawW _ fun w h => by have := hw w h; omega, hl8, hany, hsnoc,
    mapM_splitEvery 8 (by omega) cbStep _ id rs hgrp, List.map_id, ne_eq, not_true_eq_false, if_false,
    Bool.false_eq_true, pure_bind]
  match rs, hm with
  | a :: b :: rest, hm =>
    simp only [matchesToEnd, Bool.and_eq_true, List.all_eq_true] at hm
    obtain ⟨⟨h1, h2⟩, h3⟩ := hm
    have f1 : ¬ ((a :: b :: rest).length < 2) := by simp
    have f2 : ¬ (¬ (65 ≤ (a :: b :: rest).headD 0 ∧ (a :: b :: rest).headD 0 ≤ 68) ∨
        ¬ (65 ≤ (a :: b :: rest).getLastD 0 ∧ (a :: b :: rest).getLastD 0 ≤ 68)) := by
      have e : (a :: b :: rest).getLastD 0 = (b :: rest).getLastD 0 := by simp [List.getLastD]
      rw [e, List.headD_cons]
      simp only [isStartStop, Bool.or_eq_true, beq_iff_eq] at h1 h2
      omega
    have f3 : (((a :: b :: rest).drop 1).dropLast.any fun c => decide (65 ≤ c ∧ c ≤ 68)) = false := by
      rw [List.any_eq_false]
      intro c hc
      have := h3 c (by simpa using hc)
      simp only [isMiddle, Bool.or_eq_true, Bool.and_eq_true, decide_eq_true_eq, beq_iff_eq] at this
      simp only [decide_eq_true_eq]
      omega
    simp only [bind, Except.bind, f1, f2, f3, if_false, Bool.false_eq_true]
    rfl

/-! ### `EncodeWithColor` -/


theorem encode_accepted (content : Bytes) (s : Scheme) (h : matchesCodabar content = true) :
    encodeWithColor content s =
      .ok (mk1D "Codabar" content (drawW (symW (content.map (·.toNat)))) none s) := by
  have hacc := (accepted_iff content).2 h
  have hv : ∀ b ∈ content, ValidRune b.toNat := by
    rw [← matchesToEnd_map] at h
    intro b hb
    exact matchesToEnd_valid _ h _ (List.mem_map_of_mem hb)
  unfold encodeWithColor
  simp only [hacc, Bool.not_true, Bool.false_eq_true, if_false, Render.kind_codabar, draw_valid content hv]

theorem encode_rejected (content : Bytes) (s : Scheme) (h : ¬ matchesCodabar content = true) :
    encodeWithColor content s = .error .rejected := by
  have hacc : accepted content = false := by
    rw [← Bool.not_eq_true, accepted_iff]; exact h
  unfold encodeWithColor
  simp [hacc]

theorem decode_accepted (content : Bytes) (h : matchesCodabar content = true) :
    codabarDecode (drawW (symW (content.map (·.toNat)))) = .ok (content.map (·.toNat)) := by
  rw [← matchesToEnd_map] at h
  exact decode_symW _ h

end BV.Proofs.Codabar
