/-
  BV.Proofs.AztecBits — shared vocabulary of the Aztec proofs: the model's `addBits` on non-negative values is
  `msbBits`, the reference decoder's `toNat` is `bitsToNat`, regrouping a bit list into words (`Spec.Aztec.groups`)
  and back, and `render`, the drawing tail of `encodeWithColor` as a function of its four inputs: `encodeWithColor`
  is layer choice, check words, mode message, `render` (`encodeWithColor_eq`, `encodeWithColor_ok`), and `render`
  runs the operation list `drawOps` on the blank symbol (`render_draw`).  At the end the notions the statements
  are written in: `Shape` (the 36 symbol shapes), `LayoutOK` (what the layer selection guarantees; its consequences
  `LayoutOK.*` are in AztecLayers) and `modAt` (a module by its offset from the centre, as the reference decoder
  reads it).
-/
import BV.Model.Aztec
import BV.Spec.Aztec
import BV.Proofs.Bits
import BV.Proofs.AztecOps
namespace BV.Proofs.AztecBits
open BV BV.Model.Aztec BV.Proofs.Bits BV.Proofs.AztecGeom

/-! ### `addBits`, `toNat` -/

theorem intBit_natCast (n i : Nat) : intBit (n : Int) i = n.testBit i := by
  unfold intBit
  have e : ((n : Int) >>> i) = ((n >>> i : Nat) : Int) := rfl
  rw [e, Nat.testBit_eq_decide_div_mod_eq, Nat.shiftRight_eq_div_pow]
  have h : (((n / 2 ^ i : Nat) : Int) % 2) = ((n / 2 ^ i % 2 : Nat) : Int) := by simp
  rw [h]
  generalize n / 2 ^ i % 2 = t
  by_cases ht : t = 1
  · subst ht; simp
  · have : ((t : Int) == 1) = false := by
      simp only [beq_eq_false_iff_ne, ne_eq]; omega
    rw [this]; simp [ht]

/-- `AddBits(n, k)` for `n ≥ 0` writes the `k` low bits of `n`, most significant first -/
theorem addBits_natCast (n k : Nat) : addBits (n : Int) k = msbBits n k := by
  unfold addBits msbBits
  apply List.map_congr_left
  intro i _
  exact intBit_natCast n _

@[simp] theorem length_addBits (b : Int) (k : Nat) : (addBits b k).length = k := by simp [addBits]

theorem toNat_eq (bs : List Bool) : Spec.Aztec.toNat bs = bitsToNat bs := by
  unfold Spec.Aztec.toNat bitsToNat
  congr 1
  funext a b
  cases b <;> rfl

theorem toNat_msbBits (x k : Nat) (h : x < 2 ^ k) : Spec.Aztec.toNat (msbBits x k) = x := by
  rw [toNat_eq, bitsToNat_msbBits_of_lt x k h]

theorem toNat_take_msbBits (x k : Nat) (h : x < 2 ^ k) (rest : List Bool) :
    Spec.Aztec.toNat ((msbBits x k ++ rest).take k) = x := by
  have : (msbBits x k ++ rest).take k = msbBits x k := by
    rw [List.take_left' (length_msbBits x k)]
  rw [this, toNat_msbBits x k h]

theorem drop_msbBits (x k : Nat) (rest : List Bool) : (msbBits x k ++ rest).drop k = rest := by
  rw [List.drop_left' (length_msbBits x k)]

/-! ### words -/

theorem groups_flatMap (w : Nat) (ws : List Nat) (h : ∀ x ∈ ws, x < 2 ^ w) (rest : List Bool) :
    Spec.Aztec.groups w ws.length (ws.flatMap (fun x => msbBits x w) ++ rest) = ws := by
  induction ws with
  | nil => rfl
  | cons x ws ih =>
    simp only [List.length_cons, Spec.Aztec.groups, List.flatMap_cons, List.append_assoc]
    rw [toNat_take_msbBits x w (h x (List.mem_cons_self ..)), drop_msbBits,
      ih (fun y hy => h y (List.mem_cons_of_mem _ hy))]

theorem length_groups (w n : Nat) (bs : List Bool) : (Spec.Aztec.groups w n bs).length = n := by
  induction n generalizing bs with
  | zero => rfl
  | succ n ih => simp [Spec.Aztec.groups, ih]

theorem groups_lt (w n : Nat) (bs : List Bool) : ∀ x ∈ Spec.Aztec.groups w n bs, x < 2 ^ w := by
  induction n generalizing bs with
  | zero => intro x hx; cases hx
  | succ n ih =>
    intro x hx
    rcases List.mem_cons.mp hx with rfl | hx
    · rw [toNat_eq]
      exact Nat.lt_of_lt_of_le (bitsToNat_lt _) (Nat.pow_le_pow_right (by omega) (by simp; omega))
    · exact ih _ x hx

theorem flatMap_groups (w n : Nat) (bs : List Bool) (h : bs.length = n * w) :
    (Spec.Aztec.groups w n bs).flatMap (fun x => msbBits x w) = bs := by
  induction n generalizing bs with
  | zero => exact (List.eq_nil_of_length_eq_zero (by omega)).symm
  | succ n ih =>
    have h1 : (bs.take w).length = w := by rw [List.length_take, h, Nat.succ_mul]; omega
    have := msbBits_bitsToNat (bs.take w)
    rw [h1] at this
    rw [Spec.Aztec.groups, List.flatMap_cons, ih _ (by rw [List.length_drop, h, Nat.succ_mul]; omega), toNat_eq,
      this, List.take_append_drop]

theorem length_flatMap_msbBits (w : Nat) (ws : List Nat) :
    (ws.flatMap (fun x => msbBits x w)).length = ws.length * w := by
  induction ws with
  | nil => simp
  | cons x ws ih => rw [List.flatMap_cons, List.length_append, ih, length_msbBits, List.length_cons,
      Nat.add_one_mul, Nat.add_comm]

theorem msbBits_ones (k : Nat) : msbBits (2 ^ k - 1) k = List.replicate k true := by
  unfold msbBits
  rw [List.eq_replicate_iff]
  refine ⟨by simp, ?_⟩
  intro b hb
  obtain ⟨i, hi, rfl⟩ := List.mem_map.mp hb
  have hi : i < k := List.mem_range.mp hi
  rw [Nat.testBit_two_pow_sub_one]
  simp; omega

/-! ### the drawing part of `EncodeWithColor` -/

/-- the symbol that `EncodeWithColor` draws from the layer choice, the message bits (data and check words)
    and the mode message -/
def render (compact : Bool) (layers : Nat) (messageBits modeMessage : List Bool) (data : Bytes)
    (color : Scheme) : AztecCode :=
  let baseMatrixSize := baseSize compact layers
  let am := (alignmentMap compact baseMatrixSize).1
  let matrixSize := (alignmentMap compact baseMatrixSize).2
  let code := newAztecCode matrixSize color
  let code := { code with content := data }
  let code := drawDataBits code compact layers baseMatrixSize am messageBits.toArray
  let code := drawModeMessage code compact matrixSize modeMessage.toArray
  if compact then drawBullsEye code (matrixSize / 2) 5
  else drawReferenceGrid (drawBullsEye code (matrixSize / 2) 7) baseMatrixSize matrixSize

/-- the blank symbol the drawing starts from -/
def blank (n : Nat) (data : Bytes) (color : Scheme) : AztecCode :=
  { newAztecCode n color with content := data }

theorem render_draw (compact : Bool) (layers : Nat) (mb mm : List Bool) (data : Bytes) (color : Scheme) :
    render compact layers mb mm data color =
      applyOps mb.toArray mm.toArray
        (drawOps compact layers (baseSize compact layers) (alignmentMap compact (baseSize compact layers)).2
          (fun t => (alignmentMap compact (baseSize compact layers)).1.getD t 0))
        (blank (alignmentMap compact (baseSize compact layers)).2 data color) :=
  draw_eq mb.toArray mm.toArray _ compact layers _ _ _

theorem render_fields (compact : Bool) (layers : Nat) (mb mm : List Bool) (data : Bytes) (color : Scheme) :
    (render compact layers mb mm data color).size = (alignmentMap compact (baseSize compact layers)).2 ∧
    (render compact layers mb mm data color).content = data ∧
    (render compact layers mb mm data color).color = color := by
  rw [render_draw]
  obtain ⟨h1, _, h2, h3⟩ := applyOps_fields mb.toArray mm.toArray
    (drawOps compact layers (baseSize compact layers) (alignmentMap compact (baseSize compact layers)).2
      (fun t => (alignmentMap compact (baseSize compact layers)).1.getD t 0))
    (blank (alignmentMap compact (baseSize compact layers)).2 data color)
  exact ⟨h1, h2, h3⟩

/-- `EncodeWithColor` is: high-level encoding, layer choice, check words, mode message, `render` -/
theorem encodeWithColor_eq (data : Bytes) (pct req : Int) (color : Scheme) :
    encodeWithColor data pct req color =
      (let bits := highlevelEncode data
       let eccBits : Int := Int.tdiv ((bits.length : Int) * pct) 100 + 11
       let totalSizeBits : Int := bits.length + eccBits
       (if req != Int.ofNat BV.Gen.Aztec.c_DEFAULT_LAYERS then explicitLayers bits eccBits req
        else autoLayers bits eccBits totalSizeBits (BV.Gen.Aztec.c_max_nb_bits + 2) 0 0 []) >>= fun lay =>
       generateCheckWords lay.stuffedBits lay.totalBitsInLayer lay.wordSize >>= fun messageBits =>
       generateModeMessage lay.compact lay.layers (lay.stuffedBits.length / lay.wordSize) >>= fun modeMessage =>
       pure (render lay.compact lay.layers messageBits modeMessage data color).toBarcode) := by
  unfold encodeWithColor render
  simp only []
  split <;> rfl

theorem _root_.BV.Proofs.AztecAssemble.bind_ok {ε α β} {x : Except ε α} {f : α → Except ε β} {b : β} (h : (x >>= f) = .ok b) :
    ∃ a, x = .ok a ∧ f a = .ok b := by
  cases x with
  | error e => cases h
  | ok a => exact ⟨a, rfl, h⟩

theorem encodeWithColor_ok {data : Bytes} {pct req : Int} {color : Scheme} {bc : Barcode}
    (h : encodeWithColor data pct req color = .ok bc) :
    ∃ lay messageBits modeMessage,
      (if req != Int.ofNat BV.Gen.Aztec.c_DEFAULT_LAYERS then
          explicitLayers (highlevelEncode data)
            (Int.tdiv (((highlevelEncode data).length : Int) * pct) 100 + 11) req
        else autoLayers (highlevelEncode data) (Int.tdiv (((highlevelEncode data).length : Int) * pct) 100 + 11)
          ((highlevelEncode data).length + (Int.tdiv (((highlevelEncode data).length : Int) * pct) 100 + 11))
          (BV.Gen.Aztec.c_max_nb_bits + 2) 0 0 []) = .ok lay ∧
      generateCheckWords lay.stuffedBits lay.totalBitsInLayer lay.wordSize = .ok messageBits ∧
      generateModeMessage lay.compact lay.layers (lay.stuffedBits.length / lay.wordSize) = .ok modeMessage ∧
      bc = (render lay.compact lay.layers messageBits modeMessage data color).toBarcode := by
  rw [encodeWithColor_eq] at h
  obtain ⟨lay, h1, h⟩ := BV.Proofs.AztecAssemble.bind_ok h
  obtain ⟨mb, h2, h⟩ := BV.Proofs.AztecAssemble.bind_ok h
  obtain ⟨mm, h3, h⟩ := BV.Proofs.AztecAssemble.bind_ok h
  exact ⟨lay, mb, mm, h1, h2, h3, (Except.ok.inj h).symm⟩

/-! ### shapes and accepted layouts -/

/-- the 36 symbol shapes: compact with 1–4 layers, full-range with 1–32 layers -/
def Shape (compact : Bool) (layers : Nat) : Prop :=
  1 ≤ layers ∧ layers ≤ (if compact then 4 else 32)

instance (compact : Bool) (layers : Nat) : Decidable (Shape compact layers) := by
  unfold Shape; exact inferInstance

/-- what the layer selection guarantees about the `Layout` it returns for the high-level bits `bits` and the
    requested number `ecc` of check bits -/
structure LayoutOK (bits : List Bool) (ecc : Int) (lay : Layout) : Prop where
  shape : Shape lay.compact lay.layers
  total : lay.totalBitsInLayer = totalBitsInLayer lay.layers lay.compact
  ws : lay.wordSize = word_size lay.layers
  stuffed : lay.stuffedBits = stuffBits bits lay.wordSize
  fits : (lay.stuffedBits.length : Int) + ecc ≤
    ((lay.totalBitsInLayer - lay.totalBitsInLayer % lay.wordSize : Nat) : Int)
  cap : lay.compact = true → lay.stuffedBits.length ≤ lay.wordSize * 64

/-- the module at offset `p` from the centre, as `Spec.Aztec.decode` reads it from the barcode -/
def modAt (code : AztecCode) (p : Int × Int) : Bool :=
  code.toBarcode.dark (((code.size / 2 : Nat) : Int) + p.1).toNat (((code.size / 2 : Nat) : Int) + p.2).toNat

end BV.Proofs.AztecBits
