/-
  Lemmas for C15/C16: searches in tables with unique keys do not depend on the iteration order;
  a rendezvous (unbuffered) channel between one producer and one consumer.
-/
import BV.Base
namespace BV.Proofs.Purity

/-! ### order independence of `for k, v := range table { if v.value == x { return k } }` -/

theorem find_of_mem_nodup {α} (key : α → Int) (v : Int) : ∀ (l : List α) (e : α),
    (l.map key).Nodup → e ∈ l → key e = v → l.find? (fun x => key x == v) = some e := by
  intro l
  induction l with
  | nil => intro e _ h; cases h
  | cons a rest ih =>
    intro e hn hm hk
    rw [List.map_cons, List.nodup_cons] at hn
    rcases List.mem_cons.mp hm with rfl | hm'
    · simp [List.find?, hk]
    · have hne : key a ≠ v := by
        intro h
        apply hn.1
        rw [h, ← hk]
        exact List.mem_map_of_mem hm'
      have : (key a == v) = false := by simp [hne]
      simp only [List.find?, this]
      exact ih e hn.2 hm' hk

/-- a Go `range` over a map visits the entries in an arbitrary order; when the searched values are unique the
    first match is the same for every order -/
theorem find_perm_invariant {α} (key : α → Int) (v : Int) (l l' : List α) (hp : l.Perm l')
    (hn : (l.map key).Nodup) :
    l'.find? (fun x => key x == v) = l.find? (fun x => key x == v) := by
  have hn' : (l'.map key).Nodup := (hp.map key).nodup_iff.mp hn
  cases h : l.find? (fun x => key x == v) with
  | none =>
    rw [List.find?_eq_none] at h ⊢
    exact fun e he => h e (hp.mem_iff.mpr he)
  | some e =>
    have hmem : e ∈ l := List.mem_of_find?_eq_some h
    have hk : key e = v := by
      have := List.find?_some h
      simpa using this
    exact find_of_mem_nodup key v l' e hn' (hp.mem_iff.mp hmem) hk

/-! ### one producer, one consumer, one unbuffered channel -/

/-- state: values the producer still has to send (then it closes the channel and exits), number of receive
    operations the consumer still performs (then it returns), whether the channel is closed -/
structure Chan where
  toSend : Nat
  closed : Bool
  toRecv : Nat
  deriving DecidableEq, Repr

/-- the only enabled transition, if any: a send needs a receiver (rendezvous); the producer closes when it has
    sent everything; a receive on a closed channel returns at once -/
def Chan.step (s : Chan) : Option Chan :=
  if s.toSend > 0 then
    (if s.toRecv > 0 then some { s with toSend := s.toSend - 1, toRecv := s.toRecv - 1 } else none)  -- blocked sender
  else if !s.closed then some { s with closed := true }
  else if s.toRecv > 0 then some { s with toRecv := s.toRecv - 1 }
  else none

/-- both goroutines have finished -/
def Chan.done (s : Chan) : Bool := s.toSend == 0 && s.closed && s.toRecv == 0

def Chan.run : Nat → Chan → Chan
  | 0, s => s
  | fuel + 1, s => match s.step with
    | some s' => Chan.run fuel s'
    | none => s

theorem Chan.run_succ {s s' : Chan} (h : s.step = some s') (fuel : Nat) :
    Chan.run (fuel + 1) s = Chan.run fuel s' := by
  rw [Chan.run, h]

theorem Chan.run_stuck {s : Chan} (h : s.step = none) : ∀ fuel, Chan.run fuel s = s
  | 0 => rfl
  | fuel + 1 => by rw [Chan.run, h]

theorem step_send (k j : Nat) (c : Bool) : Chan.step ⟨k + 1, c, j + 1⟩ = some ⟨k, c, j⟩ := by
  simp [Chan.step]

theorem step_recv (j : Nat) : Chan.step ⟨0, true, j + 1⟩ = some ⟨0, true, j⟩ := by
  simp [Chan.step]

/-- `k` rendezvous -/
theorem run_sends (c : Bool) : ∀ (k j fuel : Nat),
    Chan.run (fuel + k) ⟨k, c, j + k⟩ = Chan.run fuel ⟨0, c, j⟩
  | 0, _, _ => rfl
  | k + 1, j, fuel => (Chan.run_succ (step_send k (j + k) c) (fuel + k)).trans (run_sends c k j fuel)

/-- `j` receives on the closed channel -/
theorem run_drain : ∀ (j fuel : Nat), j ≤ fuel → Chan.run fuel ⟨0, true, j⟩ = ⟨0, true, 0⟩
  | 0, fuel, _ => Chan.run_stuck rfl fuel
  | j + 1, 0, h => absurd h (Nat.not_succ_le_zero j)
  | j + 1, fuel + 1, h => (Chan.run_succ (step_recv j) fuel).trans (run_drain j fuel (Nat.le_of_succ_le_succ h))

/-- if the consumer performs at least as many receives as the producer sends, every run ends with both
    goroutines finished (no deadlock, no leak): `k` rendezvous, the close, `j - k` receives on the closed channel -/
theorem run_done (k j : Nat) (h : k ≤ j) (fuel : Nat) (hf : j + 1 ≤ fuel) :
    (Chan.run fuel { toSend := k, closed := false, toRecv := j }).done = true := by
  obtain ⟨d, rfl⟩ : ∃ d, j = d + k := ⟨j - k, by omega⟩
  obtain ⟨f, rfl⟩ : ∃ f, fuel = f + 1 + k := ⟨fuel - 1 - k, by omega⟩
  rw [run_sends, Chan.run_succ (s' := ⟨0, true, d⟩) rfl, run_drain d f (by omega)]
  rfl

/-- a producer with more to send than the consumer receives never gets to close the channel -/
theorem run_open : ∀ (fuel k j : Nat), j < k → (Chan.run fuel ⟨k, false, j⟩).closed = false
  | 0, _, _, _ => rfl
  | _ + 1, 0, _, h => absurd h (Nat.not_lt_zero _)
  | fuel + 1, k + 1, 0, _ => by rw [Chan.run_stuck (by simp [Chan.step])]
  | fuel + 1, k + 1, j + 1, h => by
    rw [Chan.run_succ (step_send k j false)]
    exact run_open fuel k j (Nat.lt_of_succ_lt_succ h)

/-- if the consumer returns after fewer receives than the producer sends, the producer goroutine stays blocked
    for ever (a goroutine leak): the run stops in a state that is not `done` -/
theorem run_leak (k j : Nat) (h : j < k) (fuel : Nat) :
    (Chan.run fuel { toSend := k, closed := false, toRecv := j }).done = false := by
  rw [Chan.done, run_open fuel k j h, Bool.and_false, Bool.false_and]

end BV.Proofs.Purity
