/-
  BV.Proofs.SplitOn — `String.splitOn` with a one-character separator, computed on character lists.
  (`String.splitOn` is defined by well-founded recursion, so `decide` cannot evaluate the Spec tables
  `c128Widths`/`c93Widths` directly; this equation lemma rewrites them into structural recursion.)
-/
import Batteries.Data.String.Lemmas
namespace BV.Proofs.SplitOn
open String

def splitChars (sep : Char) : List Char → List Char → List (List Char)
  | acc, [] => [acc.reverse]
  | acc, c :: rest => if c = sep then acc.reverse :: splitChars sep [] rest else splitChars sep (c :: acc) rest

theorem singleton_eq (c : Char) : String.singleton c = ofList [c] := by
  apply String.ext_iff.2 ; simp

theorem sep_get (sep : Char) : Pos.Raw.get (String.singleton sep) 0 = sep := by
  rw [singleton_eq]; simpa using get_of_valid [] [sep]
theorem sep_next (sep : Char) : Pos.Raw.next (String.singleton sep) 0 = ⟨sep.utf8Size⟩ := by
  rw [singleton_eq]; simpa using next_of_valid [] sep []
theorem sep_end (sep : Char) : (String.singleton sep).rawEndPos = ⟨sep.utf8Size⟩ := by
  rw [singleton_eq, rawEndPos_ofList]; simp

theorem splitOnAux_of_valid (sep : Char) (l m r : List Char) (acc : List String) :
    String.splitOnAux (ofList (l ++ m ++ r)) (String.singleton sep) ⟨utf8Len l⟩ ⟨utf8Len l + utf8Len m⟩ 0 acc =
      acc.reverse ++ (splitChars sep m.reverse r).map ofList := by
  induction r generalizing l m acc with
  | nil =>
    rw [String.splitOnAux]
    have := extract_of_valid l m []
    simp only [List.append_nil] at this
    simp [-ofList_append, splitChars, this]
  | cons c r ih =>
    rw [String.splitOnAux]
    have h1 := get_of_valid (l ++ m) (c :: r)
    have h2 := next_of_valid (l ++ m) c r
    have h3 := extract_of_valid l m (c :: r)
    simp [-ofList_append] at h1 h2 h3
    simp only [sep_get, sep_next]
    simp [-ofList_append, h1, h2, h3, splitChars]
    have hpos := Char.utf8Size_pos c
    rw [if_neg (by omega)]
    split
    · rename_i hc
      subst hc
      have := ih (l ++ m ++ [c]) [] (ofList m :: acc)
      simp [-ofList_append] at this
      simp [-ofList_append, Pos.Raw.unoffsetBy, h3]
      rw [sep_end, if_pos (by simp)]
      simpa [-ofList_append, Nat.add_assoc] using this
    · have := ih l (m ++ [c]) acc
      simp [-ofList_append] at this
      simpa [-ofList_append, Nat.add_assoc] using this

theorem splitOn_singleton (s : String) (sep : Char) :
    s.splitOn (String.singleton sep) = (splitChars sep [] s.toList).map ofList := by
  have h := splitOnAux_of_valid sep [] [] s.toList []
  have hne : (String.singleton sep == "") = false := by
    rw [singleton_eq]; simp
  simpa [String.splitOn, hne] using h

example : "ab cd".splitOn " " = ["ab", "cd"] := by
  rw [show " " = String.singleton ' ' from rfl, splitOn_singleton]; decide

end BV.Proofs.SplitOn
