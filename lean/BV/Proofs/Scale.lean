/-
  Proofs for C09: `Scale` is the integer, centred enlargement (or an error).
-/
import BV.Model.Scale
namespace BV.Proofs.Scale
open BV BV.Model.Scale

/-- the enlargement the property demands: source `src` (size `w0 × h0`) drawn with factor `k` at offset
    (`ox`, `oy`) on a `fill` background -/
def enlarged (src : Nat → Nat → Colour) (w0 h0 k ox oy : Nat) (fill : Colour) (x y : Nat) : Colour :=
  if ox ≤ x ∧ x < ox + w0 * k ∧ oy ≤ y ∧ y < oy + h0 * k then src ((x - ox) / k) ((y - oy) / k) else fill

/-- 1-D: every row shows source row 0 -/
def enlarged1 (src : Nat → Nat → Colour) (w0 k ox : Nat) (fill : Colour) (x _y : Nat) : Colour :=
  if ox ≤ x ∧ x < ox + w0 * k then src ((x - ox) / k) 0 else fill

theorem tdiv_nat (a b : Nat) : (a : Int).tdiv (b : Int) = ((a / b : Nat) : Int) := by
  rw [Int.tdiv_eq_ediv_of_nonneg (by omega)]
  exact (Int.natCast_ediv a b).symm

theorem div_lt_of_lt_mul {a b k : Nat} (hk : 0 < k) (h : a < b * k) : a / k < b := by
  rw [Nat.div_lt_iff_lt_mul hk]; exact h

theorem sub_tdiv {x ox : Nat} (k : Nat) (h : ox ≤ x) :
    ((x : Int) - (ox : Int)).tdiv (k : Int) = (((x - ox) / k : Nat) : Int) := by
  rw [← Int.ofNat_sub h]; exact tdiv_nat _ _

/-- the offset computed by the Go code, for a factor that fits -/
theorem off_eq {w w0 k : Nat} (h : w0 * k ≤ w) :
    ((w : Int) - (w0 : Int) * (k : Int)).tdiv 2 = (((w - w0 * k) / 2 : Nat) : Int) := by
  rw [← Int.natCast_mul]; exact sub_tdiv 2 h

theorem div_lt_block {x ox k : Nat} (w0 : Nat) (hk : 0 < k) (h : ox ≤ x) :
    (x - ox) / k < w0 ↔ x < ox + w0 * k := by
  rw [Nat.div_lt_iff_lt_mul hk]; omega

/-- the `At` function that `scale2DCode` builds is the enlargement -/
theorem wrap2_eq (src : Nat → Nat → Colour) (w0 h0 k ox oy : Nat) (fill : Colour) (hk : 0 < k) (x y : Nat) :
    (if (x : Int) < ox ∨ (y : Int) < oy then fill
      else if ((x : Int) - ox).tdiv k ≥ (w0 : Int) ∨ ((y : Int) - oy).tdiv k ≥ (h0 : Int) then fill
      else src (((x : Int) - ox).tdiv k).toNat (((y : Int) - oy).tdiv k).toNat) =
      enlarged src w0 h0 k ox oy fill x y := by
  unfold enlarged
  by_cases hin : ox ≤ x ∧ x < ox + w0 * k ∧ oy ≤ y ∧ y < oy + h0 * k
  · obtain ⟨hx1, hx2, hy1, hy2⟩ := hin
    have := (div_lt_block w0 hk hx1).mpr hx2
    have := (div_lt_block h0 hk hy1).mpr hy2
    rw [if_neg (by omega), sub_tdiv k hx1, sub_tdiv k hy1, if_neg (by omega), if_pos ⟨hx1, hx2, hy1, hy2⟩,
      Int.toNat_natCast, Int.toNat_natCast]
  · rw [if_neg hin]
    by_cases hxy : (x : Int) < ox ∨ (y : Int) < oy
    · rw [if_pos hxy]
    · have hx1 : ox ≤ x := by omega
      have hy1 : oy ≤ y := by omega
      have := div_lt_block w0 hk hx1
      have := div_lt_block h0 hk hy1
      rw [if_neg hxy, sub_tdiv k hx1, sub_tdiv k hy1, if_pos (by omega)]

/-- the same for `scale1DCode` -/
theorem wrap1_eq (src : Nat → Nat → Colour) (w0 k ox : Nat) (fill : Colour) (hk : 0 < k) (x y : Nat) :
    (if (x : Int) < ox then fill
      else if ((x : Int) - ox).tdiv k ≥ (w0 : Int) then fill else src (((x : Int) - ox).tdiv k).toNat 0) =
      enlarged1 src w0 k ox fill x y := by
  unfold enlarged1
  by_cases hin : ox ≤ x ∧ x < ox + w0 * k
  · have := (div_lt_block w0 hk hin.1).mpr hin.2
    rw [if_neg (by omega), sub_tdiv k hin.1, if_neg (by omega), if_pos hin, Int.toNat_natCast]
  · rw [if_neg hin]
    by_cases hxy : (x : Int) < ox
    · rw [if_pos hxy]
    · have hx1 : ox ≤ x := by omega
      have := div_lt_block w0 hk hx1
      rw [if_neg hxy, sub_tdiv k hx1, if_pos (by omega)]

/-- an offset of half the slack centres to within one pixel -/
theorem centred (a : Nat) : a - 2 * (a / 2) ≤ 1 ∧ 2 * (a / 2) ≤ a := by omega

/-- the largest factor by which `w0` fits into `w` -/
theorem factor_spec {w w0 : Nat} (h0 : 1 ≤ w0) (h : w0 ≤ w) :
    1 ≤ w / w0 ∧ w0 * (w / w0) ≤ w ∧ w < w0 * (w / w0 + 1) :=
  ⟨(Nat.le_div_iff_mul_le h0).mpr (by omega), Nat.mul_div_le w w0, Nat.lt_mul_div_succ w h0⟩

/-- the largest factor that fits both ways -/
theorem factor2_spec {w h w0 h0 : Nat} (hw0 : 1 ≤ w0) (hh0 : 1 ≤ h0) (hw : w0 ≤ w) (hh : h0 ≤ h) :
    1 ≤ min (w / w0) (h / h0) ∧ w0 * min (w / w0) (h / h0) ≤ w ∧ h0 * min (w / w0) (h / h0) ≤ h ∧
      (w < w0 * (min (w / w0) (h / h0) + 1) ∨ h < h0 * (min (w / w0) (h / h0) + 1)) := by
  obtain ⟨hw1, hkw, hmw⟩ := factor_spec hw0 hw
  obtain ⟨hh1, hkh, hmh⟩ := factor_spec hh0 hh
  refine ⟨Nat.le_min.mpr ⟨hw1, hh1⟩, Nat.le_trans (Nat.mul_le_mul_left _ (Nat.min_le_left _ _)) hkw,
    Nat.le_trans (Nat.mul_le_mul_left _ (Nat.min_le_right _ _)) hkh, ?_⟩
  rcases Nat.le_total (w / w0) (h / h0) with c | c
  · exact Or.inl (by rw [Nat.min_eq_left c]; exact hmw)
  · exact Or.inr (by rw [Nat.min_eq_right c]; exact hmh)

/-- `scale2DCode` in closed form: an error if either dimension is too small, else the centred enlargement by the
    largest factor that fits both ways -/
theorem scale2D_eq (src : View) (w h : Nat) (fill : Colour) (hw0 : 1 ≤ src.w) (hh0 : 1 ≤ src.h) :
    scale2DCode src w h fill =
      if w < src.w ∨ h < src.h then .error .rejected
      else .ok (newScaledBC src (enlarged src.colourAt src.w src.h (min (w / src.w) (h / src.h))
        ((w - src.w * min (w / src.w) (h / src.h)) / 2) ((h - src.h * min (w / src.w) (h / src.h)) / 2) fill) w h) := by
  have hfac : min ((w : Int).tdiv (src.w : Int)) ((h : Int).tdiv (src.h : Int)) =
      ((min (w / src.w) (h / src.h) : Nat) : Int) := by
    rw [tdiv_nat w src.w, tdiv_nat h src.h]; omega
  unfold scale2DCode
  simp only [hfac]
  generalize hk : min (w / src.w) (h / src.h) = k
  by_cases hs : w < src.w ∨ h < src.h
  · have hk0 : k = 0 := by
      rcases hs with h1 | h1
      · rw [← hk, Nat.div_eq_of_lt h1]; exact Nat.zero_min _
      · rw [← hk, Nat.div_eq_of_lt h1]; exact Nat.min_zero _
    rw [if_pos hs, hk0]; rfl
  · obtain ⟨hk1, hkw', hkh', _⟩ := hk ▸ factor2_spec hw0 hh0 (Nat.le_of_not_lt fun c => hs (.inl c))
      (Nat.le_of_not_lt fun c => hs (.inr c))
    rw [if_neg hs, if_neg (by omega), off_eq hkw', off_eq hkh', Int.toNat_natCast, Int.toNat_natCast]
    exact congrArg (fun wrap => Except.ok (newScaledBC src wrap w h))
      (funext fun x => funext fun y => wrap2_eq src.colourAt src.w src.h k _ _ fill hk1 x y)

/-- the same for `scale1DCode`, where only the width counts -/
theorem scale1D_eq (src : View) (w h : Nat) (fill : Colour) (hw0 : 1 ≤ src.w) :
    scale1DCode src w h fill =
      if w < src.w then .error .rejected
      else .ok (newScaledBC src
        (enlarged1 src.colourAt src.w (w / src.w) ((w - src.w * (w / src.w)) / 2) fill) w h) := by
  unfold scale1DCode
  simp only [tdiv_nat w src.w]
  by_cases hs : w < src.w
  · rw [if_pos hs, Nat.div_eq_of_lt hs]; rfl
  · obtain ⟨hk1, hkw, _⟩ := factor_spec hw0 (by omega : src.w ≤ w)
    rw [if_neg hs, if_neg (by omega), off_eq hkw, Int.toNat_natCast, Int.toNat_natCast]
    exact congrArg (fun wrap => Except.ok (newScaledBC src wrap w h))
      (funext fun x => funext fun y => wrap1_eq src.colourAt src.w _ _ fill hk1 x y)

theorem scaleWithFill_shape (src : View) (w h : Int) (fill : Colour) :
    scaleWithFill src w h fill = .error .rejected ∨
    ∃ wrap W H, scaleWithFill src w h fill = .ok (newScaledBC src wrap W H) := by
  unfold scaleWithFill
  split
  · unfold scale1DCode
    by_cases hc : w.tdiv (src.w : Int) ≤ 0
    · left; simp only [hc, if_true]
    · right; simp only [hc, if_false]; exact ⟨_, _, _, rfl⟩
  · split
    · unfold scale2DCode
      by_cases hc : min (w.tdiv (src.w : Int)) (h.tdiv (src.h : Int)) ≤ 0
      · left; simp only [hc, if_true]
      · right; simp only [hc, if_false]; exact ⟨_, _, _, rfl⟩
    · left; rfl

end BV.Proofs.Scale
