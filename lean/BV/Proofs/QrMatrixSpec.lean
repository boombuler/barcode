/-
  QR matrix layer: the structural checks of the reference decoder `BV.Spec.Qr` (function module map, finder,
  alignment and timing checks, word reader) for all sizes, from the shape of their nested loops; and the facts about
  its table of alignment centres (Annex E) that the drawing proofs use, checked row by row (`centres_facts`).
  Coordinates: (X, Y) = (column, row); the function map is indexed by `Y * dim + X`.
-/
import BV.Proofs.QrMatrixDefs
import BV.Proofs.Bits
namespace BV.Proofs.QrMatrix
open BV BV.Proofs.Bits

theorem index_inj {dim X Y X' Y' : Nat} (hX : X < dim) (hX' : X' < dim) :
    Y * dim + X = Y' * dim + X' ↔ X = X' ∧ Y = Y' := by
  constructor
  · intro h
    have hd : 0 < dim := by omega
    have e1 : (Y * dim + X) / dim = Y := by
      rw [Nat.add_comm, Nat.add_mul_div_right _ _ hd, Nat.div_eq_of_lt hX, Nat.zero_add]
    have e2 : (Y' * dim + X') / dim = Y' := by
      rw [Nat.add_comm, Nat.add_mul_div_right _ _ hd, Nat.div_eq_of_lt hX', Nat.zero_add]
    have hY : Y = Y' := by rw [← e1, ← e2, h]
    subst hY
    exact ⟨by omega, rfl⟩
  · rintro ⟨rfl, rfl⟩; rfl

theorem index_lt {dim X Y : Nat} (hX : X < dim) (hY : Y < dim) : Y * dim + X < dim * dim := by
  have h1 : (Y + 1) * dim ≤ dim * dim := Nat.mul_le_mul_right dim hY
  rw [Nat.add_mul, Nat.one_mul] at h1
  omega

theorem setIfInBounds_getD_true (f : Array Bool) (j k : Nat) :
    (f.setIfInBounds j true).getD k true = (f.getD k true || j == k) := by
  simp only [Array.getD_eq_getD_getElem?, Array.getElem?_setIfInBounds]
  by_cases hjk : j = k
  · subst hjk
    by_cases hj : j < f.size <;> simp [hj]
  · simp [hjk]

theorem foldl_getD_or {α : Type} (step : Array Bool → α → Array Bool) (p : α → Bool) (k : Nat) (l : List α)
    (hstep : ∀ f a, a ∈ l → (step f a).getD k true = (f.getD k true || p a)) (f : Array Bool) :
    (l.foldl step f).getD k true = (f.getD k true || l.any p) := by
  induction l generalizing f with
  | nil => simp
  | cons a l ih =>
    rw [List.foldl_cons, ih (fun f b hb => hstep f b (List.mem_cons_of_mem _ hb)),
      hstep f a (List.mem_cons_self ..), List.any_cons, Bool.or_assoc]

theorem foldl_size {α : Type} (step : Array Bool → α → Array Bool) (l : List α)
    (hstep : ∀ f a, (step f a).size = f.size) (f : Array Bool) : (l.foldl step f).size = f.size := by
  induction l generalizing f with
  | nil => rfl
  | cons a l ih => rw [List.foldl_cons, ih, hstep]

theorem markRect_size (dim : Nat) (f : Array Bool) (x0 y0 x1 y1 : Nat) :
    (Spec.Qr.markRect dim f x0 y0 x1 y1).size = f.size := by
  unfold Spec.Qr.markRect
  apply foldl_size
  intro f dy
  apply foldl_size
  intro f dx
  exact Array.size_setIfInBounds ..

/-- `markRect` marks exactly the modules with `x0 ≤ X ≤ x1` and `y0 ≤ Y ≤ y1` (for a rectangle whose right edge
    `x1` is inside the symbol) and leaves the others as they were. -/
theorem markRect_getD (dim : Nat) (f : Array Bool) (x0 y0 x1 y1 X Y : Nat) (hx1 : x1 < dim) (hX : X < dim) :
    (Spec.Qr.markRect dim f x0 y0 x1 y1).getD (Y * dim + X) true =
      (f.getD (Y * dim + X) true ||
        (decide (x0 ≤ X) && decide (X ≤ x1) && decide (y0 ≤ Y) && decide (Y ≤ y1))) := by
  unfold Spec.Qr.markRect
  rw [foldl_getD_or _ (fun dy => (List.range (x1 + 1 - x0)).any
      (fun dx => (y0 + dy) * dim + (x0 + dx) == Y * dim + X))]
  · congr 1
    rw [Bool.eq_iff_iff]
    simp only [List.any_eq_true, List.mem_range, beq_iff_eq, Bool.and_eq_true, decide_eq_true_eq]
    constructor
    · rintro ⟨dy, hdy, dx, hdx, h⟩
      obtain ⟨rfl, rfl⟩ := (index_inj (by omega) hX).mp h
      omega
    · rintro ⟨⟨⟨hx0, hx1'⟩, hy0⟩, hy1⟩
      exact ⟨Y - y0, by omega, X - x0, by omega,
        by rw [show y0 + (Y - y0) = Y by omega, show x0 + (X - x0) = X by omega]⟩
  · intro f dy _
    apply foldl_getD_or
    intro f dx _
    exact setIfInBounds_getD_true ..

theorem functionMap_size (dim version : Nat) (aligns : List (Nat × Nat)) :
    (Spec.Qr.functionMap dim version aligns).size = dim * dim := by
  have hal : ∀ f : Array Bool, (aligns.foldl (fun f p =>
      Spec.Qr.markRect dim f (p.1 - 2) (p.2 - 2) (p.1 + 2) (p.2 + 2)) f).size = f.size :=
    fun f => foldl_size _ _ (fun f p => markRect_size ..) f
  unfold Spec.Qr.functionMap
  simp only []
  split <;> simp only [markRect_size, hal, Array.size_replicate]

theorem alignFold_getD (dim : Nat) (aligns : List (Nat × Nat))
    (ha : ∀ p ∈ aligns, p.1 + 2 < dim) (f : Array Bool) (X Y : Nat) (hX : X < dim) :
    (aligns.foldl (fun f p => Spec.Qr.markRect dim f (p.1 - 2) (p.2 - 2) (p.1 + 2) (p.2 + 2)) f).getD
        (Y * dim + X) true = (f.getD (Y * dim + X) true || alignAt aligns X Y) := by
  unfold alignAt
  apply foldl_getD_or
  intro f p hp
  rw [markRect_getD dim f _ _ _ _ X Y (ha p hp) hX]
  congr 1
  unfold inSq
  rw [Bool.eq_iff_iff]
  simp only [Bool.and_eq_true, decide_eq_true_eq]
  omega

theorem ite_or_or (c : Prop) [Decidable c] (a x y : Bool) :
    (if c then a || x || y else a) = (a || (decide c && (x || y))) := by
  by_cases h : c <;> simp [h, Bool.or_assoc]

/-- The function map of the reference decoder is the coordinate predicate `isFn`: finder corners with
    separators and format areas, timing row and column, alignment squares, version areas. -/
theorem functionMap_getD (dim version : Nat) (aligns : List (Nat × Nat)) (hdim : 21 ≤ dim)
    (ha : ∀ p ∈ aligns, p.1 + 2 < dim) (X Y : Nat) (hX : X < dim) (hY : Y < dim) :
    (Spec.Qr.functionMap dim version aligns).getD (Y * dim + X) true = isFn dim version aligns X Y := by
  have h0 : (Array.replicate (dim * dim) false).getD (Y * dim + X) true = false := by
    simp [Array.getD_eq_getD_getElem?, index_lt hX hY]
  unfold Spec.Qr.functionMap isFn
  simp (disch := omega) only [apply_ite (fun f : Array Bool => f.getD (Y * dim + X) true),
    markRect_getD _ _ _ _ _ _ X Y, alignFold_getD dim aligns ha _ X Y hX, h0, Bool.false_or, ite_or_or]
  -- both sides are disjunctions in the same order, except that row 6 is marked before column 6
  rw [Bool.eq_iff_iff]
  simp only [Bool.or_eq_true, Bool.and_eq_true, decide_eq_true_eq, beq_iff_eq]
  rw [or_right_comm (b := X = 6)]
  refine or_congr (or_congr (or_congr (or_congr (or_congr (or_congr ?_ ?_) ?_) ?_) ?_) Iff.rfl)
    (and_congr Iff.rfl (or_congr ?_ ?_)) <;> omega

/-- The finder check succeeds when every in-range module of the 9×9 neighbourhood (pattern plus separator)
    has the colour `finderModule`. -/
theorem checkFinder_intro (dim : Nat) (dark : Nat → Nat → Bool) (ox oy : Nat)
    (h : ∀ dx dy : Int, -1 ≤ dx → dx ≤ 7 → -1 ≤ dy → dy ≤ 7 →
      0 ≤ (ox : Int) + dx → (ox : Int) + dx < dim → 0 ≤ (oy : Int) + dy → (oy : Int) + dy < dim →
      dark ((ox : Int) + dx).toNat ((oy : Int) + dy).toNat = Spec.Qr.finderModule dx dy) :
    Spec.Qr.checkFinder dim dark ox oy = true := by
  unfold Spec.Qr.checkFinder
  simp only [List.all_eq_true, List.mem_range]
  intro a ha b hb
  split
  · next hc =>
    simp only [Bool.and_eq_true, decide_eq_true_eq] at hc
    obtain ⟨⟨⟨h1, h2⟩, h3⟩, h4⟩ := hc
    rw [beq_iff_eq]
    exact h ((a : Int) - 1) ((b : Int) - 1) (by omega) (by omega) (by omega) (by omega) h1 h2 h3 h4
  · rfl

/-- the 81 offsets of the 9×9 neighbourhood, over `Fin 9` so that `decide` applies -/
theorem finderModule_eq_fin : ∀ a b : Fin 9,
    Spec.Qr.finderModule ((a.val : Int) - 1) ((b.val : Int) - 1) =
      ((((a.val : Int) - 1) == 0 || ((a.val : Int) - 1) == 6 || ((b.val : Int) - 1) == 0 ||
        ((b.val : Int) - 1) == 6 ||
        (decide (((a.val : Int) - 1) > 1) && decide (((a.val : Int) - 1) < 5) &&
          decide (((b.val : Int) - 1) > 1) && decide (((b.val : Int) - 1) < 5))) &&
       (decide (((a.val : Int) - 1) ≤ 6) && decide (((b.val : Int) - 1) ≤ 6) &&
          decide (((a.val : Int) - 1) ≥ 0) && decide (((b.val : Int) - 1) ≥ 0))) := by
  decide

/-- On the 9×9 neighbourhood the finder colour of the standard (`finderModule`: 7×7 dark ring, light ring,
    3×3 core, light separator) is the colour expression `val` of `Model.Qr.drawFinderPatterns`. -/
theorem finderModule_eq (dx dy : Int) (h1 : -1 ≤ dx) (h2 : dx ≤ 7) (h3 : -1 ≤ dy) (h4 : dy ≤ 7) :
    Spec.Qr.finderModule dx dy =
      ((dx == 0 || dx == 6 || dy == 0 || dy == 6 || (dx > 1 && dx < 5 && dy > 1 && dy < 5)) &&
        (dx ≤ 6 && dy ≤ 6 && dx ≥ 0 && dy ≥ 0)) := by
  have e := finderModule_eq_fin ⟨(dx + 1).toNat, by omega⟩ ⟨(dy + 1).toNat, by omega⟩
  have ex : (((dx + 1).toNat : Nat) : Int) - 1 = dx := by omega
  have ey : (((dy + 1).toNat : Nat) : Int) - 1 = dy := by omega
  simp only [ex, ey] at e
  exact e

/-- the 25 offsets of an alignment pattern, over `Fin 5` so that `decide` applies -/
theorem alignModule_eq_fin : ∀ a b : Fin 5,
    (max ((a.val : Int) - 2).natAbs ((b.val : Int) - 2).natAbs != 1) =
      (((a.val : Int) - 2) == -2 || ((a.val : Int) - 2) == 2 || ((b.val : Int) - 2) == -2 ||
        ((b.val : Int) - 2) == 2 || (((a.val : Int) - 2) == 0 && ((b.val : Int) - 2) == 0)) := by
  decide

/-- The alignment check succeeds when the 5×5 square around the centre has the colours that
    `Model.Qr.drawAlignmentPatterns` draws (its expression `val`). -/
theorem checkAlignment_intro (dark : Nat → Nat → Bool) (cx cy : Nat) (hx : 2 ≤ cx) (hy : 2 ≤ cy)
    (h : ∀ a b : Int, -2 ≤ a → a ≤ 2 → -2 ≤ b → b ≤ 2 →
      dark ((cx : Int) + a).toNat ((cy : Int) + b).toNat =
        (a == -2 || a == 2 || b == -2 || b == 2 || (a == 0 && b == 0))) :
    Spec.Qr.checkAlignment dark cx cy = true := by
  unfold Spec.Qr.checkAlignment
  simp only [List.all_eq_true, List.mem_range]
  intro a ha b hb
  rw [beq_iff_eq]
  have e := h ((a : Int) - 2) ((b : Int) - 2) (by omega) (by omega) (by omega) (by omega)
  have e1 : ((cx : Int) + ((a : Int) - 2)).toNat = cx + a - 2 := by omega
  have e2 : ((cy : Int) + ((b : Int) - 2)).toNat = cy + b - 2 := by omega
  rw [e1, e2] at e
  rw [e]
  exact (alignModule_eq_fin ⟨a, ha⟩ ⟨b, hb⟩).symm

theorem alignmentPositions_eq (cs : List Nat) :
    Spec.Qr.alignmentPositions cs =
      (cs.flatMap (fun cx => cs.map (fun cy => (cx, cy)))).filter (fun p =>
        !((p.1 == 6 && p.2 == 6) || (p.1 == 6 && p.2 == cs.getLastD 0) || (p.1 == cs.getLastD 0 && p.2 == 6))) :=
  rfl

/-- A centre carries an alignment pattern iff both coordinates are in the list of Annex E and it is not one of
    the three finder corners (6,6), (6,last), (last,6). -/
theorem mem_alignmentPositions (cs : List Nat) (p : Nat × Nat) :
    p ∈ Spec.Qr.alignmentPositions cs ↔
      p.1 ∈ cs ∧ p.2 ∈ cs ∧
        ¬((p.1 = 6 ∧ p.2 = 6) ∨ (p.1 = 6 ∧ p.2 = cs.getLastD 0) ∨ (p.1 = cs.getLastD 0 ∧ p.2 = 6)) := by
  obtain ⟨x, y⟩ := p
  rw [alignmentPositions_eq]
  simp only [List.mem_filter, List.mem_flatMap, List.mem_map, Prod.mk.injEq, Bool.not_eq_true',
    Bool.or_eq_false_iff, Bool.and_eq_false_iff, beq_eq_false_iff_ne, ne_eq]
  constructor
  · rintro ⟨⟨cx, hcx, cy, hcy, rfl, rfl⟩, hn⟩
    refine ⟨hcx, hcy, ?_⟩
    omega
  · rintro ⟨hx, hy, hn⟩
    refine ⟨⟨x, hx, y, hy, rfl, rfl⟩, ?_⟩
    omega

/-- the facts about one row of Annex E -/
def CentresFacts (v : Nat) (cs : List Nat) : Prop :=
  let dim := 17 + 4 * v
  (∀ c ∈ cs, c % 2 = 0 ∧ 6 ≤ c ∧ c + 7 ≤ dim) ∧
  cs.Pairwise (fun a b => a + 12 ≤ b ∧ (3 ≤ v → a + 16 ≤ b)) ∧
  (cs ≠ [] → cs.head? = some 6 ∧ cs.getLast? = some (dim - 7)) ∧
  (v = 1 ↔ cs = []) ∧
  cs.getLastD 0 = (if v = 1 then 0 else dim - 7) ∧
  (∀ c ∈ cs, c = 6 ∨ c = dim - 7 ∨ (22 ≤ c ∧ c + 23 ≤ dim)) ∧
  cs.length ≤ 7

instance (v : Nat) (cs : List Nat) : Decidable (CentresFacts v cs) := by
  unfold CentresFacts; infer_instance

theorem centres_certificate :
    Spec.Qr.alignmentCentres.all (fun r => decide (1 ≤ r.1 ∧ r.1 ≤ 40 → CentresFacts r.1 r.2)) = true := by
  decide +kernel

/-- `CentresFacts`, written out, for the alignment centres of every version 1..40 -/
theorem centres_facts (v : Nat) (h1 : 1 ≤ v) (h40 : v ≤ 40) (cs : List Nat)
    (hcs : Spec.Qr.alignmentCentres.lookup v = some cs) :
    let dim := 17 + 4 * v
    (∀ c ∈ cs, c % 2 = 0 ∧ 6 ≤ c ∧ c + 7 ≤ dim) ∧
    cs.Pairwise (fun a b => a + 12 ≤ b ∧ (3 ≤ v → a + 16 ≤ b)) ∧
    (cs ≠ [] → cs.head? = some 6 ∧ cs.getLast? = some (dim - 7)) ∧
    (v = 1 ↔ cs = []) ∧
    cs.getLastD 0 = (if v = 1 then 0 else dim - 7) ∧
    (∀ c ∈ cs, c = 6 ∨ c = dim - 7 ∨ (22 ≤ c ∧ c + 23 ≤ dim)) ∧
    cs.length ≤ 7 := by
  obtain ⟨l₁, l₂, hl, _⟩ := List.lookup_eq_some_iff.mp hcs
  have h := List.all_eq_true.mp centres_certificate (v, cs)
    (by rw [hl]; exact List.mem_append_right _ List.mem_cons_self)
  simp only [decide_eq_true_eq] at h
  exact h ⟨h1, h40⟩

/-- `readWord` reads the big-endian value of a bit list when the module of bit `i` (0 = least significant)
    carries list element `n - 1 - i`. -/
theorem readWord_eq_bitsToNat (dark : Nat → Nat → Bool) (pos : Nat → Nat × Nat) (bits : List Bool)
    (h : ∀ i, i < bits.length → dark (pos i).1 (pos i).2 = bits.getD (bits.length - 1 - i) false) :
    Spec.Qr.readWord dark pos bits.length = bitsToNat bits := by
  induction bits with
  | nil => rfl
  | cons b l ih =>
    have ih' := ih (by
      intro i hi
      rw [h i (by simp only [List.length_cons]; omega)]
      have e : (b :: l).length - 1 - i = (l.length - 1 - i) + 1 := by simp only [List.length_cons]; omega
      rw [e, List.getD_cons_succ])
    have hb := h l.length (by simp)
    have e0 : (b :: l).length - 1 - l.length = 0 := by simp
    rw [e0, List.getD_cons_zero] at hb
    unfold Spec.Qr.readWord at ih' ⊢
    rw [List.length_cons, List.range_succ, List.foldl_append, ih', bitsToNat_cons]
    simp only [List.foldl_cons, List.foldl_nil, hb]
    cases b <;> simp <;> omega

/-- The timing check of `decode` succeeds when row 6 and column 6 alternate (dark on even coordinates)
    between the finder patterns. -/
theorem timing_intro (dim : Nat) (dark : Nat → Nat → Bool)
    (h : ∀ k, 8 ≤ k → k + 8 < dim → dark k 6 = (k % 2 == 0) ∧ dark 6 k = (k % 2 == 0)) :
    (List.range (dim - 16)).all (fun t =>
      let k := t + 8
      dark k 6 == (k % 2 == 0) && dark 6 k == (k % 2 == 0)) = true := by
  simp only [List.all_eq_true, List.mem_range]
  intro t ht
  obtain ⟨h1, h2⟩ := h (t + 8) (by omega) (by omega)
  rw [h1, h2]
  simp

end BV.Proofs.QrMatrix
