/-
  BV.Proofs.PdfAccept — `EncodeWithColor` as a whole (C10 / C04 / C12 / C13): which inputs are accepted, that no
  table lookup is ever out of range (no panic), and the closed form of the accepted symbol: its codeword
  sequence, its grid of rows and the module words of every row.
-/
import BV.Proofs.PdfDims
import BV.Proofs.PdfFrame
import BV.Proofs.PdfLfsr
import BV.Proofs.PdfHigh
import BV.Proofs.Bars
namespace BV.Proofs.PdfAccept
open BV BV.Model.Pdf417 BV.Gen.Pdf417 BV.Spec.Pdf417
open BV.Proofs.PdfDims BV.Proofs.PdfFrame BV.Proofs.PdfRS BV.Proofs.PdfHigh

/-- length descriptor, data, padding: the data region of the symbol -/
def dataRegion (cws : List Nat) (cols lvl : Nat) : List Nat :=
  (cws.length + (getPadding cws.length (2 ^ (lvl + 1)) cols).length + 1) ::
    (cws ++ getPadding cws.length (2 ^ (lvl + 1)) cols)

/-- the full codeword sequence: data region followed by its check words -/
def symbolCodewords (cws : List Nat) (cols lvl : Nat) : List Nat :=
  dataRegion cws cols lvl ++ checkWords lvl (dataRegion cws cols lvl)

theorem encodeData_eq (cws : List Nat) (cols lvl : Nat) (h : lvl ≤ 8) :
    encodeData cws cols lvl = .ok (symbolCodewords cws cols lvl) := by
  unfold encodeData
  simp only [eccCount_eq, List.length_append]
  rw [compute_eq lvl h]
  rfl

theorem dataRegion_length (cws : List Nat) (cols lvl : Nat) :
    (dataRegion cws cols lvl).length = cws.length + (getPadding cws.length (2 ^ (lvl + 1)) cols).length + 1 := by
  simp [dataRegion]

/-- the sequence fills the rows × cols grid exactly -/
theorem symbolCodewords_length (cws : List Nat) (cols lvl : Nat) (h : lvl ≤ 8) (hc : 0 < cols) :
    (symbolCodewords cws cols lvl).length = calculateNumberOfRows cws.length (2 ^ (lvl + 1)) cols * cols := by
  rw [symbolCodewords, List.length_append, checkWords_length lvl h, dataRegion_length,
    (padding_spec cws.length (2 ^ (lvl + 1)) cols hc).2.1]
  omega

/-- all codewords of a symbol that passes the limit test are < 929, provided the data codewords are -/
theorem symbolCodewords_lt (cws : List Nat) (cols lvl : Nat) (hc : 0 < cols ∧ cols ≤ 30) (hd : ∀ c ∈ cws, c < 929)
    (hsmall : cws.length + 1 + 2 ^ (lvl + 1) ≤ 900) : ∀ c ∈ symbolCodewords cws cols lvl, c < 929 := by
  obtain ⟨hp, _, hpad⟩ := padding_spec cws.length (2 ^ (lvl + 1)) cols hc.1
  have hk : 0 < 2 ^ (lvl + 1) := Nat.two_pow_pos _
  intro c hcmem
  rcases List.mem_append.mp hcmem with h1 | h1
  · rcases List.mem_cons.mp h1 with rfl | h2
    · omega
    · rcases List.mem_append.mp h2 with h3 | h3
      · exact hd c h3
      · rw [hpad c h3]; omega
  · exact checkWords_lt _ _ c h1

/-- `gridRows` cuts a sequence of `k·cols` codewords into `k` rows of `cols` codewords -/
theorem gridRows_spec (cols : Nat) (hc : 0 < cols) : ∀ (k fuel : Nat) (cw : List Nat), cw.length = k * cols →
    cw.length < fuel →
    (gridRows fuel cw cols).length = k ∧ (∀ row ∈ gridRows fuel cw cols, row.length = cols) ∧
    (gridRows fuel cw cols).flatten = cw := by
  intro k
  induction k with
  | zero =>
    intro fuel cw hlen hf
    have : cw = [] := List.eq_nil_of_length_eq_zero (by simpa using hlen)
    subst this
    cases fuel with
    | zero => simp at hf
    | succ fuel => simp [gridRows]
  | succ k ih =>
    intro fuel cw hlen hf
    have hge : cols ≤ cw.length := by
      rw [hlen, Nat.succ_mul]; omega
    cases fuel with
    | zero => simp at hf
    | succ fuel =>
      have hpos : cw.length > 0 := by omega
      have hmin : BV.Model.Pdf417.min cols cw.length = cols := by
        unfold BV.Model.Pdf417.min; rw [if_pos hge]
      have hdrop : (cw.drop cols).length = k * cols := by
        rw [List.length_drop, hlen, Nat.succ_mul]; omega
      obtain ⟨h1, h2, h3⟩ := ih fuel (cw.drop cols) hdrop (by rw [List.length_drop]; omega)
      unfold gridRows
      rw [if_pos hpos, hmin]
      refine ⟨by simp [h1], ?_, ?_⟩
      · intro row hrow
        rcases List.mem_cons.mp hrow with rfl | hrow
        · rw [List.length_take]; omega
        · exact h2 row hrow
      · rw [List.flatten_cons, h3, List.take_append_drop]

/-- the 17-module word of codeword `w` in cluster index `ci` (snapshot entry as module value) -/
def pat (ci w : Nat) : Nat := entryModules ((clusterList ci).getD w 0)

theorem getCodeword_pat (ci w : Nat) (hci : ci < 3) (hw : w < 929) : getCodeword ci w = .ok (pat ci w) := by
  obtain ⟨hlt, h⟩ := getCodeword_ok ci w hci hw
  rw [h, pat, List.getD_eq_getElem?_getD, List.getElem?_eq_getElem hlt]
  rfl

/-- the Spec reads the word of every codeword back (restating `symbolValue_getCodeword` for `pat`) -/
theorem symbolValue_pat (ci w : Nat) (hci : ci < 3) (hw : w < 929) :
    pat ci w < 2 ^ 17 ∧ symbolValue ci (msbBits (pat ci w) 17) = .ok w := by
  obtain ⟨v, h1, h2, h3⟩ := symbolValue_getCodeword ci w hci hw
  rw [getCodeword_pat ci w hci hw] at h1
  injection h1 with h1
  subst h1
  exact ⟨h2, h3⟩

/-- the module words of row `r`: start, left indicator, data, right indicator, stop -/
def rowCodeList (rows cols lvl r : Nat) (row : List Nat) : List Nat :=
  [c_start_word, pat (r % 3) (getLeftCodeWord r rows cols lvl)] ++ row.map (pat (r % 3)) ++
    [pat (r % 3) (getRightCodeWord r rows cols lvl), c_stop_word]

theorem rowCodes_eq (rows cols lvl r : Nat) (row : List Nat) (hr : r < rows) (hrows : rows ≤ 30)
    (hcols : cols ≤ 30) (hl : lvl ≤ 8) (hrow : ∀ w ∈ row, w < 929) :
    rowCodes r row rows cols lvl = .ok (rowCodeList rows cols lvl r row) := by
  have hci : r % 3 < 3 := Nat.mod_lt _ (by omega)
  obtain ⟨h1, h2⟩ := indicators_lt r rows cols lvl hr hrows hcols hl
  unfold rowCodes
  simp only []
  rw [getCodeword_pat _ _ hci h1, Bars.mapM_ok _ (pat (r % 3)) row (fun w hw => getCodeword_pat _ w hci (hrow w hw)),
    getCodeword_pat _ _ hci h2]
  rfl

/-- the rows from row number `r` on -/
def codesFrom (rows cols lvl : Nat) : Nat → List (List Nat) → List (List Nat)
  | _, [] => []
  | r, row :: rest => rowCodeList rows cols lvl r row :: codesFrom rows cols lvl (r + 1) rest

theorem encodeWithColor_go_eq (rows cols lvl : Nat) (hrows : rows ≤ 30) (hcols : cols ≤ 30) (hl : lvl ≤ 8) :
    ∀ (grid : List (List Nat)) (r : Nat) (codes : List (List Nat)), r + grid.length ≤ rows →
    (∀ row ∈ grid, ∀ w ∈ row, w < 929) →
    encodeWithColor.go lvl cols rows grid r codes = .ok (codes ++ codesFrom rows cols lvl r grid) := by
  intro grid
  induction grid with
  | nil => intro r codes _ _; simp [encodeWithColor.go, codesFrom]
  | cons row rest ih =>
    intro r codes hlen hlt
    unfold encodeWithColor.go
    rw [rowCodes_eq rows cols lvl r row (by simp at hlen; omega) hrows hcols hl
      (hlt row List.mem_cons_self)]
    simp only [codesFrom]
    have := ih (r + 1) (codes ++ [rowCodeList rows cols lvl r row]) (by simp at hlen ⊢; omega)
      (fun row' h' => hlt row' (List.mem_cons_of_mem _ h'))
    simp only [List.append_assoc, List.singleton_append] at this
    exact this

/-- the picture of an accepted symbol: every module word of every row, rendered -/
def symbolOf (data : Bytes) (cws : List Nat) (cols rows lvl : Nat) (s : Scheme) : Barcode :=
  let cw := symbolCodewords cws cols lvl
  mkBarcode data ((cols + 4) * 17 + 1)
    (renderBarcode (codesFrom rows cols lvl 0 (gridRows (cw.length + 1) cw cols))) s

/-- C10 (first half): a security level above 8 is rejected with an error -/
theorem reject_level (data : Bytes) (lvl : Nat) (s : Scheme) (h : 9 ≤ lvl) :
    encodeWithColor data lvl s = .error .rejected := by
  unfold encodeWithColor
  rw [if_pos h]

theorem outOfLimits_iff (cols rows : Nat) :
    (decide (cols < c_minCols) || decide (cols > c_maxCols) || decide (rows < c_minRows) ||
      decide (rows > c_maxRows)) = true ↔ cols < 2 ∨ 30 < cols ∨ rows < 2 ∨ 30 < rows := by
  simp only [Bool.or_eq_true, decide_eq_true_eq, or_assoc]
  rfl

/-- the complete case analysis of `EncodeWithColor` for the levels 0..8: with `cws` the data codewords
    (`highlevelEncode` never fails), the input is rejected iff `cws.length + 1 + 2^(lvl+1) > 900`; otherwise
    the result is the symbol with the dimensions `calcDimensions` chose, and these satisfy the limits -/
theorem encodeWithColor_cases (data : Bytes) (lvl : Nat) (s : Scheme) (h : lvl ≤ 8) :
    ∃ cws, highlevelEncode data = .ok cws ∧ (∀ c ∈ cws, c < 929) ∧
      Spec.Pdf417.decodeData cws = .ok data ∧ cws.getLast? ≠ some 900 ∧
      ((900 < cws.length + 1 + 2 ^ (lvl + 1) ∧ encodeWithColor data lvl s = .error .rejected) ∨
       (cws.length + 1 + 2 ^ (lvl + 1) ≤ 900 ∧
        ∃ cols rows, calcDimensions cws.length (2 ^ (lvl + 1)) = (cols, rows) ∧
          2 ≤ cols ∧ cols ≤ 30 ∧ 2 ≤ rows ∧ rows ≤ 30 ∧
          rows = calculateNumberOfRows cws.length (2 ^ (lvl + 1)) cols ∧
          encodeWithColor data lvl s = .ok (symbolOf data cws cols rows lvl s))) := by
  obtain ⟨cws, hcws, hlt, hdec, hlast⟩ := highlevelEncode_spec data
  refine ⟨cws, hcws, hlt, hdec, hlast, ?_⟩
  have hk : 2 ≤ 2 ^ (lvl + 1) := Nat.one_lt_two_pow (Nat.succ_ne_zero lvl)
  have hacc := calcDimensions_accept_iff cws.length (2 ^ (lvl + 1)) hk
  unfold encodeWithColor
  rw [if_neg (by omega), hcws]
  simp only [eccCount_eq, bind, Except.bind]
  generalize hdim : calcDimensions cws.length (2 ^ (lvl + 1)) = dims at *
  obtain ⟨cols, rows⟩ := dims
  simp only [] at hacc ⊢
  by_cases hsmall : cws.length + 1 + 2 ^ (lvl + 1) ≤ 900
  · right
    obtain ⟨hc1, hc2, hr1, hr2⟩ := hacc.mpr hsmall
    have hrows := calcDimensions_rows cws.length _ cols rows hk hdim (by omega)
    refine ⟨hsmall, cols, rows, rfl, hc1, hc2, hr1, hr2, hrows, ?_⟩
    rw [if_neg (mt (outOfLimits_iff cols rows).mp (by omega)), encodeData_eq cws cols lvl h]
    simp only []
    have hlen := symbolCodewords_length cws cols lvl h (by omega)
    obtain ⟨hp1, hp2, _⟩ := padding_spec cws.length (2 ^ (lvl + 1)) cols (by omega)
    have hcwlt := symbolCodewords_lt cws cols lvl ⟨by omega, hc2⟩ hlt hsmall
    rw [← hrows] at hlen
    obtain ⟨g1, g2, g3⟩ := gridRows_spec cols (by omega) rows ((symbolCodewords cws cols lvl).length + 1)
      (symbolCodewords cws cols lvl) hlen (by omega)
    rw [encodeWithColor_go_eq rows cols lvl hr2 hc2 h _ 0 [] (by omega)
      (by
        intro row hrow w hw
        apply hcwlt
        rw [← g3]
        exact List.mem_flatten.mpr ⟨row, hrow, hw⟩)]
    rfl
  · left
    refine ⟨by omega, ?_⟩
    have hnot := mt hacc.mp hsmall
    rw [if_pos ((outOfLimits_iff cols rows).mpr (by omega))]

/-- what `EncodeWithColor` returns, when it returns a barcode: the level is at most 8 and the barcode is
    `symbolOf` for the second case of `encodeWithColor_cases` -/
theorem encodeWithColor_ok (data : Bytes) (lvl : Nat) (s : Scheme) (bc : Barcode)
    (h : encodeWithColor data lvl s = .ok bc) :
    lvl ≤ 8 ∧ ∃ cws, highlevelEncode data = .ok cws ∧ (∀ c ∈ cws, c < 929) ∧
      Spec.Pdf417.decodeData cws = .ok data ∧ cws.getLast? ≠ some 900 ∧ cws.length + 1 + 2 ^ (lvl + 1) ≤ 900 ∧
      ∃ cols rows, calcDimensions cws.length (2 ^ (lvl + 1)) = (cols, rows) ∧
        2 ≤ cols ∧ cols ≤ 30 ∧ 2 ≤ rows ∧ rows ≤ 30 ∧
        rows = calculateNumberOfRows cws.length (2 ^ (lvl + 1)) cols ∧ bc = symbolOf data cws cols rows lvl s := by
  have hl : lvl ≤ 8 := by
    apply Nat.le_of_not_lt
    intro hgt
    rw [reject_level data lvl s hgt] at h
    cases h
  obtain ⟨cws, hcws, hlt, hdec, hlast, hcase⟩ := encodeWithColor_cases data lvl s hl
  rcases hcase with ⟨_, hrej⟩ | ⟨hsmall, cols, rows, hdim, hc1, hc2, hr1, hr2, hrows, hok⟩
  · rw [hrej] at h; cases h
  · rw [hok] at h
    injection h with h
    exact ⟨hl, cws, hcws, hlt, hdec, hlast, hsmall, cols, rows, hdim, hc1, hc2, hr1, hr2, hrows, h.symm⟩

end BV.Proofs.PdfAccept
