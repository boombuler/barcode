/-
  Proofs for C02 / C12 (DataMatrix error correction): `calcECC` never panics on the table rows, appends
  `ECCCount` bytes, and block `b` of the ISO de-interleaving (`Spec.Datamatrix.everyNth`) of the appended
  bytes is the Reed–Solomon remainder of block `b` of the data.
-/
import BV.Proofs.DmSize
import BV.Proofs.DmAscii
namespace BV.Proofs.DmEcc
open BV BV.Model BV.Model.Datamatrix BV.Spec.Datamatrix BV.Proofs.DmSize BV.Proofs.DmAscii

/-- offset of the first index `≥ s` that is `≡ b (mod n)`, as a function of `r = s % n` -/
def firstHit (n b r : Nat) : Nat := if r ≤ b then b - r else b + n - r

theorem succ_mod_cases (s n : Nat) (hn : 0 < n) :
    (s % n + 1 < n ∧ (s + 1) % n = s % n + 1) ∨ (s % n + 1 = n ∧ (s + 1) % n = 0) := by
  have hr : s % n < n := Nat.mod_lt _ hn
  have hm : (s + 1) % n = (s % n + 1) % n := (Nat.mod_add_mod s n 1).symm
  by_cases h : s % n + 1 < n
  · left
    exact ⟨h, by rw [hm, Nat.mod_eq_of_lt h]⟩
  · right
    have e : s % n + 1 = n := by omega
    exact ⟨e, by rw [hm, e, Nat.mod_self]⟩

theorem everyNthFrom_getElem? {α} (n b : Nat) (hb : b < n) : ∀ (l : List α) (s t : Nat),
    ((l.zipIdx s).filterMap (fun (p : α × Nat) => if p.2 % n = b then some p.1 else none))[t]? =
      l[firstHit n b (s % n) + n * t]? := by
  intro l
  induction l with
  | nil => intro s t; simp
  | cons x l ih =>
    intro s t
    have hr : s % n < n := Nat.mod_lt _ (by omega)
    rw [List.zipIdx_cons, List.filterMap_cons]
    by_cases hsb : s % n = b
    · simp only [hsb, if_true]
      have h0 : firstHit n b b = 0 := by simp [firstHit]
      rw [h0]
      cases t with
      | zero => simp
      | succ t =>
        rw [List.getElem?_cons_succ, ih (s + 1) t]
        have hf : firstHit n b ((s + 1) % n) = n - 1 := by
          rcases succ_mod_cases s n (by omega) with ⟨h1, h2⟩ | ⟨h1, h2⟩
          · rw [h2]; unfold firstHit; rw [if_neg (by omega)]; omega
          · rw [h2]; unfold firstHit; rw [if_pos (by omega)]; omega
        rw [hf, Nat.mul_succ]
        have e : 0 + (n * t + n) = (n - 1 + n * t) + 1 := by omega
        rw [e, List.getElem?_cons_succ]
    · simp only [hsb, if_false]
      rw [ih (s + 1) t]
      have hf : firstHit n b (s % n) = firstHit n b ((s + 1) % n) + 1 := by
        rcases succ_mod_cases s n (by omega) with ⟨h1, h2⟩ | ⟨h1, h2⟩
        · rw [h2]; unfold firstHit
          by_cases hle : s % n ≤ b
          · rw [if_pos hle, if_pos (by omega)]; omega
          · rw [if_neg hle, if_neg (by omega)]; omega
        · rw [h2]; unfold firstHit
          rw [if_neg (by omega), if_pos (by omega)]; omega
      rw [hf]
      have e : firstHit n b ((s + 1) % n) + 1 + n * t = (firstHit n b ((s + 1) % n) + n * t) + 1 := by omega
      rw [e, List.getElem?_cons_succ]

/-- element `t` of block `b` of an `n`-fold interleaved list is element `b + n t` of the list -/
theorem everyNth_getElem? (n b : Nat) (hb : b < n) (l : List Nat) (t : Nat) :
    (everyNth n b l)[t]? = l[b + n * t]? := by
  have := everyNthFrom_getElem? n b hb l 0 t
  rw [Nat.zero_mod] at this
  have h0 : firstHit n b 0 = b := by simp [firstHit]
  rw [h0] at this
  rw [← this]
  rfl

/-- a block of an interleaved list, given that exactly `cnt` indices `b + n t` fall inside the list -/
theorem everyNth_eq (n b : Nat) (hb : b < n) (l : List Nat) (cnt : Nat)
    (h1 : ∀ t, t < cnt → b + n * t < l.length) (h2 : l.length ≤ b + n * cnt) :
    everyNth n b l = (List.range cnt).map (fun t => l.getD (b + n * t) 0) := by
  apply List.ext_getElem?
  intro t
  rw [everyNth_getElem? n b hb]
  by_cases ht : t < cnt
  · have := h1 t ht
    simp [ht, List.getD_eq_getElem?_getD, List.getElem?_eq_getElem this]
  · have h3 : l.length ≤ b + n * t := by
      have : n * cnt ≤ n * t := Nat.mul_le_mul_left n (by omega)
      omega
    rw [List.getElem?_eq_none h3, List.getElem?_eq_none]
    simp; omega

theorem everyNth_mem (n b : Nat) (l : List Nat) (x : Nat) (h : x ∈ everyNth n b l) : x ∈ l := by
  unfold everyNth at h
  obtain ⟨p, hp, hx⟩ := List.mem_filterMap.mp h
  obtain ⟨v, i⟩ := p
  simp only at hx
  split at hx
  · cases hx
    have := List.mem_zipIdx hp
    rw [this.2.2]
    exact List.getElem_mem _
  · cases hx

theorem fillBuff_spec (data : Array UInt8) (step : Nat) : ∀ (rounds i j : Nat) (buff : Array Nat),
    j + rounds ≤ buff.size → (∀ t, t < rounds → i + step * t < data.size) →
    ∃ buff', fillBuff data step rounds i j buff = .ok buff' ∧ buff'.size = buff.size ∧
      (∀ t, t < rounds → buff'[j + t]? = (data[i + step * t]?).map UInt8.toNat) ∧
      (∀ p, p < j → buff'[p]? = buff[p]?) := by
  intro rounds
  induction rounds with
  | zero =>
    intro i j buff _ _
    exact ⟨buff, rfl, rfl, fun t ht => absurd ht (by omega), fun _ _ => rfl⟩
  | succ rounds ih =>
    intro i j buff hj hi
    have hj' : j < buff.size := by omega
    have hi0 : i < data.size := by have := hi 0 (by omega); simpa using this
    rw [fillBuff]
    simp only [hj', if_true, Array.getElem?_eq_getElem hi0]
    obtain ⟨buff', h1, h2, h3, h4⟩ := ih (i + step) (j + 1) (buff.set! j data[i].toNat)
      (by simp; omega)
      (fun t ht => by have := hi (t + 1) (by omega); rw [Nat.mul_succ] at this; omega)
    refine ⟨buff', h1, by simpa using h2, ?_, ?_⟩
    · intro t ht
      cases t with
      | zero =>
        rw [Nat.add_zero, Nat.mul_zero, Nat.add_zero, h4 j (by omega)]
        simp [hj', Array.getElem?_eq_getElem hi0]
      | succ t =>
        have := h3 t (by omega)
        rw [Nat.mul_succ]
        rw [show j + (t + 1) = j + 1 + t by omega, show i + (step * t + step) = i + step + step * t by omega]
        exact this
    · intro p hp
      rw [h4 p (by omega)]
      simp [Array.getElem?_setIfInBounds]
      omega

theorem storeEcc_spec (ecc : Array Nat) (dataSize step : Nat) (hstep : 0 < step) :
    ∀ (rounds i j : Nat) (arr : Array UInt8),
    j + rounds ≤ ecc.size → (∀ t, t < rounds → dataSize + i + step * t < arr.size) →
    ∃ arr', storeEcc ecc dataSize step rounds i j arr = .ok arr' ∧ arr'.size = arr.size ∧
      (∀ t, t < rounds → arr'[dataSize + i + step * t]? = (ecc[j + t]?).map UInt8.ofNat) ∧
      (∀ p, (∀ t, t < rounds → p ≠ dataSize + i + step * t) → arr'[p]? = arr[p]?) := by
  intro rounds
  induction rounds with
  | zero =>
    intro i j arr _ _
    exact ⟨arr, rfl, rfl, fun t ht => absurd ht (by omega), fun _ _ => rfl⟩
  | succ rounds ih =>
    intro i j arr hj hi
    have hj' : j < ecc.size := by omega
    have hi0 : dataSize + i < arr.size := by have := hi 0 (by omega); simpa using this
    rw [storeEcc]
    simp only [Array.getElem?_eq_getElem hj', hi0, if_true]
    obtain ⟨arr', h1, h2, h3, h4⟩ := ih (i + step) (j + 1) (arr.set! (dataSize + i) (UInt8.ofNat ecc[j]))
      (by omega)
      (fun t ht => by
        have := hi (t + 1) (by omega); rw [Nat.mul_succ] at this
        simp only [Array.set!_eq_setIfInBounds, Array.size_setIfInBounds]; omega)
    refine ⟨arr', h1, by simpa using h2, ?_, ?_⟩
    · intro t ht
      cases t with
      | zero =>
        rw [Nat.mul_zero, Nat.add_zero, Nat.add_zero, h4 (dataSize + i)]
        · simp [hi0, Array.getElem?_eq_getElem hj']
        · intro t _
          have : 0 < step * (t + 1) := Nat.mul_pos hstep (by omega)
          rw [Nat.mul_succ] at this
          omega
      | succ t =>
        have := h3 t (by omega)
        rw [Nat.mul_succ]
        rw [show j + (t + 1) = j + 1 + t by omega,
          show dataSize + i + (step * t + step) = dataSize + (i + step) + step * t by omega]
        exact this
    · intro p hp
      rw [h4 p]
      · have := hp 0 (by omega)
        simp only [Nat.mul_zero, Nat.add_zero] at this
        simp [Array.getElem?_setIfInBounds]
        omega
      · intro t ht
        have := hp (t + 1) (by omega)
        rw [Nat.mul_succ] at this
        omega

/-- body of the block loop of `calcECC` -/
def eccStep (size : CodeSize) (dataSize : Nat) (arr : Array UInt8) (block : Nat) : Res (Array UInt8) := do
  let blockCount := size.blockCount.toNat
  let eccPer := size.errorCorrectionCodewordsPerBlock.toNat
  let dataCnt := size.dataCodewordsForBlock (block : Int)
  let buff0 : Array Nat := Array.replicate dataCnt.toNat 0
  let buff ← fillBuff arr blockCount (strideCount block dataSize blockCount) block 0 buff0
  let ecc := GF.rsEncode ecField buff.toList eccPer
  storeEcc ecc.toArray dataSize blockCount (strideCount block (eccPer * blockCount) blockCount) block 0 arr

theorem calcECC_eq (data : Bytes) (size : CodeSize) :
    calcECC data size =
      ((List.range size.blockCount.toNat).foldlM (eccStep size data.length)
        (data ++ List.replicate size.eccCount.toNat 0).toArray).map Array.toList := by
  unfold calcECC eccStep
  simp only [bind, Except.bind, pure, Except.pure, Except.map]

/-- what the loops of `calcECC` need of a table row for `D` data codewords: positive block count, the check
    area is `k·B` long, and for every block the two stride loops make exactly `DataCodewordsForBlock` resp.
    `k` rounds, all inside the slices -/
def eccShape (s : CodeSize) (D : Nat) : Bool :=
  let B := s.blockCount.toNat
  let k := s.errorCorrectionCodewordsPerBlock.toNat
  decide (0 < B) && s.eccCount.toNat == k * B &&
  (List.range B).all (fun b =>
    let cnt := (s.dataCodewordsForBlock (b : Int)).toNat
    strideCount b D B == cnt && strideCount b (k * B) B == k &&
    decide (0 < cnt) && decide (b + B * (cnt - 1) < D) && decide (D ≤ b + B * cnt))

/-- certificate (24 rows × their blocks): every table row has the shape the loops need -/
theorem table_eccShape : codeSizes.all (fun s => eccShape s s.dataCodewords.toNat) = true := by
  decide +kernel

/-- `Encode` returns at least `eccCount` symbols (`eccCount - len` zeros in front of the remainder) -/
theorem rsEncode_length_ge (f : GF.Field) (d : List Nat) (k : Nat) : k ≤ (GF.rsEncode f d k).length := by
  unfold GF.rsEncode GF.encodeWith
  simp only [List.length_append, List.length_replicate]
  omega

/-- data codewords of block `b` (every `B`-th codeword from `b` on), as the numbers the RS encoder gets -/
def blockWords (s : CodeSize) (data : Bytes) (b : Nat) : List Nat :=
  (List.range (s.dataCodewordsForBlock (b : Int)).toNat).map
    (fun t => (data.getD (b + s.blockCount.toNat * t) 0).toNat)

/-- the check symbols `calcECC` computes for block `b` -/
def blockChecks (s : CodeSize) (data : Bytes) (b : Nat) : List Nat :=
  GF.rsEncode ecField (blockWords s data b) s.errorCorrectionCodewordsPerBlock.toNat

/-- loop invariant after the blocks `< m` -/
def EccInv (s : CodeSize) (data : Bytes) (m : Nat) (arr : Array UInt8) : Prop :=
  let B := s.blockCount.toNat
  let k := s.errorCorrectionCodewordsPerBlock.toNat
  arr.size = data.length + k * B ∧ (∀ i, i < data.length → arr[i]? = data[i]?) ∧
  (∀ b, b < m → ∀ t, t < k → arr[data.length + b + B * t]? = ((blockChecks s data b)[t]?).map UInt8.ofNat)

theorem eccStep_inv (s : CodeSize) (data : Bytes) (hs : eccShape s data.length = true) (m : Nat)
    (hm : m < s.blockCount.toNat) (arr : Array UInt8) (hinv : EccInv s data m arr) :
    ∃ arr', eccStep s data.length arr m = .ok arr' ∧ EccInv s data (m + 1) arr' := by
  unfold eccShape at hs
  unfold EccInv at hinv ⊢
  simp only [Bool.and_eq_true, decide_eq_true_eq, beq_iff_eq, List.all_eq_true, List.mem_range] at hs
  obtain ⟨⟨hB, hE⟩, hblk⟩ := hs
  obtain ⟨⟨⟨⟨c1, c2⟩, c3⟩, c4⟩, c5⟩ := hblk m hm
  obtain ⟨i1, i2, i3⟩ := hinv
  generalize hBdef : s.blockCount.toNat = B at *
  generalize hkdef : s.errorCorrectionCodewordsPerBlock.toNat = k at *
  generalize hcdef : (s.dataCodewordsForBlock (m : Int)).toNat = cnt at *
  -- indices of block m inside the data
  have hidx : ∀ t, t < cnt → m + B * t < data.length := by
    intro t ht
    have : B * t ≤ B * (cnt - 1) := Nat.mul_le_mul_left B (by omega)
    omega
  -- first loop
  obtain ⟨buff, f1, f2, f3, _⟩ := fillBuff_spec arr B cnt m 0 (Array.replicate cnt 0)
    (by simp) (fun t ht => by have := hidx t ht; omega)
  have hbuff : buff.toList = blockWords s data m := by
    unfold blockWords
    rw [hcdef, hBdef]
    apply List.ext_getElem?
    intro t
    by_cases ht : t < cnt
    · have h := f3 t ht
      rw [Nat.zero_add] at h
      rw [Array.getElem?_toList, h, i2 _ (hidx t ht)]
      simp [ht, List.getD_eq_getElem?_getD, List.getElem?_eq_getElem (hidx t ht)]
    · rw [List.getElem?_eq_none, List.getElem?_eq_none]
      · simp; omega
      · simp [f2]; omega
  -- second loop
  have hlen := rsEncode_length_ge ecField buff.toList k
  have hwidx : ∀ t, t < k → data.length + m + B * t < arr.size := by
    intro t ht
    have : B * (t + 1) ≤ B * k := Nat.mul_le_mul_left B (by omega)
    rw [Nat.mul_succ] at this
    rw [i1, Nat.mul_comm k B]
    omega
  obtain ⟨arr', s1, s2, s3, s4⟩ := storeEcc_spec (GF.rsEncode ecField buff.toList k).toArray data.length B hB
    k m 0 arr (by simpa using hlen) hwidx
  refine ⟨arr', ?_, ?_⟩
  · unfold eccStep
    simp only [hBdef, hkdef, hcdef, c1, c2, f1, bind, Except.bind]
    exact s1
  · refine ⟨by rw [s2, i1], ?_, ?_⟩
    · intro i hi
      rw [s4 i (fun t _ => by omega), i2 i hi]
    · intro b hb t ht
      by_cases hbm : b = m
      · subst hbm
        have := s3 t ht
        rw [Nat.zero_add] at this
        rw [this]
        unfold blockChecks
        rw [hkdef, ← hbuff]
        simp
      · rw [s4, i3 b (by omega) t ht]
        intro t' _ heq
        have h1 : (b + B * t) % B = (m + B * t') % B := by
          have : b + B * t = m + B * t' := by omega
          rw [this]
        rw [Nat.add_mul_mod_self_left, Nat.add_mul_mod_self_left, Nat.mod_eq_of_lt (by omega),
          Nat.mod_eq_of_lt hm] at h1
        exact hbm h1

theorem eccLoop_inv (s : CodeSize) (data : Bytes) (hs : eccShape s data.length = true) (arr0 : Array UInt8)
    (h0 : EccInv s data 0 arr0) : ∀ m, m ≤ s.blockCount.toNat →
    ∃ arr, (List.range m).foldlM (eccStep s data.length) arr0 = .ok arr ∧ EccInv s data m arr := by
  intro m
  induction m with
  | zero => intro _; exact ⟨arr0, rfl, h0⟩
  | succ m ih =>
    intro hm
    obtain ⟨arr, h1, h2⟩ := ih (by omega)
    obtain ⟨arr', h3, h4⟩ := eccStep_inv s data hs m (by omega) arr h2
    refine ⟨arr', ?_, h4⟩
    rw [List.range_succ, List.foldlM_append, h1]
    simp only [bind, Except.bind, List.foldlM_cons, List.foldlM_nil, h3]
    rfl

/-- `calcECC` on any row with the loop shape.  The store loop writes `byte(ecc[j])` for `j < k` only, whatever the
    encoder returned: hence `take k` and `· % 256` (that it returns exactly `k` symbols below 256 is C17). -/
theorem calcECC_shape (s : CodeSize) (data : Bytes) (hs : eccShape s data.length = true) :
    ∃ ecc : Bytes, calcECC data s = .ok (data ++ ecc) ∧ ecc.length = s.eccCount.toNat ∧
      ∀ b, b < s.blockCount.toNat →
        (everyNth s.blockCount.toNat b (toNats data)).length = (s.dataCodewordsForBlock (b : Int)).toNat ∧
        everyNth s.blockCount.toNat b (toNats ecc) =
          ((GF.rsEncode ecField (everyNth s.blockCount.toNat b (toNats data))
            s.errorCorrectionCodewordsPerBlock.toNat).take s.errorCorrectionCodewordsPerBlock.toNat).map (· % 256) := by
  have hs' := hs
  unfold eccShape at hs'
  simp only [Bool.and_eq_true, decide_eq_true_eq, beq_iff_eq, List.all_eq_true, List.mem_range] at hs'
  obtain ⟨⟨hB, hE⟩, hblk⟩ := hs'
  have h0 : EccInv s data 0 (data ++ List.replicate s.eccCount.toNat 0).toArray := by
    refine ⟨by simp [hE], ?_, fun b hb => absurd hb (by omega)⟩
    intro i hi
    simp [List.getElem?_append_left hi]
  obtain ⟨arr, h1, i1, i2, i3⟩ := eccLoop_inv s data hs _ h0 s.blockCount.toNat (Nat.le_refl _)
  generalize hBdef : s.blockCount.toNat = B at *
  generalize hkdef : s.errorCorrectionCodewordsPerBlock.toNat = k at *
  have hsplit : arr.toList = data ++ arr.toList.drop data.length := by
    have : arr.toList.take data.length = data := by
      apply List.ext_getElem?
      intro i
      by_cases hi : i < data.length
      · rw [List.getElem?_take_of_lt hi, Array.getElem?_toList, i2 i hi]
      · rw [List.getElem?_eq_none (by simp; omega), List.getElem?_eq_none (by omega)]
    conv => lhs; rw [← List.take_append_drop data.length arr.toList, this]
  refine ⟨arr.toList.drop data.length, ?_, by simp [i1, hE], ?_⟩
  · rw [calcECC_eq, hBdef, h1, ← hsplit]; rfl
  · intro b hb
    obtain ⟨⟨⟨⟨c1, c2⟩, c3⟩, c4⟩, c5⟩ := hblk b hb
    generalize hcdef : (s.dataCodewordsForBlock (b : Int)).toNat = cnt at *
    have hidx : ∀ t, t < cnt → b + B * t < data.length := by
      intro t ht
      have : B * t ≤ B * (cnt - 1) := Nat.mul_le_mul_left B (by omega)
      omega
    have hd : everyNth B b (toNats data) = blockWords s data b := by
      rw [everyNth_eq B b hb (toNats data) cnt (by simpa using hidx) (by simpa using c5)]
      unfold blockWords
      rw [hcdef, hBdef]
      apply List.map_congr_left
      intro t ht
      have := hidx t (List.mem_range.mp ht)
      simp [toNats, List.getD_eq_getElem?_getD, List.getElem?_eq_getElem this]
    refine ⟨by rw [hd]; simp [blockWords, hcdef], ?_⟩
    have hidx2 : ∀ t, t < k → b + B * t < k * B := by
      intro t ht
      have : B * (t + 1) ≤ B * k := Nat.mul_le_mul_left B (by omega)
      rw [Nat.mul_succ] at this
      rw [Nat.mul_comm k B]
      omega
    rw [everyNth_eq B b hb _ k (by simpa [i1] using hidx2) (by simp [i1]; rw [Nat.mul_comm]; omega)]
    rw [hd]
    apply List.ext_getElem?
    intro t
    by_cases ht : t < k
    · have hlen := rsEncode_length_ge ecField (blockWords s data b) k
      have e3 := i3 b hb t ht
      have hin := hidx2 t ht
      have hlt : data.length + (b + B * t) < arr.size := by omega
      simp only [List.getElem?_map, List.getElem?_range ht, Option.map_some, List.getElem?_take_of_lt ht]
      rw [List.getD_eq_getElem?_getD]
      simp only [toNats, List.getElem?_map, List.getElem?_drop]
      rw [Array.getElem?_toList, ← Nat.add_assoc, e3]
      unfold blockChecks
      rw [hkdef]
      rw [List.getElem?_eq_getElem (by omega)]
      simp
    · rw [List.getElem?_eq_none (by simp; omega), List.getElem?_eq_none (by simp; omega)]

theorem table_shape {s : CodeSize} (hs : s ∈ codeSizes) {data : Bytes} (hlen : data.length = s.dataCodewords.toNat) :
    eccShape s data.length = true :=
  hlen ▸ List.all_eq_true.mp table_eccShape s hs

end BV.Proofs.DmEcc
