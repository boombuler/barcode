/-
  C02 assembled: for every accepted content the image produced by `encodeWithColor` passes the reference decoder
  `Spec.Datamatrix.decode`, which returns the content.  The Reed–Solomon validity of the check symbols is property
  C17 and enters as the explicit hypothesis `RSEncodeValid`.
-/
import BV.Proofs.DmAscii
import BV.Proofs.DmSize
import BV.Proofs.DmEcc
import BV.Proofs.DmCert
import BV.Proofs.DmFrame
import BV.Proofs.DmRead
namespace BV.Proofs.DmDecode
open BV BV.Model BV.Model.Datamatrix BV.Spec.Datamatrix
open BV.Proofs.DmAscii BV.Proofs.DmSize BV.Proofs.DmEcc BV.Proofs.DmSym BV.Proofs.DmPlaceM BV.Proofs.DmPlaceS
open BV.Proofs.DmFrame BV.Proofs.DmRead

/-- every data region of the standard has an even size, so the clock tracks end on a light module -/
theorem region_even : ∀ a ∈ attrTable, a.regionSize % 2 = 0 := by decide

theorem pair_fits {s : CodeSize} {a : Attr} (h : (s, a) ∈ sizePairs) : DmMerge.Fits s a :=
  have ha := (List.of_mem_zip h).2
  fits_of_agrees (pair_agrees h) (List.all_eq_true.mp attrTable_consistent a ha) (region_even a ha)

theorem chosen_capacity {m : Nat} {s : CodeSize} {a : Attr} (hch : chooseSize m = some s) (hp : (s, a) ∈ sizePairs) :
    m ≤ a.dataCW := by
  have h := List.find?_some hch
  rw [(pair_agrees hp).dataCodewords] at h
  simpa using h

/-- certificate: the sizes of the standard's table are pairwise different, so the decoder finds the row -/
theorem find_attr : ∀ a ∈ attrTable, attrTable.find? (fun x => x.size == a.size) = some a := by decide +kernel

/-- what the reference decoder reports for a symbol with the attributes `a` -/
def infoOf (a : Attr) (pad : Nat) (content : Bytes) : Info :=
  { rows := a.size, cols := a.size, regions := a.regionsPerSide * a.regionsPerSide,
    regionsPerSide := a.regionsPerSide, mappingSize := a.mapping, dataCodewords := a.dataCW,
    eccCodewords := a.eccCW, blocks := a.blocks, padCount := pad, content := content }

theorem decode_of_facts (a : Attr) (dark : Nat → Nat → Bool) (arr : Array Nat) (cw : Array Nat)
    (content : Bytes) (pad : Nat) (ha : a ∈ attrTable) (hfind : finderOk a dark = true)
    (hplace : placement a.mapping a.mapping = some (arr, a.dataCW + a.eccCW))
    (hread : readCodewords a.mapping a.mapping arr (a.dataCW + a.eccCW) (mappingModule a dark) = some cw)
    (hblocks : blocksOk a (cw.toList.take a.dataCW) (cw.toList.drop a.dataCW) = true)
    (hascii : decodeAscii 1 (cw.toList.take a.dataCW) = .ok (content, pad)) :
    decode a.size a.size dark = .ok (infoOf a pad content) := by
  unfold decode infoOf
  simp [find_attr a ha, hfind, hplace, hread, hblocks, hascii, bind, Except.bind, pure, Except.pure]

/-- For a table pair and any codeword list of the symbol's length: `render` does not panic; the image has the
    finder pattern; the reference's placement succeeds; reading the image through it returns the codewords. -/
theorem render_facts {s : CodeSize} {a : Attr} (hp : (s, a) ∈ sizePairs) (cwords : Bytes)
    (hlen : cwords.length = a.dataCW + a.eccCW) (color : Scheme) :
    ∃ code arr cw, render cwords s color = .ok code ∧ code.size = s ∧ code.color = color ∧
      finderOk a (darkOf code) = true ∧
      placement a.mapping a.mapping = some (arr, a.dataCW + a.eccCW) ∧
      readCodewords a.mapping a.mapping arr (a.dataCW + a.eccCW) (mappingModule a (darkOf code)) = some cw ∧
      cw.toList = toNats cwords := by
  have hag := pair_agrees hp
  obtain ⟨st, hrun⟩ := DmCert.run_table a (List.of_mem_zip hp).2
  have hsz : cwords.toArray.size = a.dataCW + a.eccCW := by simpa using hlen
  obtain ⟨l, hset, hrel⟩ := setValues_of_run (color := color) hag.matrixRows hag.matrixColumns (hsz ▸ hrun)
  obtain ⟨hmatEq, _⟩ := relM_arrays hrel
  have hmsz : a.mapping * a.mapping ≤ l.matrix.size := by
    rw [hmatEq]; simp only [Array.size_ofFn]; exact DmPlaceM.le_cap _
  obtain ⟨code, hmerge, hcs, hcc, _, hfind, hmap⟩ := merge_frame (pair_fits hp) l hrel.hsize hmsz
  have hmm : ∀ i, i < a.mapping * a.mapping →
      mappingModule a (darkOf code) (i / a.mapping) (i % a.mapping) = paint cwords.toArray (tagAt st.log i) := by
    intro i hi
    have hpos : 0 < a.mapping := Nat.pos_of_ne_zero fun h0 => by rw [h0] at hi; omega
    have hrow : i / a.mapping < a.mapping := (Nat.div_lt_iff_lt_mul hpos).mpr hi
    have hcol : i % a.mapping < a.mapping := Nat.mod_lt _ hpos
    rw [hmap _ _ hrow hcol]
    have e : i % a.mapping + i / a.mapping * a.mapping = i := by
      rw [Nat.mul_comm]; exact Nat.mod_add_div i a.mapping
    rw [e, Array.getD_eq_getD_getElem?, hrel.hmat i,
      if_pos (Nat.lt_of_lt_of_le hi (DmPlaceM.le_cap _)), Option.getD_some]
  obtain ⟨cw, hread, hcw⟩ := read_back hrun cwords.toArray hsz (mappingModule a (darkOf code)) hmm
  refine ⟨code, _, cw, ?_, hcs.trans hrel.hsize, hcc.trans hrel.hcolor, hfind, placement_of_run hrun, hread, ?_⟩
  · unfold render
    simp only [hset, bind, Except.bind]
    exact hmerge
  · rw [hcw]; simp [toNats]

/-- What C17 contributes: on byte data, for `k` check symbols with `|d| + k ≤ 255`, the encoder of `utils`
    returns exactly `k` symbols and data followed by them is a codeword of the ISO/IEC 16022 code
    (roots α¹ … α^k over GF(256)/0x12D). -/
def RSEncodeValid : Prop :=
  ∀ (d : List Nat) (k : Nat), (∀ x ∈ d, x < 256) → 1 ≤ k → d.length + k ≤ 255 →
    (GF.rsEncode ecField d k).length = k ∧ Spec.RS.dmField.valid 1 k (d ++ GF.rsEncode ecField d k) = true

/-- certificate: every block of every size fits GF(256) (at most 255 symbols), with at least one check symbol -/
theorem block_bounds : ∀ a ∈ attrTable, ∀ b, b < a.blocks → a.blockData b + a.blockEcc ≤ 255 ∧ 1 ≤ a.blockEcc := by
  decide +kernel

theorem blocks_ok (hrs : RSEncodeValid) {s : CodeSize} {a : Attr} (hp : (s, a) ∈ sizePairs) (data : Bytes)
    (hlen : data.length = a.dataCW) :
    ∃ ecc : Bytes, calcECC data s = .ok (data ++ ecc) ∧ ecc.length = a.eccCW ∧
      blocksOk a (toNats data) (toNats ecc) = true := by
  obtain ⟨hs, ha⟩ := List.of_mem_zip hp
  have hag := pair_agrees hp
  obtain ⟨ecc, hcalc, hel, hblk⟩ :=
    calcECC_shape s data (table_shape hs (by rw [hag.dataCodewords, Int.toNat_natCast]; exact hlen))
  refine ⟨ecc, hcalc, by rw [hel, hag.eccCount, Int.toNat_natCast], ?_⟩
  unfold blocksOk blockWord
  simp only [List.all_eq_true, List.mem_range, Bool.and_eq_true, beq_iff_eq]
  intro b hb
  rw [hag.blockCount, Int.toNat_natCast, hag.eccPerBlock, Int.toNat_natCast] at hblk
  obtain ⟨h1, h2⟩ := hblk b hb
  rw [hag.blockData b hb, Int.toNat_natCast] at h1
  obtain ⟨hb1, hb2⟩ := block_bounds a ha b hb
  obtain ⟨r1, r2⟩ := hrs (everyNth a.blocks b (toNats data)) a.blockEcc
    (fun x hx => toNats_lt data x (everyNth_mem _ _ _ x hx)) hb2 (by rw [h1]; exact hb1)
  have hall : ∀ x ∈ GF.rsEncode ecField (everyNth a.blocks b (toNats data)) a.blockEcc, x < 256 := by
    unfold Spec.RS.BinField.valid at r2
    simp only [Bool.and_eq_true, List.all_eq_true, decide_eq_true_eq] at r2
    intro x hx
    exact r2.2 x (List.mem_append_right _ hx)
  have he : everyNth a.blocks b (toNats ecc) =
      GF.rsEncode ecField (everyNth a.blocks b (toNats data)) a.blockEcc := by
    rw [h2, List.take_of_length_le (by omega)]
    conv => rhs; rw [← List.map_id (GF.rsEncode ecField (everyNth a.blocks b (toNats data)) a.blockEcc)]
    apply List.map_congr_left
    intro x hx
    exact Nat.mod_eq_of_lt (hall x hx)
  refine ⟨⟨h1, by rw [he, r1]⟩, by rw [he]; exact r2⟩

/-- what `encodeWithColor` returns for an accepted content, stage by stage -/
structure Accepted (c : Bytes) (color : Scheme) (bc : Barcode) (s : CodeSize) (a : Attr) : Prop where
  chosen : chooseSize (encodeText c).length = some s
  pair : (s, a) ∈ sizePairs
  width : bc.w = a.size
  height : bc.h = a.size
  kind : bc.kind = "DataMatrix"
  dims : bc.dims = 2
  content : bc.content = c
  scheme : bc.scheme = color
  checksum : bc.checksum = none
  finder : finderOk a bc.dark = true
  /-- the codewords in the symbol: padded ASCII encodation followed by the check codewords of `calcECC` -/
  codewords : ∃ (ecc : Bytes) (arr : Array Nat) (cw : Array Nat),
    calcECC (addPadding (encodeText c) (a.dataCW : Int)) s = .ok (addPadding (encodeText c) (a.dataCW : Int) ++ ecc) ∧
    ecc.length = a.eccCW ∧
    placement a.mapping a.mapping = some (arr, a.dataCW + a.eccCW) ∧
    readCodewords a.mapping a.mapping arr (a.dataCW + a.eccCW) (mappingModule a bc.dark) = some cw ∧
    cw.toList = toNats (addPadding (encodeText c) (a.dataCW : Int)) ++ toNats ecc ∧
    cw.toList.take a.dataCW = toNats (addPadding (encodeText c) (a.dataCW : Int)) ∧
    cw.toList.drop a.dataCW = toNats ecc
  ascii : decodeAscii 1 (toNats (addPadding (encodeText c) (a.dataCW : Int))) =
    .ok (c, a.dataCW - (encodeText c).length)

/-- no panic, and everything but the Reed–Solomon check -/
theorem encode_accepted (c : Bytes) (color : Scheme) (hlen : (encodeText c).length ≤ 1558) :
    ∃ bc s a, encodeWithColor c color = .ok bc ∧ Accepted c color bc s a := by
  obtain ⟨s, hch⟩ := chooseSize_exists _ hlen
  have hs : s ∈ codeSizes := chooseSize_mem hch
  obtain ⟨a, hp⟩ := exists_attr hs
  have hag := pair_agrees hp
  have hfit := chosen_capacity hch hp
  have hpadlen := addPadding_length _ _ hfit
  obtain ⟨ecc, hcalc, hel, _⟩ := calcECC_shape s (addPadding (encodeText c) (a.dataCW : Int))
    (table_shape hs (by rw [hag.dataCodewords, Int.toNat_natCast]; exact hpadlen))
  have hel' : ecc.length = a.eccCW := by rw [hel, hag.eccCount, Int.toNat_natCast]
  obtain ⟨code, arr, cw, hrender, hcs, hcc, hfind, hplace, hread, hcw⟩ :=
    render_facts hp (addPadding (encodeText c) (a.dataCW : Int) ++ ecc)
      (by rw [List.length_append, hpadlen, hel']) color
  refine ⟨({ code with content := c }).toBarcode, s, a, ?_, ?_⟩
  · rw [encodeWithColor_eq, hch]
    simp only [hag.dataCodewords, hcalc, Except.bind, hrender]
  · have hdark : ({ code with content := c } : DatamatrixCode).toBarcode.dark = darkOf code := rfl
    refine ⟨hch, hp, ?_, ?_, rfl, rfl, rfl, hcc, rfl, by rw [hdark]; exact hfind, ?_, ?_⟩
    · show (code.size.columns.toNat) = a.size
      rw [hcs, hag.columns, Int.toNat_natCast]
    · show (code.size.rows.toNat) = a.size
      rw [hcs, hag.rows, Int.toNat_natCast]
    · rw [toNats_append] at hcw
      refine ⟨ecc, arr, cw, hcalc, hel', hplace, by rw [hdark]; exact hread, hcw, ?_, ?_⟩
      · rw [hcw, List.take_append_of_le_length (by simp [hpadlen]), List.take_of_length_le (by simp [hpadlen])]
      · rw [hcw, List.drop_append_of_le_length (by simp [hpadlen]), List.drop_of_length_le (by simp [hpadlen]),
          List.nil_append]
    · exact dec_padded c a.dataCW hfit

theorem Accepted.square {c : Bytes} {color : Scheme} {bc : Barcode} {s : CodeSize} {a : Attr}
    (h : Accepted c color bc s a) : (bc.w : Int) = s.columns ∧ (bc.h : Int) = s.rows ∧ s.rows = s.columns := by
  have hag := pair_agrees h.pair
  exact ⟨by rw [h.width, hag.columns], by rw [h.height, hag.rows], by rw [hag.rows, hag.columns]⟩

theorem encode_rejected (c : Bytes) (color : Scheme) (hlen : 1558 < (encodeText c).length) :
    encodeWithColor c color = .error .rejected := by
  rw [encodeWithColor_eq, chooseSize_none _ hlen]

theorem encode_ok_iff (c : Bytes) (color : Scheme) :
    (∃ bc, encodeWithColor c color = .ok bc) ↔ (encodeText c).length ≤ 1558 := by
  refine ⟨fun ⟨bc, h⟩ => Nat.le_of_not_lt fun h1 => ?_, fun h => ?_⟩
  · rw [encode_rejected c color h1] at h; cases h
  · obtain ⟨bc, _, _, hok, _⟩ := encode_accepted c color h
    exact ⟨bc, hok⟩

/-- C02 modulo C17 -/
theorem encode_decodes (hrs : RSEncodeValid) (c : Bytes) (color : Scheme) (hlen : (encodeText c).length ≤ 1558) :
    ∃ bc s a, encodeWithColor c color = .ok bc ∧ Accepted c color bc s a ∧
      decode bc.w bc.h bc.dark = .ok (infoOf a (a.dataCW - (encodeText c).length) c) := by
  obtain ⟨bc, s, a, hok, hacc⟩ := encode_accepted c color hlen
  refine ⟨bc, s, a, hok, hacc, ?_⟩
  obtain ⟨ecc, arr, cw, hcalc, _, hplace, hread, _, htake, hdrop⟩ := hacc.codewords
  obtain ⟨ecc', hcalc', _, hblocks⟩ :=
    blocks_ok hrs hacc.pair _ (addPadding_length _ _ (chosen_capacity hacc.chosen hacc.pair))
  have : ecc' = ecc := by
    rw [hcalc] at hcalc'
    have h := Except.ok.inj hcalc'
    exact (List.append_cancel_left h).symm
  subst this
  rw [hacc.width, hacc.height]
  exact decode_of_facts a bc.dark arr cw c _ (List.of_mem_zip hacc.pair).2 hacc.finder hplace hread
    (by rw [htake, hdrop]; exact hblocks)
    (by rw [htake]; exact hacc.ascii)
