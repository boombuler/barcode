/-
  BV.Proofs.AztecOps — the drawing part of `aztec.EncodeWithColor` as a list of tagged `setIf` operations: every
  drawing function of the model runs such a list (`drawDataBits_eq` … `drawReferenceGrid_eq`, together
  `draw_eq`), and running a list keeps side, content and colour scheme of the symbol (`applyOps_fields`).
  Namespace `BV.Proofs.AztecGeom`, shared with AztecHit, AztecAlign and AztecGeom.
-/
import BV.Model.Aztec
namespace BV.Proofs.AztecGeom
open BV BV.Model.Aztec

/-! ### tagged operations -/

/-- a drawing operation `(tag, x, y)`: tag 1 = always, `2 i + 2` = message bit `i`, `2 i + 3` = mode message bit `i`.
    No operation of the model has tag 0 (never); it is the empty slot of the packed map (`build` in AztecHit.lean):
    a module that nothing writes stays light. -/
abbrev Op := Nat × Nat × Nat

def evalTag (D Mo : Array Bool) (t : Nat) : Bool :=
  if t = 0 then false else if t = 1 then true
  else if t % 2 = 0 then D.getD ((t - 2) / 2) false else Mo.getD ((t - 3) / 2) false

def applyOps (D Mo : Array Bool) (ops : List Op) (c : AztecCode) : AztecCode :=
  ops.foldl (fun c o => c.setIf (evalTag D Mo o.1) o.2.1 o.2.2) c

/-! ### the model's operations -/

/-- `baseMatrixSize` of `EncodeWithColor`: the side length without the reference grid -/
def baseSize (compact : Bool) (layers : Nat) : Nat := if compact then 11 + layers * 4 else 14 + layers * 4

/-- number of two-module columns on one side of layer `i` (0 = outermost) -/
def rowSize (compact : Bool) (layers i : Nat) : Nat := (layers - i) * 4 + (if compact then 9 else 12)

/-- the four writes of column `j` and `k ∈ {0, 1}` of layer `i` of the "draw data bits" loop, one on each side;
    the tag `2 b + 2` stands for message bit `b` -/
def quadOps (compact : Bool) (layers bms : Nat) (a : Nat → Nat) (i rowOffset j k : Nat) : List Op :=
  [ (2 * (rowOffset + j * 2 + k) + 2, a (i * 2 + k), a (i * 2 + j)),
    (2 * (rowOffset + rowSize compact layers i * 2 + j * 2 + k) + 2, a (i * 2 + j), a (bms - 1 - i * 2 - k)),
    (2 * (rowOffset + rowSize compact layers i * 4 + j * 2 + k) + 2, a (bms - 1 - i * 2 - k),
      a (bms - 1 - i * 2 - j)),
    (2 * (rowOffset + rowSize compact layers i * 6 + j * 2 + k) + 2, a (bms - 1 - i * 2 - j), a (i * 2 + k)) ]

def layerOps (compact : Bool) (layers bms : Nat) (a : Nat → Nat) (i rowOffset : Nat) : List Op :=
  (List.range (rowSize compact layers i)).flatMap fun j => (List.range 2).flatMap fun k =>
    quadOps compact layers bms a i rowOffset j k

/-- the layer loop with its running bit offset -/
def dataOpsFrom (compact : Bool) (layers bms : Nat) (a : Nat → Nat) : List Nat → Nat → List Op
  | [], _ => []
  | i :: is, off =>
    layerOps compact layers bms a i off ++
      dataOpsFrom compact layers bms a is (off + rowSize compact layers i * 8)

def dataOps (compact : Bool) (layers bms : Nat) (a : Nat → Nat) : List Op :=
  dataOpsFrom compact layers bms a (List.range layers) 0

def modeOps (compact : Bool) (n : Nat) : List Op :=
  if compact then
    (List.range 7).flatMap fun i =>
      [ (2 * i + 3, n / 2 - 3 + i, n / 2 - 5), (2 * (i + 7) + 3, n / 2 + 5, n / 2 - 3 + i),
        (2 * (20 - i) + 3, n / 2 - 3 + i, n / 2 + 5), (2 * (27 - i) + 3, n / 2 - 5, n / 2 - 3 + i) ]
  else
    (List.range 10).flatMap fun i =>
      [ (2 * i + 3, n / 2 - 5 + i + i / 5, n / 2 - 7), (2 * (i + 10) + 3, n / 2 + 7, n / 2 - 5 + i + i / 5),
        (2 * (29 - i) + 3, n / 2 - 5 + i + i / 5, n / 2 + 7), (2 * (39 - i) + 3, n / 2 - 7, n / 2 - 5 + i + i / 5) ]

def bullOps (center size : Nat) : List Op :=
  ((List.range ((size + 1) / 2)).flatMap fun h => (List.range (2 * (2 * h) + 1)).flatMap fun d =>
    [ (1, center - 2 * h + d, center - 2 * h), (1, center - 2 * h + d, center + 2 * h),
      (1, center - 2 * h, center - 2 * h + d), (1, center + 2 * h, center - 2 * h + d) ]) ++
  [ (1, center - size, center - size), (1, center - size + 1, center - size), (1, center - size, center - size + 1),
    (1, center + size, center - size), (1, center + size, center - size + 1), (1, center + size, center + size - 1) ]

def gridOps (bms n : Nat) : List Op :=
  (List.range ((bms / 2 + 14) / 15)).flatMap fun l =>
    (List.range ((n + 1 - n / 2 % 2) / 2)).flatMap fun t =>
      [ (1, n / 2 - 16 * l, n / 2 % 2 + 2 * t), (1, n / 2 + 16 * l, n / 2 % 2 + 2 * t),
        (1, n / 2 % 2 + 2 * t, n / 2 - 16 * l), (1, n / 2 % 2 + 2 * t, n / 2 + 16 * l) ]

/-- all writes of the drawing part of `EncodeWithColor` in program order, for a symbol of side `n` with
    alignment map `a` -/
def drawOps (compact : Bool) (layers bms n : Nat) (a : Nat → Nat) : List Op :=
  dataOps compact layers bms a ++
    (modeOps compact n ++ bullOps (n / 2) (if compact then 5 else 7) ++ (if compact then [] else gridOps bms n))

/-! ### the model's drawing functions are operation lists -/

theorem evalTag_data (D Mo : Array Bool) (i : Nat) : evalTag D Mo (2 * i + 2) = D.getD i false := by
  unfold evalTag
  have h0 : ¬ (2 * i + 2 = 0) := by omega
  have h1 : ¬ (2 * i + 2 = 1) := by omega
  have h2 : (2 * i + 2) % 2 = 0 := by omega
  have h3 : (2 * i + 2 - 2) / 2 = i := by omega
  rw [if_neg h0, if_neg h1, if_pos h2, h3]

theorem evalTag_mode (D Mo : Array Bool) (i : Nat) : evalTag D Mo (2 * i + 3) = Mo.getD i false := by
  unfold evalTag
  have h0 : ¬ (2 * i + 3 = 0) := by omega
  have h1 : ¬ (2 * i + 3 = 1) := by omega
  have h2 : ¬ ((2 * i + 3) % 2 = 0) := by omega
  have h3 : (2 * i + 3 - 3) / 2 = i := by omega
  rw [if_neg h0, if_neg h1, if_neg h2, h3]

theorem evalTag_one (D Mo : Array Bool) : evalTag D Mo 1 = true := by
  simp [evalTag]

theorem evalTag_zero (D Mo : Array Bool) : evalTag D Mo 0 = false := by
  simp [evalTag]

theorem applyOps_nil (D Mo : Array Bool) (c : AztecCode) : applyOps D Mo [] c = c := rfl

theorem applyOps_cons (D Mo : Array Bool) (o : Op) (os : List Op) (c : AztecCode) :
    applyOps D Mo (o :: os) c = applyOps D Mo os (c.setIf (evalTag D Mo o.1) o.2.1 o.2.2) := rfl

theorem applyOps_append (D Mo : Array Bool) (a b : List Op) (c : AztecCode) :
    applyOps D Mo (a ++ b) c = applyOps D Mo b (applyOps D Mo a c) := by
  simp [applyOps, List.foldl_append]

theorem applyOps_flatMap {α : Type} (D Mo : Array Bool) (l : List α) (f : α → List Op) (c : AztecCode) :
    applyOps D Mo (l.flatMap f) c = l.foldl (fun c i => applyOps D Mo (f i) c) c := by
  simp [applyOps, List.foldl_flatMap]

theorem set_eq_setIf (c : AztecCode) (x y : Nat) : c.set x y = c.setIf true x y := rfl

theorem drawDataBits_eq (D Mo : Array Bool) (code : AztecCode) (compact : Bool) (layers bms : Nat)
    (am : Array Nat) :
    drawDataBits code compact layers bms am D =
      applyOps D Mo (dataOps compact layers bms (fun t => am.getD t 0)) code := by
  unfold drawDataBits dataOps
  show (List.foldl _ (code, 0) _).1 =
    applyOps D Mo (dataOpsFrom compact layers bms _ _ (code, 0).2) (code, 0).1
  generalize (code, 0) = st
  generalize List.range layers = l
  induction l generalizing st with
  | nil => rfl
  | cons i is ih =>
    rw [List.foldl_cons, dataOpsFrom, applyOps_append, ih]
    congr 1
    unfold layerOps quadOps rowSize
    simp only []
    rw [applyOps_flatMap]
    congr 1
    funext code j
    rw [applyOps_flatMap]
    congr 1
    funext code k
    simp only [applyOps_cons, applyOps_nil, evalTag_data]

theorem drawModeMessage_eq (D Mo : Array Bool) (code : AztecCode) (compact : Bool) (n : Nat) :
    drawModeMessage code compact n Mo = applyOps D Mo (modeOps compact n) code := by
  unfold drawModeMessage modeOps
  cases compact
  · simp only [Bool.false_eq_true, if_false]
    rw [applyOps_flatMap]
    congr 1
    funext c i
    simp only [applyOps_cons, applyOps_nil, evalTag_mode]
  · simp only [if_true]
    rw [applyOps_flatMap]
    congr 1
    funext c i
    simp only [applyOps_cons, applyOps_nil, evalTag_mode]

theorem drawBullsEye_eq (D Mo : Array Bool) (code : AztecCode) (center size : Nat) :
    drawBullsEye code center size = applyOps D Mo (bullOps center size) code := by
  unfold drawBullsEye bullOps
  rw [applyOps_append, applyOps_flatMap]
  simp only [applyOps_cons, applyOps_nil, evalTag_one, set_eq_setIf]
  congr 7
  funext c h
  rw [applyOps_flatMap]
  congr 1

theorem drawReferenceGrid_eq (D Mo : Array Bool) (code : AztecCode) (bms n : Nat) :
    drawReferenceGrid code bms n = applyOps D Mo (gridOps bms n) code := by
  unfold drawReferenceGrid gridOps
  rw [applyOps_flatMap]
  simp only []
  congr 1
  funext c l
  rw [applyOps_flatMap]
  congr 1

theorem draw_eq (D Mo : Array Bool) (code : AztecCode) (compact : Bool) (layers bms n : Nat) (am : Array Nat) :
    (if compact then drawBullsEye (drawModeMessage (drawDataBits code compact layers bms am D) compact n Mo) (n / 2) 5
     else drawReferenceGrid
       (drawBullsEye (drawModeMessage (drawDataBits code compact layers bms am D) compact n Mo) (n / 2) 7) bms n) =
      applyOps D Mo (drawOps compact layers bms n (fun t => am.getD t 0)) code := by
  unfold drawOps
  rw [drawDataBits_eq D Mo, drawModeMessage_eq D Mo]
  cases compact
  · simp only [Bool.false_eq_true, if_false]
    rw [drawBullsEye_eq D Mo, drawReferenceGrid_eq D Mo]
    simp only [applyOps_append]
  · simp only [if_true]
    rw [drawBullsEye_eq D Mo]
    simp only [applyOps_append, applyOps_nil]

theorem applyOps_fields (D Mo : Array Bool) (ops : List Op) (c : AztecCode) :
    (applyOps D Mo ops c).size = c.size ∧ (applyOps D Mo ops c).bits.size = c.bits.size ∧
      (applyOps D Mo ops c).content = c.content ∧ (applyOps D Mo ops c).color = c.color := by
  induction ops generalizing c with
  | nil => exact ⟨rfl, rfl, rfl, rfl⟩
  | cons o os ih =>
    rw [applyOps_cons]
    obtain ⟨h1, h2, h3, h4⟩ := ih (c.setIf (evalTag D Mo o.1) o.2.1 o.2.2)
    rw [h1, h2, h3, h4]
    unfold AztecCode.setIf
    split
    · exact ⟨rfl, Array.size_setIfInBounds, rfl, rfl⟩
    · exact ⟨rfl, rfl, rfl, rfl⟩

end BV.Proofs.AztecGeom
