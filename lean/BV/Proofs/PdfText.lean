/-
  BV.Proofs.PdfText — PDF417 Text compaction (`encodeText` of highlevel.go) against the ISO/IEC 15438 Text
  automaton of `BV.Spec.Pdf417` (`textValue` / `step`), for all inputs.  `emit sub ch np` is a fuel-free
  description of what the sub-mode loop does for ONE character; the loop is `emitAll` (the fuel `4·len + 4` of
  the model never runs out); the values of `emit` decode to the character (`cert_emit`, one evaluation over the
  code points below 127, the four sub-modes and both look-ahead values); `packPairs` pairs the values up, and a
  codeword below 900 is two steps of the value-level decoder `runVals`.
-/
import BV.Model.Pdf417
import BV.Spec.Pdf417
namespace BV.Proofs.PdfText
open BV BV.Model.Pdf417 BV.Spec.Pdf417 BV.Gen.Pdf417

/-- result of handling one character: values pushed, new sub-mode, loop rounds used -/
structure Emit where
  vals : List Nat
  sub : Nat
  steps : Nat

/-- a non-consuming round (`continue`) that pushes `v` before the rest happens -/
def Emit.pre (v : Nat) (e : Emit) : Emit := ⟨v :: e.vals, e.sub, e.steps + 1⟩

/-- one character in sub-mode Upper (Alpha): consume, or latch to Lower / Mixed and consume there, or `ps`
    + Punctuation value -/
def emitUpper (ch : Nat) : Emit :=
  if isAlphaUpper ch then ⟨[if ch == 32 then 26 else ch - 65], 3, 1⟩
  else if isAlphaLower ch then ⟨[27, if ch == 32 then 26 else ch - 97], 4, 2⟩
  else if isMixed ch then ⟨[28, mapAt mixedMap ch], 5, 2⟩
  else ⟨[29, mapAt punctMap ch], 3, 1⟩

/-- one character in sub-mode Lower: consume, `as` + Alpha value, latch to Mixed and consume there, or `ps`
    + Punctuation value -/
def emitLower (ch : Nat) : Emit :=
  if isAlphaLower ch then ⟨[if ch == 32 then 26 else ch - 97], 4, 1⟩
  else if isAlphaUpper ch then ⟨[27, ch - 65], 4, 1⟩
  else if isMixed ch then ⟨[28, mapAt mixedMap ch], 5, 2⟩
  else ⟨[29, mapAt punctMap ch], 4, 1⟩

/-- one character in sub-mode Punctuation (the `default` branch, which keeps whatever `sub` it was entered
    with): consume, or `al` (29) and continue in Upper -/
def emitPunct (sub ch : Nat) : Emit :=
  if isPunctuation ch then ⟨[mapAt punctMap ch], sub, 1⟩
  else (emitUpper ch).pre 29

/-- one character in sub-mode Mixed: consume, latch to Upper / Lower, latch to Punctuation when the next
    character is Punctuation too (`np`), or `ps` + Punctuation value -/
def emitMixed (ch : Nat) (np : Bool) : Emit :=
  if isMixed ch then ⟨[mapAt mixedMap ch], 5, 1⟩
  else if isAlphaUpper ch then (emitUpper ch).pre 28
  else if isAlphaLower ch then (emitLower ch).pre 27
  else if np then (emitPunct 6 ch).pre 25
  else ⟨[29, mapAt punctMap ch], 5, 1⟩

/-- one character of the sub-mode loop, dispatching on the sub-mode constant exactly as the loop does
    (anything but 3, 4, 5 is Punctuation) -/
def emit (sub ch : Nat) (np : Bool) : Emit :=
  if sub == 3 then emitUpper ch else if sub == 4 then emitLower ch
  else if sub == 5 then emitMixed ch np else emitPunct sub ch

/-- `isPunctuation text[idx+1]` (false at the end) -/
def nextPunct : List Nat → Bool
  | next :: _ => isPunctuation next
  | [] => false

theorem loop_nil (f sub : Nat) (tmp : Array Nat) : encodeTextLoop f [] sub tmp = (sub, tmp) := by
  cases f <;> rfl

/-- one round of the loop, with the look-ahead written as `nextPunct` -/
theorem loop_succ (f ch : Nat) (rest : List Nat) (sub : Nat) (tmp : Array Nat) :
    encodeTextLoop (f + 1) (ch :: rest) sub tmp =
    if sub == 3 then
      if isAlphaUpper ch then
        encodeTextLoop f rest sub (tmp.push (if ch == 32 then 26 else ch - 65))
      else if isAlphaLower ch then encodeTextLoop f (ch :: rest) 4 (tmp.push 27)
      else if isMixed ch then encodeTextLoop f (ch :: rest) 5 (tmp.push 28)
      else encodeTextLoop f rest sub ((tmp.push 29).push (mapAt punctMap ch))
    else if sub == 4 then
      if isAlphaLower ch then
        encodeTextLoop f rest sub (tmp.push (if ch == 32 then 26 else ch - 97))
      else if isAlphaUpper ch then encodeTextLoop f rest sub ((tmp.push 27).push (ch - 65))
      else if isMixed ch then encodeTextLoop f (ch :: rest) 5 (tmp.push 28)
      else encodeTextLoop f rest sub ((tmp.push 29).push (mapAt punctMap ch))
    else if sub == 5 then
      if isMixed ch then encodeTextLoop f rest sub (tmp.push (mapAt mixedMap ch))
      else if isAlphaUpper ch then encodeTextLoop f (ch :: rest) 3 (tmp.push 28)
      else if isAlphaLower ch then encodeTextLoop f (ch :: rest) 4 (tmp.push 27)
      else if nextPunct rest then encodeTextLoop f (ch :: rest) 6 (tmp.push 25)
      else encodeTextLoop f rest sub ((tmp.push 29).push (mapAt punctMap ch))
    else
      if isPunctuation ch then encodeTextLoop f rest sub (tmp.push (mapAt punctMap ch))
      else encodeTextLoop f (ch :: rest) 3 (tmp.push 29) := by
  cases rest <;> rfl

theorem push_append (tmp : Array Nat) (v : Nat) (vals : List Nat) :
    tmp.push v ++ vals.toArray = tmp ++ (v :: vals).toArray := by
  apply Array.ext'; simp

/-- `e` is what the loop does with `ch` in front of `rest` in sub-mode `sub`: it spends `e.steps` rounds,
    pushes `e.vals` and continues behind `ch` in sub-mode `e.sub` -/
def Emit.Runs (e : Emit) (ch : Nat) (rest : List Nat) (sub : Nat) : Prop :=
  ∀ (f : Nat) (tmp : Array Nat),
    encodeTextLoop (f + e.steps) (ch :: rest) sub tmp = encodeTextLoop f rest e.sub (tmp ++ e.vals.toArray)

theorem Emit.Runs.pre {e : Emit} {ch : Nat} {rest : List Nat} {sub sub' v : Nat} (he : e.Runs ch rest sub')
    (h : ∀ f tmp, encodeTextLoop (f + 1) (ch :: rest) sub tmp = encodeTextLoop f (ch :: rest) sub' (tmp.push v)) :
    (e.pre v).Runs ch rest sub := by
  intro f tmp
  show encodeTextLoop (f + e.steps + 1) _ _ _ = encodeTextLoop f rest e.sub (tmp ++ (v :: e.vals).toArray)
  rw [h, he, push_append]

theorem loop_upper (ch : Nat) (rest : List Nat) : (emitUpper ch).Runs ch rest 3 := by
  intro f tmp
  unfold emitUpper
  cases h1 : isAlphaUpper ch <;> cases h2 : isAlphaLower ch <;> cases h3 : isMixed ch <;>
    simp [*, loop_succ, ← push_append]

theorem loop_lower (ch : Nat) (rest : List Nat) : (emitLower ch).Runs ch rest 4 := by
  intro f tmp
  unfold emitLower
  cases h1 : isAlphaUpper ch <;> cases h2 : isAlphaLower ch <;> cases h3 : isMixed ch <;>
    simp [*, loop_succ, ← push_append]

/-- any sub-mode value other than 3, 4, 5 is Punctuation -/
theorem loop_punct (sub ch : Nat) (rest : List Nat) (hs : sub ≠ 3 ∧ sub ≠ 4 ∧ sub ≠ 5) :
    (emitPunct sub ch).Runs ch rest sub := by
  unfold emitPunct
  split
  · intro f tmp; simp [*, loop_succ]
  · exact (loop_upper ch rest).pre fun f tmp => by simp [*, loop_succ]

theorem loop_mixed (ch : Nat) (rest : List Nat) : (emitMixed ch (nextPunct rest)).Runs ch rest 5 := by
  unfold emitMixed
  split
  · intro f tmp; simp [*, loop_succ]
  split
  · exact (loop_upper ch rest).pre fun f tmp => by simp [*, loop_succ]
  split
  · exact (loop_lower ch rest).pre fun f tmp => by simp [*, loop_succ]
  split
  · exact (loop_punct 6 ch rest (by decide)).pre fun f tmp => by simp [*, loop_succ]
  · intro f tmp; simp [*, loop_succ, ← push_append]

theorem emit_cases {P : Nat → Emit → Prop} (sub ch : Nat) (np : Bool) (upper : P 3 (emitUpper ch))
    (lower : P 4 (emitLower ch)) (mixed : P 5 (emitMixed ch np))
    (punct : sub ≠ 3 ∧ sub ≠ 4 ∧ sub ≠ 5 → P sub (emitPunct sub ch)) : P sub (emit sub ch np) := by
  unfold emit
  by_cases h3 : sub = 3
  · simpa [h3] using upper
  by_cases h4 : sub = 4
  · simpa [h4] using lower
  by_cases h5 : sub = 5
  · simpa [h5] using mixed
  · simpa [h3, h4, h5] using punct ⟨h3, h4, h5⟩

theorem loop_emit (sub ch : Nat) (rest : List Nat) : (emit sub ch (nextPunct rest)).Runs ch rest sub :=
  emit_cases (P := fun s e => e.Runs ch rest s) sub ch _ (loop_upper ch rest) (loop_lower ch rest)
    (loop_mixed ch rest) (loop_punct sub ch rest)

theorem mapAt_lt (m : List (Nat × Nat)) (hm : ∀ p ∈ m, p.2 < 30) (ch : Nat) : mapAt m ch < 30 := by
  unfold mapAt
  induction m with
  | nil => simp
  | cons p m ih =>
    obtain ⟨k, v⟩ := p
    simp only [List.lookup]
    cases hk : ch == k
    · simpa using ih (fun p hp => hm p (by simp [hp]))
    · simpa using hm (k, v) (by simp)

theorem mixedAt_lt (ch : Nat) : mapAt mixedMap ch < 30 := mapAt_lt _ (by decide +kernel) ch
theorem punctAt_lt (ch : Nat) : mapAt punctMap ch < 30 := mapAt_lt _ (by decide +kernel) ch

theorem upper_lt {ch : Nat} (h : isAlphaUpper ch = true) : ch - 65 < 30 := by
  simp [isAlphaUpper] at h; omega

theorem lower_lt {ch : Nat} (h : isAlphaLower ch = true) : ch - 97 < 30 := by
  simp [isAlphaLower] at h; omega

theorem ite_lt {c : Prop} [Decidable c] {a b n : Nat} (ha : a < n) (hb : b < n) : (if c then a else b) < n := by
  split <;> assumption

/-- what holds of the result for any rune from sub-mode `s`: at most `k` rounds, values below 30, and a
    sub-mode constant if `s` is one -/
structure Emit.Ok (e : Emit) (k s : Nat) : Prop where
  steps : e.steps ≤ k
  lt : ∀ v ∈ e.vals, v < 30
  sub : 3 ≤ s ∧ s ≤ 6 → 3 ≤ e.sub ∧ e.sub ≤ 6

theorem Emit.Ok.pre {e : Emit} {k s s' v : Nat} (h : e.Ok k s) (hs : 3 ≤ s ∧ s ≤ 6 := by decide)
    (hv : v < 30 := by decide) : (e.pre v).Ok (k + 1) s' :=
  ⟨Nat.succ_le_succ h.steps, List.forall_mem_cons.mpr ⟨hv, h.lt⟩, fun _ => h.sub hs⟩

theorem Emit.Ok.mono {e : Emit} {k k' s : Nat} (h : e.Ok k s) (hk : k ≤ k' := by decide) : e.Ok k' s :=
  ⟨Nat.le_trans h.steps hk, h.lt, h.sub⟩

/-- a result written out: the round count is a numeral, and so is the sub-mode unless it is the incoming one -/
theorem Emit.Ok.leaf {vals : List Nat} {s' n k s : Nat} (hl : ∀ v ∈ vals, v < 30) (hn : n ≤ k := by decide)
    (hs : 3 ≤ s ∧ s ≤ 6 → 3 ≤ s' ∧ s' ≤ 6 := by decide) : Emit.Ok ⟨vals, s', n⟩ k s :=
  ⟨hn, hl, hs⟩

theorem Emit.Ok.ite {c : Prop} [Decidable c] {a b : Emit} {k s : Nat} (ha : c → a.Ok k s) (hb : ¬c → b.Ok k s) :
    (if c then a else b).Ok k s := by
  split
  · exact ha ‹_›
  · exact hb ‹_›

theorem emitUpper_ok (ch : Nat) : (emitUpper ch).Ok 2 3 :=
  .ite (fun h => .leaf (by simpa using ite_lt (by decide) (upper_lt h))) fun _ =>
  .ite (fun h => .leaf (by simpa using ite_lt (by decide) (lower_lt h))) fun _ =>
  .ite (fun _ => .leaf (by simpa using mixedAt_lt ch)) fun _ =>
    .leaf (by simpa using punctAt_lt ch)

theorem emitLower_ok (ch : Nat) : (emitLower ch).Ok 2 4 :=
  .ite (fun h => .leaf (by simpa using ite_lt (by decide) (lower_lt h))) fun _ =>
  .ite (fun h => .leaf (by simpa using upper_lt h)) fun _ =>
  .ite (fun _ => .leaf (by simpa using mixedAt_lt ch)) fun _ =>
    .leaf (by simpa using punctAt_lt ch)

theorem emitPunct_ok (sub ch : Nat) : (emitPunct sub ch).Ok 3 sub :=
  .ite (fun _ => .leaf (by simpa using punctAt_lt ch) (hs := id)) fun _ =>
    (emitUpper_ok ch).pre

theorem emitMixed_ok (ch : Nat) (np : Bool) : (emitMixed ch np).Ok 4 5 :=
  .ite (fun _ => .leaf (by simpa using mixedAt_lt ch)) fun _ =>
  .ite (fun _ => (emitUpper_ok ch).pre.mono) fun _ =>
  .ite (fun _ => (emitLower_ok ch).pre.mono) fun _ =>
  .ite (fun _ => (emitPunct_ok 6 ch).pre) fun _ =>
    .leaf (by simpa using punctAt_lt ch)

theorem emit_ok (sub ch : Nat) (np : Bool) : (emit sub ch np).Ok 4 sub :=
  emit_cases (P := fun s e => e.Ok 4 s) sub ch np (emitUpper_ok ch).mono (emitLower_ok ch).mono
    (emitMixed_ok ch np) fun _ => (emitPunct_ok sub ch).mono

/-- fuel-free description of the loop: values pushed for the whole text and the final sub-mode -/
def emitAll : Nat → List Nat → List Nat × Nat
  | sub, [] => ([], sub)
  | sub, ch :: rest =>
    let e := emit sub ch (nextPunct rest)
    let r := emitAll e.sub rest
    (e.vals ++ r.1, r.2)

/-- with fuel `≥ 4·len` the loop consumes the whole text: the fuel `4·len + 4` never runs out -/
theorem loop_eq (text : List Nat) : ∀ (fuel sub : Nat) (tmp : Array Nat), 4 * text.length ≤ fuel →
    encodeTextLoop fuel text sub tmp = ((emitAll sub text).2, tmp ++ (emitAll sub text).1.toArray) := by
  induction text with
  | nil => intro fuel sub tmp _; simp [loop_nil, emitAll]
  | cons ch rest ih =>
    intro fuel sub tmp hf
    have hk := (emit_ok sub ch (nextPunct rest)).steps
    rw [List.length_cons] at hf
    obtain ⟨f, rfl⟩ := Nat.exists_eq_add_of_le' (Nat.le_trans hk (by omega : 4 ≤ fuel))
    rw [loop_emit sub ch rest f tmp, ih _ _ _ (by omega)]
    simp only [emitAll, Array.append_assoc, List.append_toArray]

/-- the Spec sub-mode that corresponds to the encoder's sub-mode constant -/
def subOf (n : Nat) : Sub :=
  if n == 3 then .alpha else if n == 4 then .lower else if n == 5 then .mixed else .punct

/-- one Text value through the Spec automaton -/
def stepVal (st : Sub × Shift × Array UInt8) (v : Nat) : Except String (Sub × Shift × Array UInt8) :=
  match textValue st.1 st.2.1 v with
  | .ok (sub, sh, c) => .ok (sub, sh, pushOpt st.2.2 c)
  | .error e => .error e

/-- the Spec automaton over a list of Text values (`Except String`, like `decodeData`) -/
def runVals (st : Sub × Shift × Array UInt8) (vals : List Nat) : Except String (Sub × Shift × Array UInt8) :=
  vals.foldlM stepVal st

/-- the same automaton collecting the decoded characters in a list (decidable form, for certificates) -/
def decVals : Sub → Shift → List Nat → Option (Sub × Shift × List Nat)
  | sub, sh, [] => some (sub, sh, [])
  | sub, sh, v :: vs =>
    match textValue sub sh v with
    | .ok (sub', sh', c) =>
      match decVals sub' sh' vs with
      | some (s, h, cs) => some (s, h, c.toList ++ cs)
      | none => none
    | .error _ => none

/-- check for one code point: if it is a Text character, then for both look-ahead values and the four
    sub-modes the values of `emit` decode to exactly `[ch]`, ending in the sub-mode `emit` returns, no
    pending shift -/
def certEmit (ch : Nat) : Bool :=
  !isText ch || [true, false].all fun np => [3, 4, 5, 6].all fun sub =>
    decide (decVals (subOf sub) .none (emit sub ch np).vals = some (subOf (emit sub ch np).sub, .none, [ch]))

theorem cert_emit : ∀ ch < 127, certEmit ch = true := by
  decide +kernel

theorem isText_lt (ch : Nat) (h : isText ch = true) : ch < 127 := by
  simp [isText] at h; omega

/-- the values emitted for a Text character decode to that character; the decoder ends in the encoder's new
    sub-mode with no pending shift -/
theorem emit_dec (sub ch : Nat) (np : Bool) (hs : 3 ≤ sub ∧ sub ≤ 6) (h : isText ch = true) :
    decVals (subOf sub) .none (emit sub ch np).vals = some (subOf (emit sub ch np).sub, .none, [ch]) := by
  have hc := cert_emit ch (isText_lt ch h)
  simp only [certEmit, h, Bool.not_true, Bool.false_or, List.all_eq_true, decide_eq_true_eq] at hc
  exact hc np (by cases np <;> simp) sub (by simp; omega)

theorem runVals_nil (st : Sub × Shift × Array UInt8) : runVals st [] = .ok st := rfl

theorem runVals_cons (st : Sub × Shift × Array UInt8) (v : Nat) (vs : List Nat) :
    runVals st (v :: vs) = (stepVal st v >>= fun st' => runVals st' vs) := by
  simp [runVals, List.foldlM_cons]

theorem runVals_append (st : Sub × Shift × Array UInt8) (l l' : List Nat) :
    runVals st (l ++ l') = (runVals st l >>= fun st' => runVals st' l') := by
  simp [runVals, List.foldlM_append]

/-- `decVals` is `runVals` with the output kept as a list of characters: the characters are appended (as
    bytes) to any output array -/
theorem runVals_of_decVals (sub : Sub) (sh : Shift) (vs : List Nat) (out : Array UInt8) :
    ∀ {s h cs}, decVals sub sh vs = some (s, h, cs) →
      runVals (sub, sh, out) vs = .ok (s, h, out ++ (cs.map UInt8.ofNat).toArray) := by
  fun_induction decVals sub sh vs generalizing out with
  | case1 sub sh => simp [runVals_nil]
  | case2 sub sh v vs sub' sh' c hv s h cs hr ih =>
    rintro _ _ _ ⟨⟩
    rw [runVals_cons, stepVal, hv]
    show runVals (sub', sh', pushOpt out c) vs = _
    rw [ih _ hr]
    cases c <;> simp [pushOpt]
  | case3 => simp
  | case4 => simp

theorem emitAll_ok (text : List Nat) : ∀ sub, (∀ v ∈ (emitAll sub text).1, v < 30) ∧
    (3 ≤ sub ∧ sub ≤ 6 → 3 ≤ (emitAll sub text).2 ∧ (emitAll sub text).2 ≤ 6) := by
  induction text with
  | nil => exact fun sub => ⟨nofun, id⟩
  | cons ch rest ih =>
    intro sub
    have he := emit_ok sub ch (nextPunct rest)
    have hr := ih (emit sub ch (nextPunct rest)).sub
    exact ⟨List.forall_mem_append.mpr ⟨he.lt, hr.1⟩, fun hs => hr.2 (he.sub hs)⟩

/-- the value-level decoder reads back the whole text from the values the loop pushes -/
theorem emitAll_dec (text : List Nat) : ∀ (sub : Nat) (out : Array UInt8), 3 ≤ sub ∧ sub ≤ 6 →
    (∀ ch ∈ text, isText ch = true) →
    runVals (subOf sub, .none, out) (emitAll sub text).1
      = .ok (subOf (emitAll sub text).2, .none, out ++ (text.map UInt8.ofNat).toArray) := by
  induction text with
  | nil => intro sub out _ _; simp [emitAll, runVals_nil]
  | cons ch rest ih =>
    intro sub out hs ht
    simp only [emitAll]
    rw [runVals_append, runVals_of_decVals _ _ _ _ (emit_dec sub ch _ hs (ht ch (by simp)))]
    show runVals _ _ = _
    rw [ih _ _ ((emit_ok _ _ _).sub hs) (fun c hc => ht c (by simp [hc]))]
    simp

/-- consecutive pairs `a, b ↦ 30·a + b`; a leftover value is dropped -/
def pairUp : List Nat → List Nat
  | a :: b :: rest => (a * 30 + b) :: pairUp rest
  | [_] => []
  | [] => []

/-- the `h` that `packPairs` returns -/
def lastH : List Nat → Nat → Nat
  | a :: b :: rest, _ => lastH rest (a * 30 + b)
  | [a], _ => a
  | [], h => h

/-- the packing loop started at an even index appends `pairUp l` and returns `lastH l h` -/
theorem packGo_eq (l : List Nat) : ∀ (i h : Nat) (res : List Nat), i % 2 = 0 →
    packPairs.go l i h res = (lastH l h, res ++ pairUp l) := by
  induction l using pairUp.induct with
  | case1 a b rest ih =>
    intro i h res hi
    have h1 : (i + 1) % 2 = 1 := by omega
    simp [packPairs.go, hi, h1, pairUp, lastH, ih (i + 1 + 1) _ _ (by omega)]
  | case2 a => intro i h res hi; simp [packPairs.go, pairUp, lastH, hi]
  | case3 => intro i h res _; simp [packPairs.go, pairUp, lastH]

theorem packPairs_eq (l : List Nat) : packPairs l = (lastH l 0, pairUp l) := by
  simp [packPairs, packGo_eq]

theorem pairUp_lt (l : List Nat) (hl : ∀ v ∈ l, v < 30) : ∀ c ∈ pairUp l, c < 900 := by
  induction l using pairUp.induct with
  | case1 a b rest ih =>
    have ha := hl a (by simp); have hb := hl b (by simp)
    exact List.forall_mem_cons.mpr ⟨by omega, ih fun v hv => hl v (by simp [hv])⟩
  | case2 a => nofun
  | case3 => nofun

/-- padding an odd-length value list: the extra codeword is the pair (leftover, 29) -/
theorem pairUp_pad (l : List Nat) (h : Nat) (hodd : l.length % 2 = 1) :
    pairUp l ++ [lastH l h * 30 + 29] = pairUp (l ++ [29]) := by
  induction l using pairUp.induct generalizing h with
  | case1 a b rest ih =>
    simp only [List.length_cons] at hodd
    simp [pairUp, lastH, ih (a * 30 + b) (by omega)]
  | case2 a => rfl
  | case3 => simp at hodd

/-- a codeword below 900 is two steps of the value-level decoder -/
theorem step_text (sub : Sub) (sh : Shift) (out : Array UInt8) (c : Nat) (hc : c < 900) :
    step (Mode.text sub sh, out) c
      = (runVals (sub, sh, out) [c / 30, c % 30] >>= fun st => pure (Mode.text st.1 st.2.1, st.2.2)) := by
  have h1 : ¬ (c ≥ 929) := by omega
  simp only [step, h1, hc, if_true, if_false, runVals_cons, runVals_nil, stepVal]
  cases textValue sub sh (c / 30) with
  | error e => rfl
  | ok r =>
    dsimp only [bind, Except.bind]
    cases textValue r.1 r.2.1 (c % 30) <;> rfl

theorem pair_div {a b : Nat} (hb : b < 30) : (a * 30 + b) / 30 = a := by
  rw [Nat.add_comm, Nat.add_mul_div_right _ _ (by decide), Nat.div_eq_of_lt hb, Nat.zero_add]

theorem pair_mod {a b : Nat} (hb : b < 30) : (a * 30 + b) % 30 = b := by
  rw [Nat.add_comm, Nat.add_mul_mod_self_right, Nat.mod_eq_of_lt hb]

/-- the Spec `step` over the packed codewords of an even-length list of values below 30 is the value-level
    decoder over the list -/
theorem fold_pairUp (l : List Nat) : ∀ (sub : Sub) (sh : Shift) (out : Array UInt8),
    l.length % 2 = 0 → (∀ v ∈ l, v < 30) →
    (pairUp l).foldlM step (Mode.text sub sh, out)
      = (runVals (sub, sh, out) l >>= fun st => pure (Mode.text st.1 st.2.1, st.2.2)) := by
  induction l using pairUp.induct with
  | case1 a b rest ih =>
    intro sub sh out hlen hl
    simp only [List.length_cons] at hlen
    have ha := hl a (by simp); have hb := hl b (by simp)
    rw [pairUp, List.foldlM_cons, step_text _ _ _ _ (by omega), pair_div hb, pair_mod hb,
      show a :: b :: rest = [a, b] ++ rest from rfl, runVals_append]
    cases runVals (sub, sh, out) [a, b] with
    | error e => rfl
    | ok st =>
      obtain ⟨s, h, o⟩ := st
      exact ih s h o (by omega) (fun v hv => hl v (by simp [hv]))
  | case2 a => intro _ _ _ hlen; simp at hlen
  | case3 => intros; rfl

/-- closed form of `encodeText`: the values of `emitAll`, padded with 29 to even length, packed in pairs -/
theorem encodeText_eq (text : List Nat) (submode : Nat) :
    encodeText text submode =
      if (emitAll submode text).1.length % 2 = 1 then
        (if (emitAll submode text).2 == 6 then 3 else (emitAll submode text).2,
          pairUp ((emitAll submode text).1 ++ [29]))
      else ((emitAll submode text).2, pairUp (emitAll submode text).1) := by
  unfold encodeText
  rw [loop_eq text _ _ _ (by omega)]
  have hl : (#[] ++ (emitAll submode text).1.toArray).toList = (emitAll submode text).1 := by simp
  simp only [hl, packPairs_eq, c_subPunct, c_subUpper]
  by_cases h : (emitAll submode text).1.length % 2 = 1
  · simp [h, pairUp_pad]
  · have : (emitAll submode text).1.length % 2 = 0 := by omega
    simp [this]

/-- the pad value 29 seen by the decoder after a complete Text run -/
theorem runVals_pad (s : Nat) (hs : 3 ≤ s ∧ s ≤ 6) (o : Array UInt8) :
    ∃ sh, runVals (subOf s, .none, o) [29] = .ok (subOf (if s == 6 then 3 else s), sh, o) := by
  obtain rfl | rfl | rfl | rfl : s = 3 ∨ s = 4 ∨ s = 5 ∨ s = 6 := by omega
  all_goals exact ⟨_, rfl⟩

/-- every codeword emitted by `encodeText` is a pair of Text values, hence < 900 — for ARBITRARY runes and
    sub-mode (used for the no-panic property) -/
theorem encodeText_lt (text : List Nat) (submode : Nat) : ∀ c ∈ (encodeText text submode).2, c < 900 := by
  rw [encodeText_eq]
  have h := (emitAll_ok text submode).1
  split
  · exact pairUp_lt _ (List.forall_mem_append.mpr ⟨h, by decide⟩)
  · exact pairUp_lt _ h

/-- the returned sub-mode is one of the four constants (given the incoming one is) -/
theorem encodeText_sub (text : List Nat) (submode : Nat) (hs : 3 ≤ submode ∧ submode ≤ 6) :
    3 ≤ (encodeText text submode).1 ∧ (encodeText text submode).1 ≤ 6 := by
  rw [encodeText_eq]
  have h := (emitAll_ok text submode).2 hs
  split
  · simp only; split <;> omega
  · exact h

/-- round trip: the Spec Text decoder, started in the encoder's incoming sub-mode without pending shift and
    with output `out`, fed the codewords of `encodeText text submode`, appends exactly `text` (as bytes) to
    `out` and ends in the sub-mode the encoder returns (possibly with a pending shift `sh`, which is the
    pad) -/
theorem encodeText_roundtrip (text : List Nat) (submode : Nat) (hs : 3 ≤ submode ∧ submode ≤ 6)
    (ht : ∀ ch ∈ text, isText ch = true) (out : Array UInt8) :
    ∃ sh, (encodeText text submode).2.foldlM step (Mode.text (subOf submode) .none, out)
        = .ok (Mode.text (subOf (encodeText text submode).1) sh,
            out ++ (text.map UInt8.ofNat).toArray) := by
  rw [encodeText_eq]
  have hlt := (emitAll_ok text submode).1
  have hsub := (emitAll_ok text submode).2 hs
  have hdec := emitAll_dec text submode out hs ht
  split
  next hodd =>
    obtain ⟨sh, hp⟩ := runVals_pad _ hsub (out ++ (text.map UInt8.ofNat).toArray)
    refine ⟨sh, ?_⟩
    simp only
    rw [fold_pairUp _ _ _ _ (by simp; omega) (List.forall_mem_append.mpr ⟨hlt, by decide⟩), runVals_append, hdec]
    show (runVals _ [29] >>= _) = _
    rw [hp]; rfl
  next heven =>
    refine ⟨.none, ?_⟩
    simp only
    rw [fold_pairUp _ _ _ _ (by omega) hlt, hdec]; rfl

/-- the hypotheses of `encodeText_roundtrip` are satisfiable on a non-trivial input: "Ab1;{!" from Upper
    visits all four sub-modes (A, ll b, ml 1, pl ; { !) and produces nine values, so the pad 29 falls in
    Punctuation where it is `al`: the encoder returns Upper (3) -/
example : (3 ≤ 3 ∧ 3 ≤ 6) ∧ (∀ ch ∈ [65, 98, 49, 59, 123, 33], isText ch = true) ∧
    encodeText [65, 98, 49, 59, 123, 33] 3 = (3, [27, 58, 55, 26, 329]) := by decide +kernel

/-- "Ab1;{! x": an even number of values, no pad, the run ends in Lower (4) -/
example : encodeText [65, 98, 49, 59, 123, 33, 32, 120] 3 = (4, [27, 58, 55, 26, 329, 807, 719]) := by decide +kernel

end BV.Proofs.PdfText

