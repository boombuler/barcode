/-
  BV.Proofs.AztecHit — what a list of drawing operations (`BV.Proofs.AztecOps`) leaves in the matrix: a module is
  dark iff an operation whose condition holds hits it (`hit`, `at_applyOps`).  For a concrete list a packed map (one
  16-bit slot per module in a single `Nat`) records which operation decides each module (`build`, `hit_of_build`);
  operations far from the centre do not hit modules near it (`hit_far_near`).
  Namespace `BV.Proofs.AztecGeom`, shared with AztecOps, AztecAlign and AztecGeom.
-/
import BV.Proofs.AztecOps
import BV.Proofs.ListLemmas
namespace BV.Proofs.AztecGeom
open BV BV.Model.Aztec

/-! ### which operations hit a module -/

/-- some operation whose condition holds writes module `(x, y)` -/
def hit (D Mo : Array Bool) (ops : List Op) (x y : Nat) : Bool :=
  ops.any (fun o => evalTag D Mo o.1 && (o.2.1 == x && o.2.2 == y))

theorem hit_nil (D Mo : Array Bool) (x y : Nat) : hit D Mo [] x y = false := rfl

theorem hit_append (D Mo : Array Bool) (a b : List Op) (x y : Nat) :
    hit D Mo (a ++ b) x y = (hit D Mo a x y || hit D Mo b x y) := by
  simp [hit, List.any_append]

theorem hit_flatMap {α : Type} (D Mo : Array Bool) (l : List α) (f : α → List Op) (x y : Nat) :
    hit D Mo (l.flatMap f) x y = l.any (fun i => hit D Mo (f i) x y) := by
  simp [hit, List.any_flatMap]

theorem hit_eq_false (D Mo : Array Bool) (ops : List Op) (x y : Nat)
    (h : ∀ o ∈ ops, ¬ (o.2.1 = x ∧ o.2.2 = y)) : hit D Mo ops x y = false := by
  unfold hit
  rw [List.any_eq_false]
  intro o ho hh
  simp only [Bool.and_eq_true, beq_iff_eq] at hh
  exact h o ho hh.2

/-- an operation that shares its module only with operations of the same tag decides the module -/
theorem hit_of_mem (D Mo : Array Bool) (ops : List Op) (o : Op) (ho : o ∈ ops)
    (hu : ∀ o' ∈ ops, o'.2.1 = o.2.1 → o'.2.2 = o.2.2 → o'.1 = o.1) :
    hit D Mo ops o.2.1 o.2.2 = evalTag D Mo o.1 := by
  unfold hit
  cases h : evalTag D Mo o.1
  · rw [List.any_eq_false]
    intro o' ho' hh
    simp only [Bool.and_eq_true, beq_iff_eq] at hh
    rw [hu o' ho' hh.2.1 hh.2.2, h] at hh
    exact Bool.false_ne_true hh.1
  · rw [List.any_eq_true]
    exact ⟨o, ho, by simp [h]⟩

theorem slot_lt (n x y : Nat) (hx : x < n) (hy : y < n) : x * n + y < n * n := by
  have : (x + 1) * n ≤ n * n := Nat.mul_le_mul_right n hx
  rw [Nat.add_mul] at this
  omega

theorem slot_inj (n x y x' y' : Nat) (hy : y < n) (hy' : y' < n) (h : x * n + y = x' * n + y') :
    x = x' ∧ y = y' := by
  have h1 : (x * n + y) / n = x := by
    rw [Nat.mul_comm, Nat.mul_add_div (by omega), Nat.div_eq_of_lt hy, Nat.add_zero]
  have h2 : (x' * n + y') / n = x' := by
    rw [Nat.mul_comm, Nat.mul_add_div (by omega), Nat.div_eq_of_lt hy', Nat.add_zero]
  have h3 : x = x' := by rw [← h1, h, h2]
  rw [h3] at h
  exact ⟨h3, by omega⟩

theorem beq_pair_false (a b x y : Nat) (h : ¬ (a = x ∧ b = y)) : (a == x && b == y) = false := by
  rw [Bool.and_eq_false_iff, beq_eq_false_iff_ne, beq_eq_false_iff_ne]
  by_cases e : a = x
  · exact Or.inr (fun e2 => h ⟨e, e2⟩)
  · exact Or.inl e

/-- a module inside the matrix is dark after the operations iff it was dark before or an operation hit it
    (all operations inside the matrix) -/
theorem at_applyOps (D Mo : Array Bool) (n : Nat) (ops : List Op) : ∀ (c : AztecCode), c.size = n →
    c.bits.size = n * n → (∀ o ∈ ops, o.2.1 < n ∧ o.2.2 < n) → ∀ x y, x < n → y < n →
    (applyOps D Mo ops c).at x y = (c.at x y || hit D Mo ops x y) := by
  induction ops with
  | nil => intro c _ _ _ x y _ _; rw [applyOps_nil, hit_nil, Bool.or_false]
  | cons o os ih =>
    intro c hs hb hr x y hx hy
    have hro := hr o (List.mem_cons_self ..)
    have hsb := applyOps_fields D Mo [o] c
    rw [applyOps_cons, ih _ (by rw [← hs]; exact hsb.1) (by rw [← hb]; exact hsb.2.1)
      (fun o' ho' => hr o' (List.mem_cons_of_mem _ ho')) x y hx hy]
    have hstep : (c.setIf (evalTag D Mo o.1) o.2.1 o.2.2).at x y =
        (c.at x y || (evalTag D Mo o.1 && (o.2.1 == x && o.2.2 == y))) := by
      unfold AztecCode.setIf
      cases evalTag D Mo o.1
      · rw [if_neg Bool.false_ne_true, Bool.false_and, Bool.or_false]
      · rw [if_pos rfl, Bool.true_and]
        show (c.bits.setIfInBounds (o.2.1 * c.size + o.2.2) true).getD (x * c.size + y) false = _
        rw [getD_setIfInBounds, hs, hb]
        by_cases e : o.2.1 * n + o.2.2 = x * n + y
        · obtain ⟨e1, e2⟩ := slot_inj n _ _ _ _ hro.2 hy e
          rw [if_pos ⟨e, slot_lt n _ _ hro.1 hro.2⟩, e1, e2, beq_self_eq_true, beq_self_eq_true, Bool.and_true,
            Bool.or_true]
        · rw [if_neg (fun hh => e hh.1), beq_pair_false _ _ _ _ (fun hh => e (by rw [hh.1, hh.2])), Bool.or_false]
          unfold AztecCode.at
          rw [hs]
    rw [hstep]
    simp only [hit, List.any_cons, Bool.or_assoc]

/-! ### operations moved by a common offset -/

theorem beq_add_right (a b d : Nat) : (a + d == b + d) = (a == b) := by
  rw [Bool.eq_iff_iff]
  simp

def shiftOp (d : Nat) (o : Op) : Op := (o.1, o.2.1 + d, o.2.2 + d)

theorem hit_map_shift (D Mo : Array Bool) (d : Nat) (ops : List Op) (x y : Nat) :
    hit D Mo (ops.map (shiftOp d)) (x + d) (y + d) = hit D Mo ops x y := by
  unfold hit
  rw [List.any_map]
  congr 1
  funext o
  simp only [shiftOp, Function.comp, beq_add_right]

/-! ### the packed map -/

/-- the tag in the 16-bit slot `s` of the packed map `M`; 0 in an empty slot -/
def slotTag (M s : Nat) : Nat := (M >>> (16 * s)) % 65536

/-- run the operations against the packed map of a matrix of side `n`: every operation must lie inside the
    matrix and may only write to an empty slot or repeat the tag that is already there -/
def build (n : Nat) : List Op → Nat → Option Nat
  | [], M => some M
  | o :: os, M =>
    bif Nat.blt o.2.1 n && Nat.blt o.2.2 n && Nat.blt o.1 65536 &&
        (Nat.beq (slotTag M (o.2.1 * n + o.2.2)) 0 || Nat.beq (slotTag M (o.2.1 * n + o.2.2)) o.1) then
      build n os (M ||| (o.1 <<< (16 * (o.2.1 * n + o.2.2))))
    else none

theorem slot_shift (t s0 s : Nat) (ht : t < 65536) :
    ((t <<< (16 * s0)) >>> (16 * s)) % 65536 = if s = s0 then t else 0 := by
  by_cases h : s = s0
  · subst h
    rw [if_pos rfl, Nat.shiftLeft_shiftRight, Nat.mod_eq_of_lt ht]
  · rw [if_neg h]
    apply Nat.eq_of_testBit_eq
    intro j
    have e : (65536 : Nat) = 2 ^ 16 := by decide
    rw [e, Nat.testBit_mod_two_pow, Nat.testBit_shiftRight, Nat.testBit_shiftLeft, Nat.zero_testBit]
    by_cases hj : j < 16
    · by_cases hge : 16 * s + j ≥ 16 * s0
      · have hlt : t < 2 ^ (16 * s + j - 16 * s0) :=
          Nat.lt_of_lt_of_le (e ▸ ht) (Nat.pow_le_pow_right (by decide) (by omega))
        rw [Nat.testBit_lt_two_pow hlt]
        simp
      · simp [hge]
    · simp [hj]

theorem slotTag_or_shift (M t s0 s : Nat) (ht : t < 65536) :
    slotTag (M ||| (t <<< (16 * s0))) s = slotTag M s ||| (if s = s0 then t else 0) := by
  unfold slotTag
  have e : (65536 : Nat) = 2 ^ 16 := by decide
  rw [Nat.shiftRight_or_distrib, e, Nat.or_mod_two_pow, ← e, slot_shift t s0 s ht]

theorem slotTag_zero (s : Nat) : slotTag 0 s = 0 := by
  simp [slotTag]

theorem build_cons (n : Nat) (o : Op) (os : List Op) (M M' : Nat) (h : build n (o :: os) M = some M') :
    o.2.1 < n ∧ o.2.2 < n ∧ o.1 < 65536 ∧
      (slotTag M (o.2.1 * n + o.2.2) = 0 ∨ slotTag M (o.2.1 * n + o.2.2) = o.1) ∧
      build n os (M ||| (o.1 <<< (16 * (o.2.1 * n + o.2.2)))) = some M' := by
  rw [build] at h
  cases hc : (Nat.blt o.2.1 n && Nat.blt o.2.2 n && Nat.blt o.1 65536 &&
      (Nat.beq (slotTag M (o.2.1 * n + o.2.2)) 0 || Nat.beq (slotTag M (o.2.1 * n + o.2.2)) o.1))
  · rw [hc] at h
    cases h
  · rw [hc] at h
    simp only [Bool.and_eq_true, Bool.or_eq_true, Nat.blt_eq, Nat.beq_eq] at hc
    exact ⟨hc.1.1.1, hc.1.1.2, hc.1.2, hc.2, h⟩

theorem build_range (n : Nat) : ∀ (ops : List Op) (M M' : Nat), build n ops M = some M' →
    ∀ o ∈ ops, o.2.1 < n ∧ o.2.2 < n
  | [], _, _, _, o, ho => by cases ho
  | o :: os, M, M', hb, o', ho' => by
    obtain ⟨hx, hy, _, _, hb'⟩ := build_cons n o os M M' hb
    rcases List.mem_cons.mp ho' with rfl | ho'
    · exact ⟨hx, hy⟩
    · exact build_range n os _ M' hb' o' ho'

theorem build_hit (D Mo : Array Bool) (n : Nat) : ∀ (ops : List Op) (M M' : Nat), build n ops M = some M' →
    ∀ x y, x < n → y < n →
    evalTag D Mo (slotTag M' (x * n + y)) = (evalTag D Mo (slotTag M (x * n + y)) || hit D Mo ops x y)
  | [], M, M', h, x, y, _, _ => by
    simp only [build, Option.some.injEq] at h
    rw [h, hit_nil, Bool.or_false]
  | o :: os, M, M', h, x, y, hx, hy => by
    obtain ⟨_, oy, ht, hv, hb⟩ := build_cons n o os M M' h
    have hcons : hit D Mo (o :: os) x y =
        (evalTag D Mo o.1 && (o.2.1 == x && o.2.2 == y) || hit D Mo os x y) := rfl
    rw [build_hit D Mo n os _ M' hb x y hx hy, slotTag_or_shift _ _ _ _ ht, hcons, ← Bool.or_assoc]
    congr 1
    by_cases e : x * n + y = o.2.1 * n + o.2.2
    · obtain ⟨e1, e2⟩ := slot_inj n _ _ _ _ hy oy e
      rw [if_pos e, e, e1, e2, beq_self_eq_true, beq_self_eq_true, Bool.and_true, Bool.and_true]
      rcases hv with hv | hv
      · rw [hv, Nat.zero_or, evalTag_zero, Bool.false_or]
      · rw [hv, Nat.or_self, Bool.or_self]
    · rw [if_neg e, Nat.or_zero, beq_pair_false _ _ _ _ (fun hh => e (by rw [hh.1, hh.2])), Bool.and_false,
        Bool.or_false]

theorem hit_of_build (D Mo : Array Bool) (n : Nat) (ops : List Op) (M : Nat) (hb : build n ops 0 = some M)
    (x y : Nat) (hx : x < n) (hy : y < n) : hit D Mo ops x y = evalTag D Mo (slotTag M (x * n + y)) := by
  rw [build_hit D Mo n ops 0 M hb x y hx hy, slotTag_zero, evalTag_zero, Bool.false_or]

/-! ### reading the map at offsets from the centre -/

/-- matrix coordinate of the centre offset `u` (centre `c`) -/
def coord (c : Nat) (u : Int) : Nat := ((c : Int) + u).toNat

/-- the centre offset `u` is a coordinate of the matrix of side `n` (by cases on the constructor: the kernel is slow
    at deciding a comparison in `Int`) -/
def insideAx (n c : Nat) (u : Int) : Bool :=
  match (c : Int) + u with
  | .ofNat x => Nat.blt x n
  | .negSucc _ => false

theorem insideAx_iff (n c : Nat) (u : Int) : insideAx n c u = true ↔ 0 ≤ (c : Int) + u ∧ coord c u < n := by
  unfold insideAx coord
  cases h : (c : Int) + u with
  | ofNat x => simp only [Int.ofNat_eq_natCast, Nat.blt_eq, Int.toNat_natCast]; omega
  | negSucc k => simp only [Bool.false_eq_true, false_iff]; omega

def inside (n c : Nat) (p : Int × Int) : Bool := insideAx n c p.1 && insideAx n c p.2

/-- the tag in the slot of the module at centre offset `p`, if `p` is a module of the matrix -/
def tagIn (M n c : Nat) (p : Int × Int) : Option Nat :=
  if inside n c p then some (slotTag M (coord c p.1 * n + coord c p.2)) else none

theorem evalTag_toNat (D Mo : Array Bool) (b : Bool) : evalTag D Mo b.toNat = b := by
  cases b
  · exact evalTag_zero D Mo
  · exact evalTag_one D Mo

theorem coord_shift (c d : Nat) (u : Int) (h0 : 0 ≤ (c : Int) + u) (h1 : coord c u < 2 * c + 1) :
    0 ≤ ((c + d : Nat) : Int) + u ∧ coord (c + d) u < 2 * (c + d) + 1 ∧ coord (c + d) u = coord c u + d := by
  unfold coord at *
  omega

/-! ### near the centre / far from the centre -/

/-- `|a - b|` -/
def dist (a b : Nat) : Nat := (a - b) + (b - a)

/-- Chebyshev distance of the module `(x, y)` from the centre `(c, c)` -/
def chebN (c x y : Nat) : Nat := max (dist x c) (dist y c)

/-- the coordinate `x` lies on a reference grid line (offset from the centre divisible by 16) -/
def onGrid (c x : Nat) : Bool := Nat.beq ((x + 15 * c) % 16) 0

/-- at distance at least `lo` from the centre and, in full-range symbols, on no reference grid line -/
def farOK (compact : Bool) (c lo x y : Nat) : Bool :=
  Nat.ble lo (chebN c x y) && (compact || (!onGrid c x && !onGrid c y))

/-- at distance at most `r` from the centre or, in full-range symbols, on a reference grid line -/
def nearOK (compact : Bool) (c r x y : Nat) : Bool :=
  Nat.ble (chebN c x y) r || (!compact && (onGrid c x || onGrid c y))

theorem far_near_absurd (compact : Bool) (c lo r x y : Nat) (hf : farOK compact c lo x y = true)
    (hn : nearOK compact c r x y = true) (h : r < lo) : False := by
  unfold farOK at hf
  unfold nearOK at hn
  simp only [Bool.and_eq_true, Bool.or_eq_true, Nat.ble_eq, Bool.not_eq_true'] at hf hn
  obtain ⟨f1, f2⟩ := hf
  rcases hn with hn | ⟨hc, hg⟩
  · omega
  · rcases f2 with f2 | ⟨g1, g2⟩
    · rw [f2] at hc; simp at hc
    · rcases hg with hg | hg
      · rw [g1] at hg; simp at hg
      · rw [g2] at hg; simp at hg

theorem hit_far_near (D Mo : Array Bool) (compact : Bool) (c lo r : Nat) (ops : List Op)
    (hops : ∀ o ∈ ops, farOK compact c lo o.2.1 o.2.2 = true) (x y : Nat)
    (hn : nearOK compact c r x y = true) (h : r < lo) : hit D Mo ops x y = false := by
  apply hit_eq_false
  rintro o ho ⟨rfl, rfl⟩
  exact far_near_absurd compact c lo r _ _ (hops o ho) hn h

theorem dist_shift_le (x c d : Nat) (h : x < 2 * c + 1) : dist (x + d) (c + d) ≤ c := by
  unfold dist
  omega

theorem lt_of_dist_le (x c r : Nat) (h : dist x c ≤ r) (hr : r ≤ c) : x < 2 * c + 1 := by
  unfold dist at h
  omega

theorem mod_of_eq_add_mul (k a b d : Nat) (h : a = b + k * d) : a % k = b % k := by
  rw [h, Nat.add_mul_mod_self_left]

theorem onGrid_shift (c x d : Nat) : onGrid (c + d) (x + d) = onGrid c x := by
  unfold onGrid
  rw [mod_of_eq_add_mul 16 (x + d + 15 * (c + d)) (x + 15 * c) d (by omega)]

theorem onGrid_of_mod (c : Nat) (u : Int) (h0 : 0 ≤ (c : Int) + u) (h : (u % 16 == 0) = true) :
    onGrid c (coord c u) = true := by
  unfold onGrid coord
  simp only [beq_iff_eq] at h
  simp only [Nat.beq_eq]
  omega

end BV.Proofs.AztecGeom
