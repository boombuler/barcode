/-
  PDF417 Numeric compaction: the model's `encodeNumeric` (mirror of the Go `encodeNumeric`) never fails on
  ASCII digits and is inverted by the Spec's `flushNumeric` (ISO/IEC 15438 Numeric compaction), for digit
  strings of every length.  A chunk of `n ≤ 44` digits is the number "1" ++ digits, which has exactly
  `n / 3 + 1` base-900 digits (`pow_certificate`); 44 digits give 15 codewords, so the Spec's cutting into
  groups of 15 re-aligns with the model's chunks.
-/
import BV.Model.Pdf417
import BV.Spec.Pdf417
namespace BV.Proofs.PdfNumeric
open BV BV.Model.Pdf417 BV.Spec.Pdf417 BV.Gen.Pdf417

/-- every rune is an ASCII digit -/
def AllDigits (l : List Nat) : Prop := ∀ d ∈ l, 48 ≤ d ∧ d ≤ 57

/-- the number `big.Int.SetString("1" + chunk)` : the chunk's digits appended to `acc` -/
def chunkVal (acc : Nat) (chunk : List Nat) : Nat := chunk.foldl (fun acc r => acc * 10 + (r - 48)) acc

theorem allDigits_cons {d : Nat} {l : List Nat} (h : AllDigits (d :: l)) : (48 ≤ d ∧ d ≤ 57) ∧ AllDigits l :=
  ⟨h d (List.mem_cons_self), fun x hx => h x (List.mem_cons_of_mem _ hx)⟩

theorem allDigits_take {l : List Nat} (h : AllDigits l) (n : Nat) : AllDigits (l.take n) :=
  fun x hx => h x (List.mem_of_mem_take hx)

theorem allDigits_drop {l : List Nat} (h : AllDigits l) (n : Nat) : AllDigits (l.drop n) :=
  fun x hx => h x (List.mem_of_mem_drop hx)

theorem parseChunk_eq (chunk : List Nat) (h : AllDigits chunk) : parseChunk chunk = some (chunkVal 1 chunk) := by
  unfold parseChunk
  rw [if_pos]
  · rfl
  · simp only [List.all_eq_true, Bool.and_eq_true, decide_eq_true_eq]
    exact h

/-- appending `n` digits to `acc`: the value lies in `[acc·10^n, (acc+1)·10^n)` -/
theorem chunkVal_bounds (acc : Nat) (chunk : List Nat) (h : AllDigits chunk) :
    acc * 10 ^ chunk.length ≤ chunkVal acc chunk ∧ chunkVal acc chunk < (acc + 1) * 10 ^ chunk.length := by
  induction chunk generalizing acc with
  | nil => simp [chunkVal]
  | cons d l ih =>
    obtain ⟨hd, hl⟩ := allDigits_cons h
    have := ih (acc * 10 + (d - 48)) hl
    simp only [chunkVal, List.foldl_cons, List.length_cons, Nat.pow_succ] at this ⊢
    generalize 10 ^ l.length = p at this ⊢
    generalize List.foldl (fun acc r => acc * 10 + (r - 48)) (acc * 10 + (d - 48)) l = v at this ⊢
    have e1 : acc * (p * 10) = (acc * 10) * p := by
      rw [Nat.mul_comm p 10, Nat.mul_assoc]
    have e2 : (acc + 1) * (p * 10) = (acc * 10 + 10) * p := by
      rw [Nat.mul_comm p 10, ← Nat.mul_assoc, Nat.add_mul]
    rw [e1, e2]
    have h1 : (acc * 10) * p ≤ (acc * 10 + (d - 48)) * p := Nat.mul_le_mul_right _ (by omega)
    have h2 : (acc * 10 + (d - 48) + 1) * p ≤ (acc * 10 + 10) * p := Nat.mul_le_mul_right _ (by omega)
    omega

/-- decimal digits of the value: those of `acc` followed by the chunk's digit characters -/
theorem toDigits_chunkVal (acc : Nat) (chunk : List Nat) (hacc : 0 < acc) (h : AllDigits chunk) :
    Nat.toDigits 10 (chunkVal acc chunk) = Nat.toDigits 10 acc ++ chunk.map (fun d => (d - 48).digitChar) := by
  induction chunk generalizing acc with
  | nil => simp [chunkVal]
  | cons d l ih =>
    obtain ⟨hd, hl⟩ := allDigits_cons h
    have := ih (acc * 10 + (d - 48)) (by omega) hl
    simp only [chunkVal, List.foldl_cons, List.map_cons] at this ⊢
    rw [this, Nat.mul_comm acc 10, ← Nat.toDigits_append_toDigits (by omega) hacc (by omega),
      Nat.toDigits_of_lt_base (n := d - 48) (by omega)]
    simp

/-- the Spec's byte for a digit character is the rune itself -/
theorem digit_byte (d : Nat) (h : 48 ≤ d ∧ d ≤ 57) : UInt8.ofNat ((d - 48).digitChar.toNat) = UInt8.ofNat d := by
  rw [Nat.toNat_digitChar_of_lt_ten (by omega)]
  congr 1; omega

/-- fold used by the Spec: base-900 value of a codeword list -/
def val900 (l : List Nat) : Nat := l.foldl (fun a c => 900 * a + c) 0

theorem val900_snoc (l : List Nat) (x : Nat) : val900 (l ++ [x]) = 900 * val900 l + x := by
  simp [val900, List.foldl_append]

/-- The `DivMod 900` loop with enough fuel prepends the base-900 digits of `n` (most significant first):
    all below 900, folding back to `n`, and as many as `n` needs (`900^(len-1) ≤ n < 900^len`). -/
theorem base900_spec (fuel n : Nat) (cws : List Nat) (h : n < 900 ^ fuel) :
    ∃ pre, base900 fuel n cws = pre ++ cws ∧ (∀ c ∈ pre, c < 900) ∧ val900 pre = n ∧
      n < 900 ^ pre.length ∧ (∀ l, pre.length = l + 1 → 900 ^ l ≤ n) := by
  induction fuel generalizing n cws with
  | zero =>
    have : n = 0 := by simpa using h
    subst this
    exact ⟨[], rfl, by simp, rfl, by simp, by simp⟩
  | succ fuel ih =>
    unfold base900
    by_cases hn : n > 0
    · rw [if_pos hn]
      have hlt : n / 900 < 900 ^ fuel := by
        rw [Nat.div_lt_iff_lt_mul (by omega)]; rw [Nat.pow_succ] at h; exact h
      obtain ⟨pre, e, hlt9, hval, hub, hlb⟩ := ih (n / 900) (n % 900 :: cws) hlt
      refine ⟨pre ++ [n % 900], ?_, ?_, ?_, ?_, ?_⟩
      · rw [e]; simp
      · intro c hc
        simp only [List.mem_append, List.mem_singleton] at hc
        rcases hc with hc | rfl
        · exact hlt9 c hc
        · omega
      · rw [val900_snoc, hval]; omega
      · simp only [List.length_append, List.length_cons, List.length_nil, Nat.pow_succ]
        generalize 900 ^ pre.length = p at hub ⊢
        omega
      · intro l hl
        simp only [List.length_append, List.length_cons, List.length_nil] at hl
        have hl' : pre.length = l := by omega
        cases l with
        | zero => simp; omega
        | succ m =>
          have := hlb m hl'
          rw [Nat.pow_succ]
          generalize 900 ^ m = p at this ⊢
          omega
    · rw [if_neg hn]
      have : n = 0 := by omega
      subst this
      exact ⟨[], rfl, by simp, rfl, by simp, by simp⟩

/-- Certificate (45 cases, `decide`): `n` decimal digits after a leading 1 need exactly `n / 3 + 1` base-900
    digits, for every `n ≤ 44`.  (It fails for n = 47; 44 is the largest chunk size with 15 codewords.) -/
theorem pow_certificate : ∀ n, n < 45 → 900 ^ (n / 3) ≤ 10 ^ n ∧ 2 * 10 ^ n ≤ 900 ^ (n / 3 + 1) := by
  decide

/-- the codewords of one chunk -/
def chunkWords (chunk : List Nat) : List Nat := base900 (chunk.length + 2) (chunkVal 1 chunk) []

theorem chunkWords_spec (chunk : List Nat) (h : AllDigits chunk) (hlen : chunk.length ≤ 44) :
    (∀ c ∈ chunkWords chunk, c < 900) ∧ val900 (chunkWords chunk) = chunkVal 1 chunk ∧
      (chunkWords chunk).length = chunk.length / 3 + 1 := by
  obtain ⟨hlo, hhi⟩ := chunkVal_bounds 1 chunk h
  obtain ⟨c1, c2⟩ := pow_certificate chunk.length (by omega)
  have hfuel : chunkVal 1 chunk < 900 ^ (chunk.length + 2) := by
    have : 900 ^ (chunk.length / 3 + 1) ≤ 900 ^ (chunk.length + 2) :=
      Nat.pow_le_pow_right (by omega) (by omega)
    omega
  obtain ⟨pre, e, hlt, hval, hub, hlb⟩ := base900_spec (chunk.length + 2) (chunkVal 1 chunk) [] hfuel
  rw [List.append_nil] at e
  unfold chunkWords
  rw [e]
  refine ⟨hlt, hval, ?_⟩
  -- 900^(n/3) ≤ 10^n ≤ N < 900^len  and  900^(len-1) ≤ N < 2·10^n ≤ 900^(n/3+1)
  have h1 : 900 ^ (chunk.length / 3) < 900 ^ pre.length := by omega
  have h1' := (Nat.pow_lt_pow_iff_right (by omega)).1 h1
  cases hp : pre.length with
  | zero => omega
  | succ m =>
    have h2 : 900 ^ m < 900 ^ (chunk.length / 3 + 1) := by
      have := hlb m hp; omega
    have h2' := (Nat.pow_lt_pow_iff_right (by omega)).1 h2
    omega

/-- the Spec decodes the codewords of one chunk back to its digits; an inner group must have 44 digits -/
theorem numericGroup_chunkWords (chunk : List Nat) (last : Bool) (h : AllDigits chunk) (hlen : chunk.length ≤ 44)
    (hl : last = true ∨ chunk.length = 44) :
    numericGroup (chunkWords chunk) last = .ok (chunk.map UInt8.ofNat) := by
  obtain ⟨_, hval, hlen'⟩ := chunkWords_spec chunk h hlen
  unfold numericGroup
  simp only
  rw [show List.foldl (fun a c => 900 * a + c) 0 (chunkWords chunk) = chunkVal 1 chunk from hval,
    toDigits_chunkVal 1 chunk (by omega) h]
  have : Nat.toDigits 10 1 = ['1'] := by decide
  rw [this]
  simp only [List.cons_append, List.nil_append, List.length_map, hlen']
  have hg : (!last && chunk.length != 44) = false := by
    rcases hl with hl | hl
    · simp [hl]
    · simp [hl]
  rw [if_neg (by simp), hg]
  simp only [Bool.false_eq_true, if_false, List.map_map]
  show Except.ok _ = _
  congr 1
  apply List.map_congr_left
  intro d hd
  exact digit_byte d (h d hd)

/-- codewords of the first `n` chunks (44 digits each, the last one shorter) of `ds` -/
def encChunks : Nat → List Nat → List Nat
  | 0, _ => []
  | n + 1, ds => chunkWords (ds.take 44) ++ encChunks n (ds.drop 44)

/-- the slice `digits[start:end]` of the Go loop is `take 44` of the suffix -/
theorem slice_eq_take (digits : List Nat) (i : Nat) :
    (digits.drop (i * 44)).take ((if i * 44 + 44 > digits.length then digits.length else i * 44 + 44) - i * 44)
      = (digits.drop (i * 44)).take 44 := by
  split
  · rw [List.take_of_length_le (by rw [List.length_drop]; omega),
      List.take_of_length_le (by rw [List.length_drop]; omega)]
  · congr 1; omega

/-- the index-walking loop of `encodeNumeric` as a recursion on the list -/
theorem encodeNumeric_go_eq (digits : List Nat) (h : AllDigits digits) (n i : Nat) (cw : List Nat) :
    encodeNumeric.go digits digits.length n i cw = .ok (cw ++ encChunks n (digits.drop (i * 44))) := by
  induction n generalizing i cw with
  | zero => simp [encodeNumeric.go, encChunks]
  | succ n ih =>
    unfold encodeNumeric.go
    simp only [slice_eq_take]
    rw [parseChunk_eq _ (allDigits_take (allDigits_drop h _) _)]
    simp only
    rw [ih]
    simp only [encChunks, chunkWords, List.append_assoc, List.drop_drop]
    rw [Nat.succ_mul]

theorem encodeNumeric_eq (digits : List Nat) (h : AllDigits digits) :
    encodeNumeric digits =
      .ok (encChunks (digits.length / 44 + (if digits.length % 44 != 0 then 1 else 0)) digits) := by
  unfold encodeNumeric
  simp only [encodeNumeric_go_eq digits h, Nat.zero_mul, List.drop_zero, List.nil_append]

theorem flushNumeric_nil (f : Nat) : flushNumeric f [] = .ok [] := by
  cases f <;> rfl

theorem chunkWords_ne_nil (c : List Nat) (hc : AllDigits c) (hlen : c.length ≤ 44) : chunkWords c ≠ [] := by
  intro e
  have := (chunkWords_spec c hc hlen).2.2
  rw [e] at this; simp at this

/-- one round of the Spec's group loop: the codewords of a chunk in front are decoded, the rest follows -/
theorem flushNumeric_cons (f : Nat) (c R : List Nat) (out : List UInt8) (hc : AllDigits c)
    (hlen : c.length ≤ 44) (hl : R = [] ∨ c.length = 44) (hR : flushNumeric f R = .ok out) :
    flushNumeric (f + 1) (chunkWords c ++ R) = .ok (c.map UInt8.ofNat ++ out) := by
  have hL := (chunkWords_spec c hc hlen).2.2
  have hne := chunkWords_ne_nil c hc hlen
  have ht : (chunkWords c ++ R).take 15 = chunkWords c ∧ (chunkWords c ++ R).drop 15 = R := by
    rcases hl with rfl | h44
    · rw [List.append_nil]
      exact ⟨List.take_of_length_le (by omega), List.drop_of_length_le (by omega)⟩
    · exact ⟨List.take_left' (by omega), List.drop_left' (by omega)⟩
  have hemp : (chunkWords c ++ R).isEmpty = false := by simp [hne]
  unfold flushNumeric
  simp only [hemp, ht.1, ht.2, Bool.false_eq_true, if_false]
  rw [numericGroup_chunkWords c _ hc hlen (hl.imp (fun e => by rw [e]; rfl) id), hR]
  rfl

theorem flushNumeric_encChunks (n fuel : Nat) (ds : List Nat) (h : AllDigits ds) (hlo : 44 * n < ds.length)
    (hhi : ds.length ≤ 44 * (n + 1)) (hf : n + 1 ≤ fuel) :
    flushNumeric fuel (encChunks (n + 1) ds) = .ok (ds.map UInt8.ofNat) := by
  induction n generalizing ds fuel with
  | zero =>
    obtain ⟨f, rfl⟩ : ∃ f, fuel = f + 1 := ⟨fuel - 1, by omega⟩
    have : ds.take 44 = ds := List.take_of_length_le (by omega)
    simp only [encChunks, this]
    rw [flushNumeric_cons f ds [] [] h (by omega) (Or.inl rfl) (flushNumeric_nil f)]
    simp
  | succ n ih =>
    obtain ⟨f, rfl⟩ : ∃ f, fuel = f + 1 := ⟨fuel - 1, by omega⟩
    have hdl : (ds.drop 44).length = ds.length - 44 := List.length_drop
    have hR := ih f (ds.drop 44) (allDigits_drop h 44) (by omega) (by omega) (by omega)
    have htl : (ds.take 44).length = 44 := by rw [List.length_take]; omega
    rw [show encChunks (n + 1 + 1) ds = chunkWords (ds.take 44) ++ encChunks (n + 1) (ds.drop 44) from rfl,
      flushNumeric_cons f _ _ _ (allDigits_take h 44) (by omega) (Or.inr htl) hR,
      ← List.map_append, List.take_append_drop]

theorem encChunks_lt (n : Nat) (ds : List Nat) (h : AllDigits ds) : ∀ c ∈ encChunks n ds, c < 900 := by
  induction n generalizing ds with
  | zero => intro c hc; simp [encChunks] at hc
  | succ n ih =>
    intro c hc
    simp only [encChunks, List.mem_append] at hc
    rcases hc with hc | hc
    · exact (chunkWords_spec _ (allDigits_take h 44) (by rw [List.length_take]; omega)).1 c hc
    · exact ih _ (allDigits_drop h 44) c hc

/-- number of codewords: 15 for each full chunk, `m / 3 + 1` for the last chunk of `m` digits -/
theorem encChunks_length_eq (n : Nat) (ds : List Nat) (h : AllDigits ds) (hlo : 44 * n < ds.length)
    (hhi : ds.length ≤ 44 * (n + 1)) :
    (encChunks (n + 1) ds).length = 15 * n + (ds.length - 44 * n) / 3 + 1 := by
  induction n generalizing ds with
  | zero =>
    have ht : ds.take 44 = ds := List.take_of_length_le (by omega)
    have h1 := (chunkWords_spec ds h (by omega)).2.2
    simp only [encChunks, ht, List.length_append, List.length_nil, h1]
    omega
  | succ n ih =>
    have hdl : (ds.drop 44).length = ds.length - 44 := List.length_drop
    have htl : (ds.take 44).length = 44 := by rw [List.length_take]; omega
    have h1 := (chunkWords_spec _ (allDigits_take h 44) (by omega)).2.2
    have h2 := ih (ds.drop 44) (allDigits_drop h 44) (by omega) (by omega)
    rw [show encChunks (n + 1 + 1) ds = chunkWords (ds.take 44) ++ encChunks (n + 1) (ds.drop 44) from rfl,
      List.length_append, h1, h2, htl, hdl]
    omega

/-- digits (runes 48..57) are encoded without error into codewords < 900 which the Spec numeric decoder
    (groups of 15 codewords = 44 digits) maps back to the same digits -/
theorem encodeNumeric_roundtrip (digits : List Nat) (h : ∀ d ∈ digits, 48 ≤ d ∧ d ≤ 57) :
    ∃ cws, encodeNumeric digits = .ok cws ∧ (∀ c ∈ cws, c < 900) ∧
      flushNumeric cws.length cws = .ok (digits.map UInt8.ofNat) := by
  refine ⟨_, encodeNumeric_eq digits h, encChunks_lt _ _ h, ?_⟩
  by_cases h0 : digits.length = 0
  · have : digits = [] := List.length_eq_zero_iff.1 h0
    subst this
    rfl
  · have hk : digits.length / 44 + (if digits.length % 44 != 0 then 1 else 0) = (digits.length - 1) / 44 + 1 := by
      split
      · rename_i hm; simp only [bne_iff_ne, ne_eq] at hm; omega
      · rename_i hm; simp only [bne_iff_ne, ne_eq, Decidable.not_not] at hm; omega
    rw [hk]
    have hlen := encChunks_length_eq ((digits.length - 1) / 44) digits h (by omega) (by omega)
    exact flushNumeric_encChunks _ _ digits h (by omega) (by omega) (by omega)

/-- the hypotheses are satisfiable on non-trivial inputs: the example of ISO/IEC 15438 (15 digits) and a
    45-digit string (two chunks: 15 + 1 codewords) -/
example : encodeNumeric [48, 48, 48, 50, 49, 51, 50, 57, 56, 49, 55, 52, 48, 48, 48]
    = .ok [1, 624, 434, 632, 282, 200] := by rfl
example : flushNumeric 6 [1, 624, 434, 632, 282, 200]
    = .ok [48, 48, 48, 50, 49, 51, 50, 57, 56, 49, 55, 52, 48, 48, 48] := by rfl
example : encodeNumeric (List.replicate 45 57)
    = .ok [874, 223, 532, 264, 888, 236, 358, 185, 93, 795, 72, 289, 146, 822, 199, 19] := by rfl
example : ∀ d ∈ List.replicate 45 57, 48 ≤ d ∧ d ≤ 57 := by decide

end BV.Proofs.PdfNumeric
