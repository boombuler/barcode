/-
  Placement, reference side: whenever the symbolic run `DmSym.run` answers `some st`, the Annex F placement
  program of the reference (`Spec.Datamatrix.placement`) succeeds and its array is the tag map of `st`.
-/
import BV.Spec.Datamatrix
import BV.Proofs.DmTags
namespace BV.Proofs.DmPlaceS
open BV BV.Spec.Datamatrix BV.Proofs.DmSym BV.Proofs.DmTags

structure RelS (nrow ncol : Nat) (g : Grid) (st : PS) : Prop where
  hr : g.nrow = nrow
  hc : g.ncol = ncol
  harr : ∀ i, g.arr[i]? = if i < nrow * ncol then some (tagAt st.log i) else none

theorem module_eq (g : Grid) (row col : Int) (chr bit : Nat) :
    g.module row col chr bit =
      { g with arr := (g.arr.setIfInBounds
          ((wrap g.nrow g.ncol row col).1 * (g.ncol : Int) + (wrap g.nrow g.ncol row col).2).toNat
          (10 * chr + bit)) } := by
  unfold Grid.module wrap
  by_cases h1 : row < 0
  · simp only [h1, if_true]
  · simp only [h1, if_false]

section sim
variable {nrow ncol ncw : Nat}

/-- a cell is unvisited in the reference's array iff it is free in the mask -/
theorem getD_of_rel {g : Grid} {st : PS} (h : RelS nrow ncol g st) (hi : LogInv (nrow * ncol) st) (i d : Nat)
    (hlt : i < nrow * ncol) : (g.arr.getD i d == 0) = !st.occ.testBit i := by
  have := h.harr i
  rw [if_pos hlt] at this
  rw [Array.getD_eq_getD_getElem?, this, Option.getD_some, hi.occ i]
  cases hz : tagAt st.log i == 0 <;> simp_all

theorem module_sim {g : Grid} {st st' : PS} (h : RelS nrow ncol g st) (row col : Int) (chr bit : Nat)
    (hs : st.set nrow ncol row col (10 * chr + bit) = some st') : RelS nrow ncol (g.module row col chr bit) st' := by
  obtain ⟨i, hidx, hlt, hfree, rfl⟩ := PS.set_some hs
  refine ⟨h.hr, h.hc, fun j => ?_⟩
  rw [module_eq]
  simp only [h.hr, h.hc]
  have e : ((wrap nrow ncol row col).1 * (ncol : Int) + (wrap nrow ncol row col).2).toNat = i := by
    rw [Int.add_comm, hidx, Int.toNat_natCast]
  rw [e, Array.getElem?_setIfInBounds, tagAt]
  have hsz : i < g.arr.size := by
    have := h.harr i
    rw [if_pos hlt] at this
    exact (Array.getElem?_eq_some_iff.mp this).1
  by_cases hij : i = j
  · subst hij; simp [hsz, hlt]
  · simp [hij, h.harr j]

/-- the fold of the reference's `shape`, with the pattern match of its lambda spelled as projections -/
theorem shape_eq (g : Grid) (ps : List (Int × Int)) (chr : Nat) :
    g.shape ps chr = (ps.zipIdx).foldl (fun g x => g.module x.1.1 x.1.2 chr (x.2 + 1)) g := rfl

theorem shape_sim (chr : Nat) : ∀ (ps : List ((Int × Int) × Nat)) (g : Grid) (st st' : PS),
    RelS nrow ncol g st → st.shape nrow ncol ps chr = some st' →
    RelS nrow ncol (ps.foldl (fun g x => g.module x.1.1 x.1.2 chr (x.2 + 1)) g) st' := by
  intro ps
  induction ps with
  | nil =>
    intro g st st' h hs
    cases hs
    exact h
  | cons p ps ih =>
    intro g st st' h hs
    obtain ⟨st1, h1, h2⟩ := PS.shape_cons_some hs
    exact ih _ st1 st' (module_sim h p.1.1 p.1.2 chr (p.2 + 1) h1) h2

theorem utah_eq (g : Grid) (row col : Int) (chr : Nat) : g.utah row col chr = g.shape (utahPos row col) chr := rfl
theorem corner1_eq (g : Grid) (chr : Nat) : g.corner1 chr = g.shape (corner1Pos g.nrow g.ncol) chr := rfl
theorem corner2_eq (g : Grid) (chr : Nat) : g.corner2 chr = g.shape (corner2Pos g.nrow g.ncol) chr := rfl
theorem corner3_eq (g : Grid) (chr : Nat) : g.corner3 chr = g.shape (corner3Pos g.nrow g.ncol) chr := rfl
theorem corner4_eq (g : Grid) (chr : Nat) : g.corner4 chr = g.shape (corner4Pos g.nrow g.ncol) chr := rfl

structure RelW (nrow ncol : Nat) (w : Walk) (s : WS) : Prop where
  rel : RelS nrow ncol w.g s.1
  inv : LogInv (nrow * ncol) s.1
  chr : w.chr = s.2.1 + 1
  row : w.row = s.2.2.1
  col : w.col = s.2.2.2

/-! Each stage of the reference's round is a function on walking states, and each has one lemma: if the states
  are related before and the stage of the symbolic run answers `some`, they are related after. -/

theorem stepIf_sim {guard : Bool} {w : Walk} {st : PS} {idx : Nat} {row col : Int} {r : PS × Nat}
    {ps : List (Int × Int)} (h : RelW nrow ncol w (st, idx, row, col))
    (hs : DmSym.stepIf nrow ncol ncw guard (st, idx) ps = some r) :
    RelW nrow ncol (if guard then { w with g := w.g.shape ps w.chr, chr := w.chr + 1 } else w)
      (r.1, r.2, row, col) := by
  rcases stepIf_some hs with ⟨rfl, rfl⟩ | ⟨rfl, _, h1, e⟩
  · exact h
  · have hchr : w.chr = idx + 1 := h.chr
    refine ⟨?_, (shape_log (idx + 1) (by omega) ps.zipIdx st r.1 h.inv h1).1, ?_, h.row, h.col⟩
    · show RelS nrow ncol (w.g.shape ps w.chr) r.1
      rw [shape_eq, hchr]; exact shape_sim (idx + 1) ps.zipIdx w.g st r.1 h.rel h1
    · show w.chr + 1 = r.2 + 1
      rw [hchr, e]

/-- a corner case: the guard reads the position and the width of the grid -/
def sCorner (c : Int → Int → Nat → Bool) (f : Grid → Nat → Grid) (w : Walk) : Walk :=
  if c w.row w.col w.g.ncol then { w with g := f w.g w.chr, chr := w.chr + 1 } else w

theorem RelW.corner {c : Int → Int → Nat → Bool} {f : Grid → Nat → Grid} {ps : Int → Int → List (Int × Int)}
    (hf : ∀ g chr, f g chr = g.shape (ps g.nrow g.ncol) chr) {w : Walk} {st : PS}
    {idx : Nat} {row col : Int} {r : PS × Nat} (h : RelW nrow ncol w (st, idx, row, col))
    (hs : DmSym.stepIf nrow ncol ncw (c row col ncol) (st, idx) (ps nrow ncol) = some r) :
    RelW nrow ncol (sCorner c f w) (r.1, r.2, row, col) := by
  have e : c w.row w.col w.g.ncol = c row col ncol := by rw [h.row, h.col, h.rel.hc]
  unfold sCorner
  rw [e, hf, h.rel.hr, h.rel.hc]
  exact stepIf_sim h hs

def shift (dr dc : Int) (w : Walk) : Walk := { w with row := w.row + dr, col := w.col + dc }

theorem RelW.shift {w : Walk} {st : PS} {idx : Nat} {row col : Int} (h : RelW nrow ncol w (st, idx, row, col))
    (dr dc : Int) : RelW nrow ncol (shift dr dc w) (st, idx, row + dr, col + dc) :=
  ⟨h.rel, h.inv, h.chr, congrArg (· + dr) h.row, congrArg (· + dc) h.col⟩

theorem place_sim (c : Bool) {w : Walk} {st : PS} {idx : Nat} {row col : Int} {r : PS × Nat}
    (h : RelW nrow ncol w (st, idx, row, col))
    (hs : DmSym.place nrow ncol ncw c st idx row col = some r) :
    RelW nrow ncol (if c = true ∧ w.g.free w.row w.col = true
      then { w with g := w.g.utah w.row w.col w.chr, chr := w.chr + 1 } else w) (r.1, r.2, row, col) := by
  rcases place_some hs with ⟨hc, rfl⟩ | ⟨hc, i, hi, hlt, hb⟩
  · rw [if_neg (fun hh => by rw [hh.1] at hc; cases hc)]
    exact h
  · have hfree : w.g.free w.row w.col = !st.occ.testBit i := by
      unfold Grid.free
      rw [show w.row = row from h.row, show w.col = col from h.col, h.rel.hc, Int.add_comm, hi]
      exact getD_of_rel h.rel h.inv i 1 hlt
    rcases hb with ⟨hb, rfl⟩ | ⟨hb, hs⟩
    · rw [if_neg (by simp [hfree, hb])]
      exact h
    · have e : w.g.utah w.row w.col w.chr = w.g.shape (utahPos row col) w.chr := by
        rw [utah_eq, h.row, h.col]
      rw [if_pos ⟨hc, by simp [hfree, hb]⟩, e]
      exact stepIf_sim h hs

def sSweep (d : Dir) : Nat → Walk → Walk
  | 0, w => w
  | fuel + 1, w =>
    let w1 := shift d.dr d.dc (if d.inR w.g.nrow w.g.ncol w.row w.col = true ∧ w.g.free w.row w.col = true
      then { w with g := w.g.utah w.row w.col w.chr, chr := w.chr + 1 } else w)
    if d.out w1.g.nrow w1.g.ncol w1.row w1.col then w1 else sSweep d fuel w1

theorem sSweep_up : ∀ (fuel : Nat) (w : Walk), Spec.Datamatrix.sweepUp fuel w = sSweep .up fuel w := by
  intro fuel
  induction fuel with
  | zero => intro w; rfl
  | succ fuel ih =>
    intro w
    rw [Spec.Datamatrix.sweepUp, sSweep]
    simp only [ih, Dir.up, decide_eq_true_eq, and_assoc]
    generalize (if w.row < (w.g.nrow : Int) ∧ w.col ≥ 0 ∧ w.g.free w.row w.col = true then _ else w : Walk) = w0
    by_cases h : w0.row - 2 ≥ 0 ∧ w0.col + 2 < (w0.g.ncol : Int)
    · rw [if_pos h, if_neg (by simp only [shift]; omega)]; rfl
    · rw [if_neg h, if_pos (by simp only [shift]; omega)]; rfl

theorem sSweep_down : ∀ (fuel : Nat) (w : Walk), Spec.Datamatrix.sweepDown fuel w = sSweep .down fuel w := by
  intro fuel
  induction fuel with
  | zero => intro w; rfl
  | succ fuel ih =>
    intro w
    rw [Spec.Datamatrix.sweepDown, sSweep]
    simp only [ih, Dir.down, decide_eq_true_eq, and_assoc]
    generalize (if w.row ≥ 0 ∧ w.col < (w.g.ncol : Int) ∧ w.g.free w.row w.col = true then _ else w : Walk) = w0
    by_cases h : w0.row + 2 < (w0.g.nrow : Int) ∧ w0.col - 2 ≥ 0
    · rw [if_pos h, if_neg (by simp only [shift]; omega)]; rfl
    · rw [if_neg h, if_pos (by simp only [shift]; omega)]; rfl

theorem sweep_sim (d : Dir) : ∀ (f1 f2 : Nat) (w : Walk) (st : PS) (idx : Nat) (row col : Int) (r : WS),
    f1 ≤ f2 → RelW nrow ncol w (st, idx, row, col) →
    sweep nrow ncol ncw d f1 (st, idx, row, col) = some r →
    RelW nrow ncol (sSweep d f2 w) r := by
  intro f1
  induction f1 with
  | zero => intro f2 w st idx row col r _ _ hs; cases hs
  | succ f1 ih =>
    intro f2 w st idx row col r hf h hs
    obtain ⟨f2, rfl⟩ : ∃ k, f2 = k + 1 := ⟨f2 - 1, by omega⟩
    obtain ⟨p, hp, hs⟩ := sweep_some hs
    have hp' : place nrow ncol ncw (d.inR w.g.nrow w.g.ncol w.row w.col) st idx row col = some p := by
      rw [h.row, h.col, h.rel.hr, h.rel.hc]; exact hp
    have h1 := (place_sim _ h hp').shift d.dr d.dc
    rw [sSweep]
    generalize shift d.dr d.dc _ = w1 at h1 ⊢
    rw [show w1.row = row + d.dr from h1.row, show w1.col = col + d.dc from h1.col, h1.rel.hr, h1.rel.hc]
    split at hs
    · rename_i hcond
      rw [if_pos hcond, hs]
      exact h1
    · rename_i hcond
      rw [if_neg hcond]
      exact ih f2 _ p.1 p.2 _ _ r (by omega) h1 hs

/-- the two sweeps, with the fuel the reference gives them -/
def sUp (w : Walk) : Walk := Spec.Datamatrix.sweepUp (w.g.nrow + w.g.ncol) w
def sDown (w : Walk) : Walk := Spec.Datamatrix.sweepDown (w.g.nrow + w.g.ncol) w

theorem RelW.up {w : Walk} {st : PS} {idx : Nat} {row col : Int} {f : Nat} {r : WS}
    (h : RelW nrow ncol w (st, idx, row, col)) (hf : f ≤ nrow + ncol)
    (hs : sweep nrow ncol ncw .up f (st, idx, row, col) = some r) : RelW nrow ncol (sUp w) r := by
  rw [sUp, sSweep_up]
  exact sweep_sim _ f _ w st idx row col r (by rw [h.rel.hr, h.rel.hc]; exact hf) h hs

theorem RelW.down {w : Walk} {st : PS} {idx : Nat} {row col : Int} {f : Nat} {r : WS}
    (h : RelW nrow ncol w (st, idx, row, col)) (hf : f ≤ nrow + ncol)
    (hs : sweep nrow ncol ncw .down f (st, idx, row, col) = some r) : RelW nrow ncol (sDown w) r := by
  rw [sDown, sSweep_down]
  exact sweep_sim _ f _ w st idx row col r (by rw [h.rel.hr, h.rel.hc]; exact hf) h hs

/-- one round of the reference's outer loop, up to (excluding) the loop test -/
def sRound (w : Walk) : Walk :=
  let n : Int := w.g.nrow
  w |> sCorner (fun row col _ => decide (row = n ∧ col = 0)) Grid.corner1
    |> sCorner (fun row col m => decide (row = n - 2 ∧ col = 0 ∧ m % 4 ≠ 0)) Grid.corner2
    |> sCorner (fun row col m => decide (row = n - 2 ∧ col = 0 ∧ m % 8 = 4)) Grid.corner3
    |> sCorner (fun row col m => decide (row = n + 4 ∧ col = 2 ∧ m % 8 = 0)) Grid.corner4
    |> sUp |> shift 1 3 |> sDown |> shift 3 1

theorem mainLoop_succ (fuel : Nat) (w : Walk) :
    Spec.Datamatrix.mainLoop (fuel + 1) w =
      if (sRound w).row < (w.g.nrow : Int) ∨ (sRound w).col < (w.g.ncol : Int)
      then Spec.Datamatrix.mainLoop fuel (sRound w) else sRound w := by
  rw [Spec.Datamatrix.mainLoop]
  rfl

theorem round_sim {w : Walk} {s s' : WS} (h : RelW nrow ncol w s)
    (hs : DmSym.round nrow ncol ncw s = some s') : RelW nrow ncol (sRound w) s' := by
  obtain ⟨st, idx, row, col⟩ := s
  obtain ⟨s1, s2, s3, s4, u, d, h1, h2, h3, h4, hfu, hu, hfd, hd, rfl⟩ := round_some hs
  unfold sRound
  rw [h.rel.hr]
  exact ((((((((h.corner corner1_eq h1).corner corner2_eq h2).corner corner3_eq h3).corner corner4_eq h4).up hfu hu).shift 1 3).down hfd hd).shift 3 1)

/-- the outer loop: the reference's `do … while` against the symbolic `while`, entered with the test true -/
theorem mainLoop_sim : ∀ (f1 f2 : Nat) (w : Walk) (s : WS) (r : PS × Nat),
    f1 ≤ f2 → RelW nrow ncol w s → (s.2.2.1 < (nrow : Int) ∨ s.2.2.2 < (ncol : Int)) →
    DmSym.mainLoop nrow ncol ncw f1 s = some r →
    RelS nrow ncol (Spec.Datamatrix.mainLoop f2 w).g r.1 ∧ LogInv (nrow * ncol) r.1 ∧
      (Spec.Datamatrix.mainLoop f2 w).chr = r.2 + 1 := by
  intro f1
  induction f1 with
  | zero => intro f2 w s r _ _ _ hs; simp [DmSym.mainLoop] at hs
  | succ f1 ih =>
    intro f2 w s r hf h hcond hs
    obtain ⟨f2, rfl⟩ : ∃ k, f2 = k + 1 := ⟨f2 - 1, by omega⟩
    have hs := mainLoop_some hs
    rw [if_pos hcond] at hs
    obtain ⟨s1, hround, hs⟩ := hs
    have h1 := round_sim h hround
    rw [mainLoop_succ, h.rel.hr, h.rel.hc, show (sRound w).row = s1.2.2.1 from h1.row,
      show (sRound w).col = s1.2.2.2 from h1.col]
    by_cases hc1 : s1.2.2.1 < (nrow : Int) ∨ s1.2.2.2 < (ncol : Int)
    · rw [if_pos hc1]
      exact ih f2 _ s1 r (by omega) h1 hc1 hs
    · rw [if_neg hc1]
      cases f1 with
      | zero => simp [DmSym.mainLoop] at hs
      | succ f1 =>
        have hs := mainLoop_some hs
        rw [if_neg hc1] at hs
        rw [hs]
        exact ⟨h1.rel, h1.inv, h1.chr⟩

theorem foldl_count (l : List Nat) : ∀ acc,
    l.foldl (fun n v => if v ≥ 10 then n + 1 else n) acc = acc + l.countP (fun v => decide (v ≥ 10)) := by
  induction l with
  | nil => intro acc; rfl
  | cons v l ih =>
    intro acc
    rw [List.foldl_cons, ih, List.countP_cons]
    by_cases h : v ≥ 10
    · simp [h]; omega
    · simp [h]

theorem arr_toList {g : Grid} {st : PS} (h : RelS nrow ncol g st) :
    g.arr.toList = (List.range (nrow * ncol)).map (tagAt st.log) := by
  apply List.ext_getElem?
  intro i
  rw [Array.getElem?_toList, h.harr i]
  by_cases hi : i < nrow * ncol
  · simp [hi]
  · simp [hi]

/-- the number of modules the reference counts as placed is the length of the log -/
theorem placed_eq {g : Grid} {st : PS} (h : RelS nrow ncol g st) (hi : LogInv (nrow * ncol) st) :
    g.arr.foldl (fun n v => if v ≥ 10 then n + 1 else n) 0 = st.log.length := by
  rw [← Array.foldl_toList, foldl_count, arr_toList h, List.countP_map, Nat.zero_add]
  exact (cells_countP (fun v => decide (v ≥ 10)) rfl _ st.log hi.nodup (fun p hp => (hi.tags p hp).1)).trans
    (List.countP_eq_length.mpr (fun p hp => decide_eq_true (hi.tags p hp).2))

theorem relS_init : RelS nrow ncol { nrow := nrow, ncol := ncol, arr := Array.replicate (nrow * ncol) 0 }
    { occ := 0, log := [] } :=
  ⟨rfl, rfl, fun i => by simp [Array.getElem?_replicate, tagAt]⟩

def walk0 (nrow ncol : Nat) : Walk :=
  ⟨⟨nrow, ncol, Array.replicate (nrow * ncol) 0⟩, 1, 4, 0⟩

/-- the reference's array for a symbolic state -/
def arrOf (n : Nat) (st : PS) : Array Nat := Array.ofFn (n := n) (fun i => tagAt st.log i)

theorem arr_eq_arrOf {g : Grid} {st : PS} (h : RelS nrow ncol g st) : g.arr = arrOf (nrow * ncol) st :=
  eq_ofFn h.harr

theorem arrOf_cons (n o o' : Nat) (log : List (Nat × Nat)) (i t : Nat) :
    arrOf n ⟨o, (i, t) :: log⟩ = (arrOf n ⟨o', log⟩).setIfInBounds i t := by
  apply Array.ext_getElem?
  intro j
  simp only [arrOf, Array.getElem?_setIfInBounds, Array.getElem?_ofFn, Array.size_ofFn, tagAt]
  by_cases hij : i = j
  · subst hij; simp
  · simp [hij]

theorem placement_of_run {st : PS} (hrun : run nrow ncol ncw = some st) :
    placement nrow ncol = some (arrOf (nrow * ncol) st, ncw) := by
  obtain ⟨h2r, h2c, hN, st0, hml, _, _, hlen, hfin⟩ := run_final hrun
  have hw0 : RelW nrow ncol (walk0 nrow ncol) ({ occ := 0, log := [] }, 0, 4, 0) :=
    ⟨relS_init, logInv_init _, rfl, rfl, rfl⟩
  obtain ⟨hrel, hinv, hchr⟩ := mainLoop_sim (nrow + ncol) (nrow + ncol) _ _ _ (Nat.le_refl _) hw0
    (Or.inr (by show (0 : Int) < (ncol : Int); omega)) hml
  unfold placement
  generalize hW : Spec.Datamatrix.mainLoop (nrow + ncol) (walk0 nrow ncol) = W at hrel hinv hchr
  simp only [walk0] at hW
  simp only [hW]
  rw [placed_eq hrel hinv, hchr, hlen]
  have hc0 : ¬ (nrow < 2 ∨ ncol < 2 ∨ 8 * ncw ≠ 8 * (ncw + 1 - 1)) := by omega
  rw [if_neg hc0, getD_of_rel hrel hinv _ _ (by omega)]
  rcases hfin with ⟨hb, hl, rfl⟩ | ⟨hl, f1, f2, f3, f4, rfl⟩
  · simp only [hb, Bool.not_true, Bool.false_eq_true, if_false]
    rw [if_pos (by omega), arr_eq_arrOf hrel]
    simp
  · simp only [f1, Bool.not_false, if_true]
    rw [getD_of_rel hrel hinv _ _ (by omega), getD_of_rel hrel hinv _ _ (by omega),
      getD_of_rel hrel hinv _ _ (by omega), f2, f3, f4, if_pos ⟨by omega, rfl, rfl, rfl⟩,
      arr_eq_arrOf hrel, arrOf_cons _ _ 0, arrOf_cons _ _ st0.occ]
    simp

end sim
end BV.Proofs.DmPlaceS
