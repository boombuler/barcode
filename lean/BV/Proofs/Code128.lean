/-
  BV.Proofs.Code128 — Code 128 at symbol level: the encoder loop `getCodeIndexList` against the reference interpreter
  `Spec.OneD.c128Interpret`.
-/
import BV.Model.Code128
import BV.Spec.OneD
import BV.Proofs.Utf8
namespace BV.Proofs.Code128
open BV BV.Model.Code128 BV.Gen.Code128 BV.Spec.OneD BV.Proofs.Utf8

/-- the alphabet of Code 128 in this library: ASCII and the four FNC placeholders -/
def InAlpha (r : Nat) : Prop := r < 128 ∨ (0xF1 ≤ r ∧ r ≤ 0xF4)
instance (r : Nat) : Decidable (InAlpha r) := by unfold InAlpha; infer_instance

/-! ### the character tables -/

/-- what `range` yields on `n` consecutive ASCII characters from `s` on, stored from byte offset `off` on -/
def charRange : Nat → Nat → Nat → List (Nat × Nat)
  | _, _, 0 => []
  | off, s, n + 1 => (off, s) :: charRange (off + 1) (s + 1) n

theorem find?_charRange (r : Nat) : ∀ n off s, (charRange off s n).find? (fun p => decide (p.2 = r)) =
    if s ≤ r ∧ r < s + n then some (off + (r - s), r) else none := by
  intro n
  induction n with
  | zero => intro off s; rw [if_neg (by omega)]; rfl
  | succ n ih =>
    intro off s
    rw [charRange, List.find?_cons]
    by_cases h : s = r
    · subst h
      rw [if_pos (by omega)]
      simp
    · simp only [h, decide_false]
      rw [ih]
      by_cases hr : s + 1 ≤ r ∧ r < s + 1 + n
      · rw [if_pos hr, if_pos (by omega)]
        congr 2; omega
      · rw [if_neg hr, if_neg (by omega)]

/-- certificate: set B is the characters 32..127 in order, set A the characters 32..95 followed by 0..31 -/
theorem runes_tables :
    runes c_bTable = charRange 0 32 96 ∧ runes c_abTable = charRange 0 32 64 ∧ runes c_aOnlyTable = charRange 0 0 32 ∧
    runes c_aTable = charRange 0 32 64 ++ charRange 64 0 32 := by decide +kernel

theorem runes_bTable : runes c_bTable = charRange 0 32 96 := runes_tables.1
theorem runes_abTable : runes c_abTable = charRange 0 32 64 := runes_tables.2.1
theorem runes_aOnlyTable : runes c_aOnlyTable = charRange 0 0 32 := runes_tables.2.2.1
theorem runes_aTable : runes c_aTable = charRange 0 32 64 ++ charRange 64 0 32 := runes_tables.2.2.2

theorem containsRune_eq (t : Bytes) (r : Nat) :
    containsRune t r = ((runes t).find? (fun p => decide (p.2 = r))).isSome := by
  rw [List.isSome_find?]; rfl

theorem tableContainsRune_iff (t : Bytes) (r : Nat) :
    tableContainsRune t r = true ↔ containsRune t r = true ∨ (241 ≤ r ∧ r ≤ 244) := by
  unfold tableContainsRune
  cases containsRune t r <;> simp [fnc1, fnc2, fnc3, fnc4, c_FNC1, c_FNC2, c_FNC3, c_FNC4] <;> omega

theorem inB_iff (r : Nat) : tableContainsRune c_bTable r = true ↔ (32 ≤ r ∧ r < 128) ∨ (241 ≤ r ∧ r ≤ 244) := by
  rw [tableContainsRune_iff, containsRune_eq, runes_bTable, find?_charRange]
  split <;> simp <;> omega

theorem inAB_iff (r : Nat) : tableContainsRune c_abTable r = true ↔ (32 ≤ r ∧ r < 96) ∨ (241 ≤ r ∧ r ≤ 244) := by
  rw [tableContainsRune_iff, containsRune_eq, runes_abTable, find?_charRange]
  split <;> simp <;> omega

theorem inAOnly_iff (r : Nat) : containsRune c_aOnlyTable r = true ↔ r < 32 := by
  rw [containsRune_eq, runes_aOnlyTable, find?_charRange]
  split <;> simp <;> omega

theorem inA_iff (r : Nat) : tableContainsRune c_aTable r = true ↔ r < 96 ∨ (241 ≤ r ∧ r ≤ 244) := by
  rw [tableContainsRune_iff, containsRune_eq, runes_aTable, List.find?_append, find?_charRange, find?_charRange]
  split <;> split <;> simp <;> omega

theorem indexRune_b (r : Nat) :
    indexRune c_bTable r = if 32 ≤ r ∧ r < 128 then ((r - 32 : Nat) : Int) else -1 := by
  unfold indexRune
  rw [runes_bTable, find?_charRange]
  by_cases h : 32 ≤ r ∧ r < 128
  · rw [if_pos h, if_pos (show 32 ≤ r ∧ r < 32 + 96 from h), Nat.zero_add]
  · rw [if_neg h, if_neg (show ¬ (32 ≤ r ∧ r < 32 + 96) from h)]

theorem indexRune_a (r : Nat) :
    indexRune c_aTable r =
      if 32 ≤ r ∧ r < 96 then ((r - 32 : Nat) : Int) else if r < 32 then ((64 + r : Nat) : Int) else -1 := by
  unfold indexRune
  rw [runes_aTable, List.find?_append, find?_charRange, find?_charRange]
  by_cases h : 32 ≤ r ∧ r < 96
  · rw [if_pos h, if_pos (show 32 ≤ r ∧ r < 32 + 64 from h), Option.some_or, Nat.zero_add]
  · rw [if_neg h, if_neg (show ¬ (32 ≤ r ∧ r < 32 + 64) from h), Option.none_or]
    by_cases h32 : r < 32
    · rw [if_pos h32, if_pos (by omega : 0 ≤ r ∧ r < 0 + 32), Nat.sub_zero]
    · rw [if_neg h32, if_neg (by omega : ¬ (0 ≤ r ∧ r < 0 + 32))]

/-! ### symbol values -/

theorem fnc_cases {r : Nat} (h : 241 ≤ r ∧ r ≤ 244) : r = 241 ∨ r = 242 ∨ r = 243 ∨ r = 244 := by omega

theorem idxA_ascii {r : Nat} (h : ¬ (241 ≤ r ∧ r ≤ 244)) : idxA r = indexRune c_aTable r := by
  unfold idxA
  have e : ∀ c, 241 ≤ c → c ≤ 244 → (r == c) = false := fun c _ _ => beq_false_of_ne (by omega)
  rw [e fnc1 (by decide) (by decide), e fnc2 (by decide) (by decide), e fnc3 (by decide) (by decide),
    e fnc4 (by decide) (by decide)]
  rfl

theorem idxB_ascii {r : Nat} (h : ¬ (241 ≤ r ∧ r ≤ 244)) : idxB r = indexRune c_bTable r := by
  unfold idxB
  have e : ∀ c, 241 ≤ c → c ≤ 244 → (r == c) = false := fun c _ _ => beq_false_of_ne (by omega)
  rw [e fnc1 (by decide) (by decide), e fnc2 (by decide) (by decide), e fnc3 (by decide) (by decide),
    e fnc4 (by decide) (by decide)]
  rfl

/-- a rune of table A or an FNC placeholder has a set-A symbol value, which the reference interpreter reads back -/
theorem idxA_spec {r : Nat} (h : r < 96 ∨ (241 ≤ r ∧ r ≤ 244)) :
    ∃ v : Nat, idxA r = (v : Int) ∧ v < 103 ∧
      ∀ rest, c128Interpret .A (v :: rest) = (c128Interpret .A rest).map (r :: ·) := by
  rcases h with h | h
  · rw [idxA_ascii (by omega), indexRune_a]
    by_cases h32 : r < 32
    · refine ⟨64 + r, by rw [if_neg (by omega), if_pos h32], by omega, fun rest => ?_⟩
      rw [c128Interpret, if_neg (by omega), if_pos (by omega), Nat.add_sub_cancel_left]
    · refine ⟨r - 32, by rw [if_pos (by omega)], by omega, fun rest => ?_⟩
      rw [c128Interpret, if_pos (by omega), Nat.sub_add_cancel (by omega)]
  · rcases fnc_cases h with rfl | rfl | rfl | rfl
    · exact ⟨102, rfl, by omega, fun _ => rfl⟩
    · exact ⟨97, rfl, by omega, fun _ => rfl⟩
    · exact ⟨96, rfl, by omega, fun _ => rfl⟩
    · exact ⟨101, rfl, by omega, fun _ => rfl⟩

theorem idxB_spec {r : Nat} (h : (32 ≤ r ∧ r < 128) ∨ (241 ≤ r ∧ r ≤ 244)) :
    ∃ v : Nat, idxB r = (v : Int) ∧ v < 103 ∧
      ∀ rest, c128Interpret .B (v :: rest) = (c128Interpret .B rest).map (r :: ·) := by
  rcases h with h | h
  · rw [idxB_ascii (by omega), indexRune_b]
    refine ⟨r - 32, by rw [if_pos h], by omega, fun rest => ?_⟩
    rw [c128Interpret, if_pos (by omega), Nat.sub_add_cancel (by omega)]
  · rcases fnc_cases h with rfl | rfl | rfl | rfl
    · exact ⟨102, rfl, by omega, fun _ => rfl⟩
    · exact ⟨97, rfl, by omega, fun _ => rfl⟩
    · exact ⟨96, rfl, by omega, fun _ => rfl⟩
    · exact ⟨100, rfl, by omega, fun _ => rfl⟩

/-- a symbol value survives `AddByte` -/
theorem toNat_emod {v : Nat} (h : v < 256) : ((v : Int).emod 256).toNat = v := by
  show ((v : Int) % 256).toNat = v
  omega

/-! ### the two facts needed from the look-ahead heuristics -/

theorem useC_go_unfold (next : List Nat) (f i req : Nat) :
    shouldUseCTable.go next (f + 1) i req =
      if i < req then
        if (i % 2 == 0 && next.getD i 0 == fnc1) = true then
          if next.length < req + 1 then false else shouldUseCTable.go next f (i + 1) (req + 1)
        else if (!isDigit (next.getD i 0)) = true then false
        else shouldUseCTable.go next f (i + 1) req
      else true := by
  rw [shouldUseCTable.go]

theorem useC_go_spec (next : List Nat) (f req : Nat) (hreq : 2 ≤ req)
    (h : shouldUseCTable.go next (f + 2) 0 req = true) :
    next.getD 0 0 = fnc1 ∨ (isDigit (next.getD 0 0) = true ∧ isDigit (next.getD 1 0) = true) := by
  rw [useC_go_unfold, if_pos (by omega)] at h
  by_cases h0 : next.getD 0 0 = fnc1
  · exact Or.inl h0
  · right
    have h0' : (0 % 2 == 0 && next.getD 0 0 == fnc1) = false := by
      rw [Bool.and_eq_false_iff]; right; exact beq_false_of_ne h0
    rw [h0', if_neg (by simp)] at h
    cases hd0 : isDigit (next.getD 0 0) with
    | false => rw [hd0] at h; simp at h
    | true =>
      rw [hd0, if_neg (by simp), useC_go_unfold, if_pos (by omega)] at h
      have h1' : ((0 + 1) % 2 == 0 && next.getD (0 + 1) 0 == fnc1) = false := by
        rw [Bool.and_eq_false_iff]; left; rfl
      rw [h1', if_neg (by simp)] at h
      cases hd1 : isDigit (next.getD (0 + 1) 0) with
      | false => rw [hd1] at h; simp at h
      | true => exact ⟨hd0.symm ▸ rfl, rfl⟩

/-- `shouldUseCTable` only answers yes in front of FNC1 or of two digits -/
theorem useC_spec (r : Nat) (tail : List Nat) (cur : Nat) (h : shouldUseCTable (r :: tail) cur = true) :
    r = fnc1 ∨ (isDigit r = true ∧ ∃ r2 tail', tail = r2 :: tail' ∧ isDigit r2 = true) := by
  unfold shouldUseCTable at h
  simp only at h
  generalize hreqd : (if (cur == c_startCSymbol) = true then 2 else 4) = req at h
  have hreq : 2 ≤ req := by rw [← hreqd]; split <;> omega
  by_cases hlen : (r :: tail).length < req
  · rw [if_pos hlen] at h; exact absurd h (by simp)
  · rw [if_neg hlen] at h
    have hl2 : 2 ≤ (r :: tail).length := by omega
    have := useC_go_spec (r :: tail) ((r :: tail).length + 3) _ hreq h
    rcases this with h0 | ⟨h0, h1⟩
    · exact Or.inl (by simpa using h0)
    · right
      refine ⟨by simpa using h0, ?_⟩
      cases tail with
      | nil => simp at hl2
      | cons r2 t => exact ⟨r2, t, rfl, by simpa using h1⟩

theorem useA_unfold (r : Nat) (tail : List Nat) (cur : Nat) :
    shouldUseATable (r :: tail) cur =
      if (!tableContainsRune c_bTable r || cur == c_startASymbol) = true then tableContainsRune c_aTable r
      else if (cur == 0) = true then shouldUseATable.scan (r :: tail) else false := rfl

/-- `shouldUseATable` only answers yes when the rune is encodable in set A -/
theorem useA_spec (r : Nat) (tail : List Nat) (cur : Nat) (h : shouldUseATable (r :: tail) cur = true) :
    r < 96 ∨ (241 ≤ r ∧ r ≤ 244) := by
  rw [useA_unfold] at h
  by_cases h1 : (!tableContainsRune c_bTable r || cur == c_startASymbol) = true
  · rw [if_pos h1] at h; exact (inA_iff r).1 h
  · rw [if_neg h1] at h
    by_cases h2 : (cur == 0) = true
    · rw [if_pos h2, shouldUseATable.scan] at h
      by_cases hab : tableContainsRune c_abTable r = true
      · have := (inAB_iff r).1 hab; omega
      · rw [if_neg hab] at h
        by_cases ha : containsRune c_aOnlyTable r = true
        · have := (inAOnly_iff r).1 ha; omega
        · rw [if_neg ha] at h; exact absurd h (by simp)
    · rw [if_neg h2] at h; exact absurd h (by simp)

/-- … and answers yes for every rune of the alphabet that set B cannot encode -/
theorem notA_spec (r : Nat) (tail : List Nat) (cur : Nat) (ha : InAlpha r)
    (h : shouldUseATable (r :: tail) cur = false) : (32 ≤ r ∧ r < 128) ∨ (241 ≤ r ∧ r ≤ 244) := by
  rw [← inB_iff]
  cases hb : tableContainsRune c_bTable r with
  | true => rfl
  | false =>
    rw [useA_unfold, hb, if_pos (by simp)] at h
    have hna : ¬ (r < 96 ∨ (241 ≤ r ∧ r ≤ 244)) := fun h' => by rw [← inA_iff, h] at h'; exact absurd h' (by simp)
    have hnb : ¬ ((32 ≤ r ∧ r < 128) ∨ (241 ≤ r ∧ r ≤ 244)) := fun h' => by
      rw [← inB_iff, hb] at h'; exact absurd h' (by simp)
    unfold InAlpha at ha
    omega


/-! ### the encoder loop -/

def setOf (cur : Nat) : CodeSet := if cur = 103 then .A else if cur = 104 then .B else .C
def codeSym (tgt : Nat) : Nat := if tgt = 103 then 101 else if tgt = 104 then 100 else 99

/-- Start A, Start B or Start C; the loop keeps the start symbol of the code set in force as its state `cur` -/
def IsStart (s : Nat) : Prop := s = 103 ∨ s = 104 ∨ s = 105

theorem IsStart.A : IsStart c_startASymbol := .inl rfl
theorem IsStart.B : IsStart c_startBSymbol := .inr (.inl rfl)
theorem IsStart.C : IsStart c_startCSymbol := .inr (.inr rfl)
theorem IsStart.lt {s : Nat} (h : IsStart s) : s < 106 := by unfold IsStart at h; omega

theorem go_unfold (fuel r : Nat) (tail : List Nat) (cur : Nat) (acc : List Nat) :
    getCodeIndexList.go (fuel + 1) (r :: tail) cur acc =
      if shouldUseCTable (r :: tail) cur = true then
        if (r == fnc1) = true then
          getCodeIndexList.go fuel tail c_startCSymbol
            (acc ++ switchTo cur c_startCSymbol c_startCSymbol c_codeCSymbol ++ [102])
        else
          getCodeIndexList.go fuel (tail.drop 1) c_startCSymbol
            (acc ++ switchTo cur c_startCSymbol c_startCSymbol c_codeCSymbol ++
              [((((r : Int) - 48) * 10 + (((tail.headD 0 : Nat) : Int) - 48)).emod 256).toNat])
      else if shouldUseATable (r :: tail) cur = true then
        if idxA r < 0 then none
        else getCodeIndexList.go fuel tail c_startASymbol
          (acc ++ switchTo cur c_startASymbol c_startASymbol c_codeASymbol ++ [((idxA r).emod 256).toNat])
      else
        if idxB r < 0 then none
        else getCodeIndexList.go fuel tail c_startBSymbol
          (acc ++ switchTo cur c_startBSymbol c_startBSymbol c_codeBSymbol ++ [((idxB r).emod 256).toNat]) := by
  rw [getCodeIndexList.go]

theorem digit_pair_val (r r2 : Nat) (h1 : isDigit r = true) (h2 : isDigit r2 = true) :
    ((((r : Int) - 48) * 10 + ((r2 : Int) - 48)).emod 256).toNat = (r - 48) * 10 + (r2 - 48) ∧
    (r - 48) * 10 + (r2 - 48) < 100 ∧ 48 ≤ r ∧ 48 ≤ r2 ∧ r ≤ 57 ∧ r2 ≤ 57 := by
  unfold isDigit at h1 h2
  simp only [Bool.and_eq_true, decide_eq_true_eq] at h1 h2
  refine ⟨?_, by omega, by omega, by omega, by omega, by omega⟩
  show ((((r : Int) - 48) * 10 + ((r2 : Int) - 48)) % 256).toNat = _
  omega

theorem interpret_C_digits (r r2 : Nat) (h1 : isDigit r = true) (h2 : isDigit r2 = true) (rest : List Nat) :
    c128Interpret .C (((((r : Int) - 48) * 10 + ((r2 : Int) - 48)).emod 256).toNat :: rest) =
      (c128Interpret .C rest).map (fun l => r :: r2 :: l) := by
  obtain ⟨hv, hlt, hr, hr2, hr', hr2'⟩ := digit_pair_val r r2 h1 h2
  rw [hv, c128Interpret, if_pos hlt]
  have e1 : 48 + ((r - 48) * 10 + (r2 - 48)) / 10 = r := by omega
  have e2 : 48 + ((r - 48) * 10 + (r2 - 48)) % 10 = r2 := by omega
  rw [e1, e2]

/-- One iteration of the loop.  At a rune outside the alphabet it gives up.  Otherwise it consumes `k ∈ {1, 2}` runes
    of the alphabet and emits an optional start/switch symbol and one data symbol `v < 103`, which the reference
    interpreter reads in the new code set as exactly the consumed runes. -/
theorem go_step (fuel r : Nat) (tail : List Nat) (cur : Nat) (acc : List Nat) :
    (¬ InAlpha r ∧ getCodeIndexList.go (fuel + 1) (r :: tail) cur acc = none) ∨
    ∃ tgt v k, IsStart tgt ∧ v < 103 ∧ 1 ≤ k ∧ k ≤ (r :: tail).length ∧
      getCodeIndexList.go (fuel + 1) (r :: tail) cur acc =
        getCodeIndexList.go fuel ((r :: tail).drop k) tgt (acc ++ switchTo cur tgt tgt (codeSym tgt) ++ [v]) ∧
      (∀ out, c128Interpret (setOf tgt) (v :: out) =
        (c128Interpret (setOf tgt) out).map ((r :: tail).take k ++ ·)) ∧
      ∀ x ∈ (r :: tail).take k, InAlpha x := by
  have one : ∀ x ∈ (r :: tail).take 1, x = r := by simp
  rw [go_unfold]
  by_cases hC : shouldUseCTable (r :: tail) cur = true
  · rw [if_pos hC]
    rcases useC_spec r tail cur hC with rfl | ⟨hd, r2, tail', rfl, hd2⟩
    · exact .inr ⟨c_startCSymbol, 102, 1, .C, by omega, by omega, by simp, rfl, fun out => rfl,
        fun x hx => one x hx ▸ by decide⟩
    · obtain ⟨hv, hlt, _, _, _, _⟩ := digit_pair_val r r2 hd hd2
      have hne : (r == fnc1) = false := beq_false_of_ne (by show r ≠ 241; omega)
      rw [hne, if_neg (by simp)]
      refine .inr ⟨c_startCSymbol, _, 2, .C, by rw [List.headD_cons, hv]; omega, by omega, by simp, rfl,
        fun out => interpret_C_digits r r2 hd hd2 out, fun x hx => ?_⟩
      simp only [List.take_succ_cons, List.take_zero, List.mem_cons, List.not_mem_nil, or_false] at hx
      unfold InAlpha
      rcases hx with rfl | rfl <;> omega
  · rw [if_neg hC]
    by_cases hA : shouldUseATable (r :: tail) cur = true
    · rw [if_pos hA]
      have hr := useA_spec r tail cur hA
      obtain ⟨v, hv, hlt, hint⟩ := idxA_spec hr
      rw [hv, if_neg (by omega), toNat_emod (by omega)]
      exact .inr ⟨c_startASymbol, v, 1, .A, hlt, by omega, by simp, rfl, hint,
        fun x hx => one x hx ▸ by unfold InAlpha; omega⟩
    · rw [if_neg hA]
      by_cases ha : InAlpha r
      · obtain ⟨v, hv, hlt, hint⟩ := idxB_spec (notA_spec r tail cur ha (by simpa using hA))
        rw [hv, if_neg (by omega), toNat_emod (by omega)]
        exact .inr ⟨c_startBSymbol, v, 1, .B, hlt, by omega, by simp, rfl, hint, fun x hx => one x hx ▸ ha⟩
      · unfold InAlpha at ha
        rw [idxB_ascii (by omega), indexRune_b, if_neg (show ¬ (32 ≤ r ∧ r < 128) by omega),
          if_pos (show (-1 : Int) < 0 by decide)]
        exact .inl ⟨by unfold InAlpha; omega, rfl⟩

theorem go_nil (fuel cur : Nat) (acc : List Nat) : getCodeIndexList.go fuel [] cur acc = some acc := by
  cases fuel <;> rw [getCodeIndexList.go]

/-- a code-set switch symbol moves the reference interpreter into the target set -/
theorem interpret_switch (cur tgt : Nat) (hc : IsStart cur)
    (ht : IsStart tgt) (l : List Nat) :
    c128Interpret (setOf cur) (switchTo cur tgt tgt (codeSym tgt) ++ l) = c128Interpret (setOf tgt) l ∧
    ∀ v ∈ switchTo cur tgt tgt (codeSym tgt), v < 103 := by
  rcases hc with rfl | rfl | rfl <;> rcases ht with rfl | rfl | rfl <;>
    simp [setOf, switchTo, codeSym, c128Interpret]

/-- What the loop does, started in code set `cur` with `rest` to go: if a rune is outside the alphabet it returns nil;
    otherwise it appends symbols `< 103` which the reference interpreter, in set `cur`, reads as exactly `rest`. -/
def Inv (fuel : Nat) (rest : List Nat) (cur : Nat) (acc : List Nat) : Prop :=
  ((∃ r ∈ rest, ¬ InAlpha r) ∧ getCodeIndexList.go fuel rest cur acc = none) ∨
  ((∀ r ∈ rest, InAlpha r) ∧ ∃ out, getCodeIndexList.go fuel rest cur acc = some (acc ++ out) ∧
    (∀ v ∈ out, v < 103) ∧ c128Interpret (setOf cur) out = some rest)

theorem inv_nil (fuel cur : Nat) (acc : List Nat) : Inv fuel [] cur acc :=
  .inr ⟨by simp, [], by simp [go_nil], by simp, by cases setOf cur <;> rfl⟩

/-- the first iteration followed by a run that satisfies the invariant; `cur` may be 0 (no symbol emitted yet) -/
theorem go_cons (fuel r : Nat) (tail : List Nat) (cur : Nat) (acc : List Nat) (hl : tail.length ≤ fuel)
    (ih : ∀ rest tgt acc', rest.length ≤ fuel → IsStart tgt → Inv fuel rest tgt acc') :
    ((∃ x ∈ r :: tail, ¬ InAlpha x) ∧ getCodeIndexList.go (fuel + 1) (r :: tail) cur acc = none) ∨
    ((∀ x ∈ r :: tail, InAlpha x) ∧ ∃ tgt out, IsStart tgt ∧
      getCodeIndexList.go (fuel + 1) (r :: tail) cur acc = some (acc ++ switchTo cur tgt tgt (codeSym tgt) ++ out) ∧
      (∀ v ∈ out, v < 103) ∧ c128Interpret (setOf tgt) out = some (r :: tail)) := by
  rcases go_step fuel r tail cur acc with ⟨hn, hgo⟩ | ⟨tgt, v, k, ht, hv, hk1, hk2, hgo, hint, hal⟩
  · exact .inl ⟨⟨r, by simp, hn⟩, hgo⟩
  · have hsplit := List.take_append_drop k (r :: tail)
    rcases ih ((r :: tail).drop k) tgt (acc ++ switchTo cur tgt tgt (codeSym tgt) ++ [v])
        (by rw [List.length_drop]; simp only [List.length_cons] at hk2 ⊢; omega) ht with
      ⟨⟨x, hx, hxb⟩, hnone⟩ | ⟨hall, out, hgo', hlt, hint'⟩
    · exact .inl ⟨⟨x, List.mem_of_mem_drop hx, hxb⟩, by rw [hgo, hnone]⟩
    · refine .inr ⟨fun x hx => ?_, tgt, v :: out, ht, by rw [hgo, hgo']; simp, ?_, by rw [hint, hint']; simp [hsplit]⟩
      · rw [← hsplit, List.mem_append] at hx
        exact hx.elim (hal x) (hall x)
      · intro x hx
        rcases List.mem_cons.1 hx with rfl | hx
        · exact hv
        · exact hlt x hx

/-- fuel `≥ rest.length` suffices -/
theorem go_spec (fuel : Nat) : ∀ (rest : List Nat) (cur : Nat) (acc : List Nat), rest.length ≤ fuel →
    IsStart cur → Inv fuel rest cur acc := by
  induction fuel with
  | zero =>
    intro rest cur acc hl _
    have : rest = [] := List.length_eq_zero_iff.1 (by omega)
    subst this
    exact inv_nil 0 cur acc
  | succ fuel ih =>
    intro rest cur acc hl hc
    cases rest with
    | nil => exact inv_nil _ cur acc
    | cons r tail =>
      rcases go_cons fuel r tail cur acc (by simpa using hl) ih with h | ⟨hall, tgt, out, ht, hgo, hlt, hint⟩
      · exact .inl h
      · obtain ⟨hsw, hswlt⟩ := interpret_switch cur tgt hc ht out
        refine .inr ⟨hall, switchTo cur tgt tgt (codeSym tgt) ++ out, by rw [hgo, List.append_assoc], ?_,
          by rw [hsw, hint]⟩
        intro x hx
        exact (List.mem_append.1 hx).elim (hswlt x) (hlt x)

/-- `getCodeIndexList` on a non-empty rune list: nil if a rune is outside the alphabet, otherwise a start symbol and
    data symbols `< 103` which the reference interpreter reads as the runes -/
theorem symbols_cases (r : Nat) (tail : List Nat) :
    ((∃ x ∈ r :: tail, ¬ InAlpha x) ∧ getCodeIndexList (r :: tail) = none) ∨
    ((∀ x ∈ r :: tail, InAlpha x) ∧ ∃ start data, getCodeIndexList (r :: tail) = some (start :: data) ∧
      IsStart start ∧ (∀ v ∈ data, v < 103) ∧
      c128Interpret (setOf start) data = some (r :: tail)) := by
  unfold getCodeIndexList
  rcases go_cons (r :: tail).length r tail 0 [] (by simp) (go_spec _) with h | ⟨hall, tgt, out, ht, hgo, hlt, hint⟩
  · exact .inl h
  · have hsw : switchTo 0 tgt tgt (codeSym tgt) = [tgt] := by
      rcases ht with rfl | rfl | rfl <;> rfl
    rw [hsw] at hgo
    exact .inr ⟨hall, tgt, out, hgo, ht, hlt, hint⟩

theorem symbols_spec (rs : List Nat) (h1 : 1 ≤ rs.length) (ha : ∀ r ∈ rs, InAlpha r) :
    ∃ start data, getCodeIndexList rs = some (start :: data) ∧ IsStart start ∧
      (∀ v ∈ data, v < 103) ∧ c128Interpret (setOf start) data = some rs := by
  cases rs with
  | nil => exact absurd h1 (by simp)
  | cons r tail =>
    rcases symbols_cases r tail with ⟨⟨x, hx, hxb⟩, _⟩ | ⟨_, h⟩
    · exact absurd (ha x hx) hxb
    · exact h

theorem symbols_reject (rs : List Nat) (hb : ¬ ∀ r ∈ rs, InAlpha r) : getCodeIndexList rs = none := by
  cases rs with
  | nil => exact absurd (by simp) hb
  | cons r tail =>
    rcases symbols_cases r tail with ⟨_, h⟩ | ⟨hall, _⟩
    · exact h
    · exact absurd hall hb

end BV.Proofs.Code128
