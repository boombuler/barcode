/-
  The placement code of the implementation in the shapes of the symbolic run.  `SetSimple` and
  `Corner1`…`Corner4` each make eight calls of `Set`; here they are one fold (`mShape`) over the position lists
  of the run, so that a fact about `Set` lifts to all five by a single induction.  The two inner loops of
  `SetValues` are one loop with a direction (`mSweep`).  In front of them: `GetBit` and `SetBit` of the model on an
  index that is a natural number inside the list, for all files that follow bits through `BitList`s.
-/
import BV.Model.Datamatrix
import BV.Proofs.DmSymL
namespace BV.Proofs.DmShape
open BV BV.Model BV.Model.Datamatrix BV.Proofs.DmSym

theorem getBit_nat (a : Array Bool) (i : Nat) (v : Bool) (h : a[i]? = some v) : getBit a (i : Int) = .ok v := by
  obtain ⟨hlt, rfl⟩ := Array.getElem?_eq_some_iff.mp h
  unfold getBit
  rw [if_pos (Int.natCast_nonneg i), Int.toNat_natCast, dif_pos hlt]

theorem setBit_nat (a : Array Bool) (i : Nat) (v : Bool) (h : i < a.size) :
    setBit a (i : Int) v = .ok (a.setIfInBounds i v) := by
  unfold setBit
  have h0 : (0 : Int) ≤ (i : Int) := by omega
  rw [if_pos h0, Int.toNat_natCast, if_pos h]
  rfl

def mShape (l : CodeLayout) (ps : List ((Int × Int) × Nat)) (v : UInt8) : Res CodeLayout :=
  ps.foldlM (fun l p => l.set p.1.1 p.1.2 v p.2) l

theorem setSimple_eq (l : CodeLayout) (row col : Int) (v : UInt8) :
    l.setSimple row col v = mShape l (utahPos row col).zipIdx v := by
  simp [CodeLayout.setSimple, mShape, utahPos, List.zipIdx, List.foldlM]

theorem corner1_eq (l : CodeLayout) (v : UInt8) :
    l.corner1 v = mShape l (corner1Pos l.size.matrixRows l.size.matrixColumns).zipIdx v := by
  simp [CodeLayout.corner1, mShape, corner1Pos, List.zipIdx, List.foldlM]

theorem corner2_eq (l : CodeLayout) (v : UInt8) :
    l.corner2 v = mShape l (corner2Pos l.size.matrixRows l.size.matrixColumns).zipIdx v := by
  simp [CodeLayout.corner2, mShape, corner2Pos, List.zipIdx, List.foldlM]

theorem corner3_eq (l : CodeLayout) (v : UInt8) :
    l.corner3 v = mShape l (corner3Pos l.size.matrixRows l.size.matrixColumns).zipIdx v := by
  simp [CodeLayout.corner3, mShape, corner3Pos, List.zipIdx, List.foldlM]

theorem corner4_eq (l : CodeLayout) (v : UInt8) :
    l.corner4 v = mShape l (corner4Pos l.size.matrixRows l.size.matrixColumns).zipIdx v := by
  simp [CodeLayout.corner4, mShape, corner4Pos, List.zipIdx, List.foldlM]

def mSweep (data : Array UInt8) (d : Dir) : Nat → SVState → Res SVState
  | 0, _ => .error .panic
  | fuel + 1, (l, idx, row, col) => do
    let (l, idx) ← placeIfFree data (d.inR l.size.matrixRows l.size.matrixColumns row col) l idx row col
    if d.out l.size.matrixRows l.size.matrixColumns (row + d.dr) (col + d.dc) then pure (l, idx, row + d.dr, col + d.dc)
    else mSweep data d fuel (l, idx, row + d.dr, col + d.dc)

theorem mSweep_up (data : Array UInt8) : ∀ (fuel : Nat) (w : SVState),
    Datamatrix.sweepUp data fuel w = mSweep data .up fuel w := by
  intro fuel
  induction fuel with
  | zero => intro w; rfl
  | succ fuel ih =>
    intro ⟨l, idx, row, col⟩
    simp only [Datamatrix.sweepUp, mSweep, ih, Dir.up, decide_eq_true_eq]
    rfl

theorem mSweep_down (data : Array UInt8) : ∀ (fuel : Nat) (w : SVState),
    Datamatrix.sweepDown data fuel w = mSweep data .down fuel w := by
  intro fuel
  induction fuel with
  | zero => intro w; rfl
  | succ fuel ih =>
    intro ⟨l, idx, row, col⟩
    simp only [Datamatrix.sweepDown, mSweep, ih, Dir.down, decide_eq_true_eq]
    rfl

end BV.Proofs.DmShape
