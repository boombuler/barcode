/-
  BV.Proofs.AztecAlign — sizes of the Aztec symbol and the alignment map of `EncodeWithColor` in closed form (`amF`,
  `amF_eq`): in centre offsets it is the reference decoder's map from lattice offsets to true offsets (`amF_offs`,
  `real_lat`); the bit offsets of the layers (`rowOff`).
  Namespace `BV.Proofs.AztecGeom`, shared with AztecOps, AztecHit and AztecGeom.
-/
import BV.Proofs.AztecLayers
import BV.Proofs.AztecHit
namespace BV.Proofs.AztecGeom
open BV BV.Model.Aztec BV.Proofs.AztecBits

/-! ### sizes -/

/-- centre offset of the module whose alignment map index lies `s` past the middle index: in full-range symbols
    every 16th offset belongs to the reference grid -/
def offs (compact : Bool) (s : Int) : Int := if compact then s else s + s / 15 + 1

/-- closed form of the alignment map of `EncodeWithColor` (0 outside the matrix) -/
def amF (compact : Bool) (bms i : Nat) : Nat :=
  if compact then (if i < bms then i else 0)
  else if i < 2 * (bms / 2) then
    (if i < bms / 2 then
      (bms + 1 + 2 * ((bms / 2 - 1) / 15)) / 2 - (bms / 2 - 1 - i + (bms / 2 - 1 - i) / 15) - 1
     else (bms + 1 + 2 * ((bms / 2 - 1) / 15)) / 2 + (i - bms / 2 + (i - bms / 2) / 15) + 1)
  else 0

/-- `matrixSize` of `EncodeWithColor` -/
def matSize (compact : Bool) (layers : Nat) : Nat :=
  if compact then baseSize compact layers
  else baseSize compact layers + 1 + 2 * ((baseSize compact layers / 2 - 1) / 15)

/-- centre coordinate -/
def cen (compact : Bool) (L : Nat) : Nat := matSize compact L / 2

/-! ### the alignment map -/

theorem am_compact (bms m : Nat) (hm : m ≤ bms) :
    ((List.range m).foldl (fun (am : Array Nat) i => am.setIfInBounds i i) (Array.replicate bms 0)).size = bms ∧
    ∀ t, ((List.range m).foldl (fun (am : Array Nat) i => am.setIfInBounds i i) (Array.replicate bms 0)).getD t 0 =
      if t < m then t else 0 := by
  induction m with
  | zero =>
    refine ⟨by simp, fun t => ?_⟩
    simp only [List.range_zero, List.foldl_nil, Array.getD_eq_getD_getElem?, Array.getElem?_replicate]
    split <;> simp
  | succ m ih =>
    obtain ⟨hs, hg⟩ := ih (by omega)
    rw [List.range_succ, List.foldl_append]
    simp only [List.foldl_cons, List.foldl_nil]
    refine ⟨by rw [Array.size_setIfInBounds, hs], fun t => ?_⟩
    rw [getD_setIfInBounds, hg, hs]
    by_cases h : m = t
    · subst h
      rw [if_pos ⟨rfl, by omega⟩, if_pos (by omega)]
    · rw [if_neg (by omega)]
      by_cases h2 : t < m
      · rw [if_pos h2, if_pos (by omega)]
      · rw [if_neg h2, if_neg (by omega)]

/-- a map filled from the middle index `oc` outwards: step `i` writes `lo i` below and `hi i` above -/
theorem am_sym (bms oc : Nat) (lo hi : Nat → Nat) (hoc : 2 * oc ≤ bms) (m : Nat) (hm : m ≤ oc) :
    ((List.range m).foldl
      (fun (am : Array Nat) i => (am.setIfInBounds (oc - i - 1) (lo i)).setIfInBounds (oc + i) (hi i))
      (Array.replicate bms 0)).size = bms ∧
    ∀ t, ((List.range m).foldl
      (fun (am : Array Nat) i => (am.setIfInBounds (oc - i - 1) (lo i)).setIfInBounds (oc + i) (hi i))
      (Array.replicate bms 0)).getD t 0 =
      if oc - m ≤ t ∧ t < oc + m then (if t < oc then lo (oc - 1 - t) else hi (t - oc)) else 0 := by
  induction m with
  | zero =>
    refine ⟨by simp, fun t => ?_⟩
    simp only [List.range_zero, List.foldl_nil, Array.getD_eq_getD_getElem?, Array.getElem?_replicate]
    have e : (if t < bms then some 0 else none : Option Nat).getD 0 = 0 := by split <;> rfl
    rw [e, if_neg (by omega)]
  | succ m ih =>
    obtain ⟨hs, hg⟩ := ih (by omega)
    rw [List.range_succ, List.foldl_append]
    simp only [List.foldl_cons, List.foldl_nil]
    refine ⟨by rw [Array.size_setIfInBounds, Array.size_setIfInBounds, hs], fun t => ?_⟩
    rw [getD_setIfInBounds, getD_setIfInBounds, hg, Array.size_setIfInBounds, hs]
    clear hg hs ih
    by_cases h1 : oc + m = t
    · subst h1
      rw [if_pos ⟨rfl, by omega⟩, if_pos (by omega), if_neg (by omega), Nat.add_sub_cancel_left]
    · rw [if_neg (fun h => h1 h.1)]
      by_cases h2 : oc - m - 1 = t
      · subst h2
        rw [if_pos ⟨rfl, by omega⟩, if_pos (by omega), if_pos (by omega), show oc - 1 - (oc - m - 1) = m by omega]
      · rw [if_neg (fun h => h2 h.1)]
        by_cases h3 : oc - m ≤ t ∧ t < oc + m
        · rw [if_pos h3, if_pos (show oc - (m + 1) ≤ t ∧ t < oc + (m + 1) by omega)]
        · rw [if_neg h3, if_neg (show ¬ (oc - (m + 1) ≤ t ∧ t < oc + (m + 1)) by omega)]

theorem amF_eq (compact : Bool) (bms i : Nat) : (alignmentMap compact bms).1.getD i 0 = amF compact bms i := by
  unfold alignmentMap amF
  cases compact
  · simp only [Bool.false_eq_true, if_false]
    rw [(am_sym bms (bms / 2) _ _ (by omega) (bms / 2) (Nat.le_refl _)).2]
    by_cases h : i < 2 * (bms / 2)
    · rw [if_pos (by omega), if_pos h]
    · rw [if_neg (by omega), if_neg h]
  · simp only [if_true]
    rw [(am_compact bms bms (Nat.le_refl _)).2]

theorem matSize_eq (compact : Bool) (layers : Nat) :
    (alignmentMap compact (baseSize compact layers)).2 = matSize compact layers := by
  unfold alignmentMap matSize
  cases compact <;> rfl

/-! ### size arithmetic -/

theorem matSize_symbolSize (compact : Bool) (L : Nat) : matSize compact L = Spec.Aztec.symbolSize compact L :=
  (matSize_eq compact L).symm.trans (BV.Proofs.AztecLayers.matrixSize_eq compact L)

theorem matSize_closed (compact : Bool) (L : Nat) :
    matSize compact L = if compact then 11 + 4 * L else 15 + 4 * L + 2 * ((2 * L + 6) / 15) := by
  rw [matSize_symbolSize]
  cases compact
  · exact BV.Proofs.AztecLayers.symbolSize_full L
  · exact BV.Proofs.AztecLayers.symbolSize_compact L

theorem cen_closed (compact : Bool) (L : Nat) :
    cen compact L = if compact then 5 + 2 * L else 7 + 2 * L + (2 * L + 6) / 15 := by
  unfold cen
  rw [matSize_closed]
  cases compact
  · simp only [Bool.false_eq_true, if_false]; omega
  · simp only [if_true]; omega

theorem matSize_odd (compact : Bool) (L : Nat) : matSize compact L = 2 * cen compact L + 1 := by
  rw [matSize_closed, cen_closed]
  cases compact
  · simp only [Bool.false_eq_true, if_false]; omega
  · simp only [if_true]; omega

theorem cen_mono (compact : Bool) (L' d : Nat) : cen compact L' ≤ cen compact (L' + d) := by
  rw [cen_closed, cen_closed]
  cases compact
  · simp only [Bool.false_eq_true, if_false]; omega
  · simp only [if_true]; omega

/-- without data layers the symbol ends at the mode message ring -/
theorem cen_zero (compact : Bool) : cen compact 0 = Spec.Aztec.modeRing compact := by
  cases compact <;> rfl

theorem cen_eq_zero_add (compact : Bool) (L : Nat) :
    cen compact L = cen compact 0 + (cen compact L - cen compact 0) := by
  have := cen_mono compact 0 L
  rw [Nat.zero_add] at this
  omega

/-- the centre coordinate is the outermost true offset of the standard -/
theorem cen_halfSize (compact : Bool) (L : Nat) : cen compact L = Spec.Aztec.halfSize compact L := by
  have := matSize_symbolSize compact L
  rw [matSize_odd] at this
  unfold Spec.Aztec.symbolSize at this
  omega

theorem baseSize_rowSize (compact : Bool) (L : Nat) : baseSize compact L = rowSize compact L 0 + 2 := by
  unfold baseSize rowSize
  cases compact <;> simp <;> omega

theorem baseSize_half (compact : Bool) (L : Nat) :
    baseSize compact L / 2 = Spec.Aztec.modeRing compact + 2 * L ∧
      baseSize compact L = 2 * (baseSize compact L / 2) + (if compact then 1 else 0) := by
  unfold baseSize Spec.Aztec.modeRing
  cases compact <;> simp <;> omega

/-! ### bit offsets of the layers -/

/-- bit index of the first bit of layer `i` (0 = outermost) -/
def rowOff (compact : Bool) (L : Nat) : Nat → Nat
  | 0 => 0
  | i + 1 => rowOff compact L i + rowSize compact L i * 8

theorem rowOff_closed (compact : Bool) (L i : Nat) (hi : i ≤ L) :
    rowOff compact L i + 16 * (i * i) = 32 * (i * L) + (if compact then 88 else 112) * i := by
  induction i with
  | zero => simp [rowOff]
  | succ i ih =>
    have := ih (by omega)
    have e : rowOff compact L (i + 1) = rowOff compact L i + rowSize compact L i * 8 := rfl
    have e1 : (i + 1) * (i + 1) = i * i + 2 * i + 1 := by rw [Nat.add_mul, Nat.mul_add]; omega
    rw [e, e1, Nat.add_mul i 1 L]
    unfold rowSize
    cases compact <;> simp only [Bool.false_eq_true, if_false, if_true] at this ⊢ <;> omega

theorem rowOff_total (compact : Bool) (L : Nat) : rowOff compact L L = totalBitsInLayer L compact := by
  have := rowOff_closed compact L L (Nat.le_refl L)
  unfold totalBitsInLayer
  simp only []
  rw [Nat.add_mul, Nat.mul_assoc]
  omega

theorem rowOff_mono (compact : Bool) (L : Nat) (i d : Nat) : rowOff compact L i ≤ rowOff compact L (i + d) := by
  induction d with
  | zero => exact Nat.le_refl _
  | succ d ih =>
    have : rowOff compact L (i + (d + 1)) = rowOff compact L (i + d) + rowSize compact L (i + d) * 8 := rfl
    omega

theorem rowOff_le (compact : Bool) (L i : Nat) (hi : i < L) :
    rowOff compact L i + rowSize compact L i * 8 ≤ totalBitsInLayer L compact := by
  have h := rowOff_mono compact L (i + 1) (L - (i + 1))
  have e : i + 1 + (L - (i + 1)) = L := by omega
  rw [e, rowOff_total] at h
  exact h

/-- consecutive chunks of the message, one per layer, concatenate to a segment of the message -/
theorem chunks (bits : List Bool) (compact : Bool) (L : Nat) : ∀ (m s : Nat),
    (List.range' s m).flatMap
        (fun i => (bits.drop (rowOff compact L i)).take (rowSize compact L i * 8)) =
      (bits.drop (rowOff compact L s)).take (rowOff compact L (s + m) - rowOff compact L s) := by
  intro m
  induction m with
  | zero => intro s; simp
  | succ m ih =>
    intro s
    rw [List.range'_succ, List.flatMap_cons, ih (s + 1)]
    have e1 : rowOff compact L (s + 1) = rowOff compact L s + rowSize compact L s * 8 := rfl
    have e2 : s + 1 + m = s + (m + 1) := by omega
    have e3 := rowOff_mono compact L (s + 1) m
    have e4 : rowOff compact L (s + (m + 1)) - rowOff compact L s =
        rowSize compact L s * 8 + (rowOff compact L (s + 1 + m) - rowOff compact L (s + 1)) := by
      rw [← e2]; omega
    rw [e4, List.take_add, List.drop_drop, ← e1]

/-! ### the alignment map in centre offsets -/

theorem amF_offs (compact : Bool) (L u : Nat) (hu : u < baseSize compact L) :
    (amF compact (baseSize compact L) u : Int) =
      cen compact L + offs compact ((u : Int) - (baseSize compact L / 2 : Nat)) := by
  unfold baseSize at hu
  unfold amF offs cen matSize baseSize
  cases compact
  · simp only [Bool.false_eq_true, if_false] at hu ⊢
    rw [if_pos (by omega)]
    split <;> omega
  · simp only [if_true] at hu ⊢
    rw [if_pos hu]
    omega

theorem offs_lt (compact : Bool) (s t : Int) (h : s < t) : offs compact s < offs compact t := by
  unfold offs
  cases compact
  · simp only [Bool.false_eq_true, if_false]
    omega
  · exact h

theorem amF_inj (compact : Bool) (L u v : Nat) (hu : u < baseSize compact L) (hv : v < baseSize compact L)
    (h : amF compact (baseSize compact L) u = amF compact (baseSize compact L) v) : u = v := by
  have e1 := amF_offs compact L u hu
  have e2 := amF_offs compact L v hv
  rw [h] at e1
  rcases Nat.lt_trichotomy u v with hlt | heq | hlt
  · have := offs_lt compact ((u : Int) - (baseSize compact L / 2 : Nat)) ((v : Int) - (baseSize compact L / 2 : Nat))
      (by omega)
    omega
  · exact heq
  · have := offs_lt compact ((v : Int) - (baseSize compact L / 2 : Nat)) ((u : Int) - (baseSize compact L / 2 : Nat))
      (by omega)
    omega

theorem amF_lt (compact : Bool) (L u : Nat) (hu : u < baseSize compact L) :
    amF compact (baseSize compact L) u < matSize compact L := by
  have e := amF_offs compact L u hu
  have h := baseSize_half compact L
  rw [matSize_odd]
  rw [cen_closed] at e ⊢
  generalize amF compact (baseSize compact L) u = x at e ⊢
  generalize baseSize compact L / 2 = m at e h
  generalize baseSize compact L = b at hu h
  unfold offs at e
  unfold Spec.Aztec.modeRing at h
  cases compact
  · simp only [Bool.false_eq_true, if_false] at *
    omega
  · simp only [if_true] at *
    omega

/-- the two outermost indices of layer `i < L` on either side lie beyond the mode message ring -/
theorem amF_far (compact : Bool) (L u : Nat) (hu : u < baseSize compact L)
    (h : u < 2 * L ∨ baseSize compact L ≤ u + 2 * L) :
    cen compact 0 < dist (amF compact (baseSize compact L) u) (cen compact L) := by
  have e := amF_offs compact L u hu
  have hh := baseSize_half compact L
  rw [cen_zero]
  generalize amF compact (baseSize compact L) u = x at e
  generalize cen compact L = c at e
  generalize baseSize compact L / 2 = m at e hh
  generalize baseSize compact L = b at hu h hh
  unfold offs at e
  unfold dist Spec.Aztec.modeRing at *
  cases compact
  · simp only [Bool.false_eq_true, if_false] at *
    omega
  · simp only [if_true] at *
    omega

theorem amF_offGrid (L u : Nat) (hu : u < baseSize false L) :
    onGrid (cen false L) (amF false (baseSize false L) u) = false := by
  have e := amF_offs false L u hu
  generalize amF false (baseSize false L) u = x at e
  generalize ((u : Int) - (baseSize false L / 2 : Nat)) = s at e
  unfold onGrid
  unfold offs at e
  simp only [Bool.false_eq_true, if_false] at e
  rw [Bool.eq_false_iff]
  intro h
  have := Nat.eq_of_beq_eq_true h
  omega

/-! ### the reference decoder's lattice and the alignment map -/

/-- lattice offset of the alignment map index `u` when the middle index is `h`: full-range symbols have no
    lattice offset 0 -/
def lat (compact : Bool) (h u : Nat) : Int := if compact || u < h then (u : Int) - h else (u : Int) - h + 1

/-- the true offset of a lattice offset is the centre offset of its alignment map index -/
theorem real_lat (compact : Bool) (h u : Nat) :
    Spec.Aztec.real compact (lat compact h u) = offs compact ((u : Int) - h) := by
  unfold Spec.Aztec.real lat offs
  cases compact
  · simp only [Bool.false_eq_true, if_false, Bool.false_or, decide_eq_true_eq]
    split
    · rw [if_pos (by omega)]; omega
    · rw [if_neg (by omega)]; omega
  · rfl

theorem lat_mirror (compact : Bool) (L u : Nat) (hu : u < baseSize compact L) :
    lat compact (baseSize compact L / 2) (baseSize compact L - 1 - u) = - lat compact (baseSize compact L / 2) u := by
  have h := (baseSize_half compact L).2
  generalize baseSize compact L / 2 = m at h ⊢
  generalize baseSize compact L = b at h hu ⊢
  unfold lat
  cases compact
  · simp only [Bool.false_eq_true, if_false, Bool.false_or, decide_eq_true_eq] at h ⊢
    split <;> split <;> omega
  · simp only [if_true, Bool.true_or] at h ⊢
    omega

theorem cen_real (compact : Bool) (L u : Nat) (hu : u < baseSize compact L) :
    (cen compact L : Int) + Spec.Aztec.real compact (lat compact (baseSize compact L / 2) u) =
      amF compact (baseSize compact L) u := by
  rw [real_lat, amF_offs compact L u hu]

theorem cen_real_neg (compact : Bool) (L u : Nat) (hu : u < baseSize compact L) :
    (cen compact L : Int) + Spec.Aztec.real compact (- lat compact (baseSize compact L / 2) u) =
      amF compact (baseSize compact L) (baseSize compact L - 1 - u) := by
  rw [← lat_mirror compact L u hu, cen_real compact L _ (by omega)]

theorem latticeAxis_eq (compact : Bool) (ρ : Nat) :
    Spec.Aztec.latticeAxis compact ρ = (List.range (if compact then 2 * ρ + 1 else 2 * ρ)).map (lat compact ρ) := by
  unfold Spec.Aztec.latticeAxis lat
  cases compact
  · have e1 : 2 * ρ + 1 = ρ + (1 + ρ) := by omega
    have e2 : 2 * ρ = ρ + ρ := by omega
    have h1 : ∀ t ∈ List.range ρ, (((t : Nat) : Int) - ρ != 0) = true := by
      intro t ht
      have := List.mem_range.mp ht
      simp only [bne_iff_ne, ne_eq]
      omega
    have h2 : ∀ t ∈ List.range ρ, (((ρ + (1 + t) : Nat) : Int) - ρ != 0) = true := by
      intro t _
      simp only [bne_iff_ne, ne_eq]
      omega
    simp only [Bool.false_eq_true, if_false, Bool.false_or, decide_eq_true_eq]
    rw [e1, e2]
    simp only [List.range_add, List.range_one, List.map_append, List.filter_append, List.map_cons, List.map_nil,
      List.map_map, List.filter_map, Function.comp_def]
    rw [List.filter_eq_self.mpr h1, List.filter_eq_self.mpr h2]
    congr 1
    · apply List.map_congr_left
      intro t ht
      rw [if_pos (List.mem_range.mp ht)]
    · have e3 : (((ρ + 0 : Nat) : Int) - ρ != 0) = false := by simp
      rw [List.filter_cons_of_neg (by simp), List.filter_nil, List.nil_append]
      apply List.map_congr_left
      intro t _
      rw [if_neg (by omega)]
      omega
  · simp only [if_true, Bool.true_or]
    rw [List.filter_eq_self.mpr (fun _ _ => rfl)]

/-- the columns of a layer: all lattice offsets but the last two -/
theorem columns_eq (compact : Bool) (ρ n : Nat) (hn : n + 2 = if compact then 2 * ρ + 1 else 2 * ρ) :
    (Spec.Aztec.latticeAxis compact ρ).dropLast.dropLast = (List.range n).map (lat compact ρ) := by
  rw [latticeAxis_eq, ← hn, List.dropLast_eq_take, List.dropLast_eq_take, List.take_take, ← List.map_take,
    List.take_range]
  simp only [List.length_take, List.length_map, List.length_range]
  congr 2
  omega

theorem lat_add (compact : Bool) (h t u : Nat) : lat compact (h + t) (t + u) = lat compact h u := by
  unfold lat
  cases compact
  · simp only [Bool.false_or, decide_eq_true_eq]
    split <;> split <;> omega
  · simp only [Bool.true_or, if_true]
    omega

theorem lat_zero_one (compact : Bool) (ρ : Nat) (h : 2 ≤ ρ) :
    lat compact ρ 0 = -(ρ : Int) ∧ lat compact ρ 1 = -(ρ : Int) + 1 := by
  unfold lat
  rw [if_pos (by simp; omega), if_pos (by simp; omega)]
  omega

end BV.Proofs.AztecGeom
