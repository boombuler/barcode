/-
  Invariants of the symbolic placement run: no cell is written twice, every written cell lies in
  the matrix, and the tags are written in codeword order, eight bits each — so a successful run assigns every
  (codeword, bit) pair to exactly one module.
-/
import BV.Proofs.DmSymL
namespace BV.Proofs.DmTags
open BV BV.Proofs.DmSym

/-- the occupancy mask marks exactly the logged cells; before the fixed pattern every logged cell is inside the
    matrix and carries a codeword tag; no cell is logged twice -/
structure LogInv (n : Nat) (st : PS) : Prop where
  occ : ∀ i, st.occ.testBit i = (tagAt st.log i != 0)
  tags : ∀ p ∈ st.log, p.1 < n ∧ 10 ≤ p.2
  nodup : (st.log.map Prod.fst).Nodup

theorem tagAt_mem (log : List (Nat × Nat)) (i : Nat) (h : tagAt log i ≠ 0) : (i, tagAt log i) ∈ log := by
  induction log with
  | nil => exact absurd rfl h
  | cons p rest ih =>
    obtain ⟨j, t⟩ := p
    simp only [tagAt] at h ⊢
    by_cases hj : j = i
    · subst hj; simp
    · simp only [if_neg hj] at h ⊢
      exact List.mem_cons_of_mem _ (ih h)

theorem tagAt_of_not_mem (log : List (Nat × Nat)) (i : Nat) (h : i ∉ log.map Prod.fst) : tagAt log i = 0 :=
  Decidable.byContradiction fun hne => h (List.mem_map.mpr ⟨_, tagAt_mem log i hne, rfl⟩)

theorem logInv_init (n : Nat) : LogInv n { occ := 0, log := [] } :=
  ⟨fun i => (by simp [tagAt]), fun p hp => (by cases hp), List.nodup_nil⟩

theorem tagAt_ne_zero_of_mem (log : List (Nat × Nat)) (i : Nat) (hall : ∀ p ∈ log, p.2 ≠ 0)
    (h : i ∈ log.map Prod.fst) : tagAt log i ≠ 0 := by
  induction log with
  | nil => cases h
  | cons q rest ih =>
    obtain ⟨j, t⟩ := q
    simp only [tagAt]
    by_cases hj : j = i
    · rw [if_pos hj]; exact hall (j, t) List.mem_cons_self
    · rw [if_neg hj]
      simp only [List.map_cons, List.mem_cons] at h
      rcases h with e | e
      · exact absurd e.symm hj
      · exact ih (fun p hp => hall p (List.mem_cons_of_mem _ hp)) e

theorem LogInv.tagAt_free {n : Nat} {st : PS} (h : LogInv n st) {i : Nat} (hfree : st.occ.testBit i = false) :
    tagAt st.log i = 0 := by
  have := h.occ i
  rw [hfree] at this
  simpa using this.symm

theorem LogInv.not_mem {n : Nat} {st : PS} (h : LogInv n st) {i : Nat} (hfree : st.occ.testBit i = false) :
    i ∉ st.log.map Prod.fst := fun hm =>
  tagAt_ne_zero_of_mem st.log i (fun p hp => by have := (h.tags p hp).2; omega) hm (h.tagAt_free hfree)

theorem logInv_set {n : Nat} {st : PS} (h : LogInv n st) (i tag : Nat) (hi : i < n) (ht : 10 ≤ tag)
    (hfree : st.occ.testBit i = false) :
    LogInv n { occ := st.occ ||| (1 <<< i), log := (i, tag) :: st.log } := by
  refine ⟨?_, ?_, ?_⟩
  · intro j
    simp only [testBit_set, tagAt]
    by_cases hij : i = j
    · subst hij
      have : tag ≠ 0 := by omega
      simp [this]
    · simp [hij, h.occ j]
  · intro p hp
    rcases List.mem_cons.mp hp with rfl | hp
    · exact ⟨hi, ht⟩
    · exact h.tags p hp
  · simp only [List.map_cons, List.nodup_cons]
    exact ⟨h.not_mem hfree, h.nodup⟩

theorem cells_sum (f : Nat → Nat) (hf : f 0 = 0) (N : Nat) : ∀ (log : List (Nat × Nat)),
    (log.map Prod.fst).Nodup → (∀ p ∈ log, p.1 < N) →
    ((List.range N).map (fun i => f (tagAt log i))).sum = (log.map (fun e => f e.2)).sum := by
  intro log
  induction log with
  | nil => intro _ _; simp [tagAt, hf, sum_zero]
  | cons e rest ih =>
    intro hn hlt
    obtain ⟨c, t⟩ := e
    simp only [List.map_cons, List.nodup_cons] at hn
    rw [sum_update (fun i => f (tagAt ((c, t) :: rest) i)) (fun i => f (tagAt rest i)) c
      (by simp only [tagAt_of_not_mem rest c hn.1, hf]) (fun i hi => by simp [tagAt, Ne.symm hi]) N
      (hlt (c, t) List.mem_cons_self),
      ih hn.2 (fun p hp => hlt p (List.mem_cons_of_mem _ hp))]
    simp [tagAt, Nat.add_comm]

theorem cells_countP (p : Nat → Bool) (hp : p 0 = false) (N : Nat) (log : List (Nat × Nat))
    (hn : (log.map Prod.fst).Nodup) (hlt : ∀ p ∈ log, p.1 < N) :
    (List.range N).countP (fun i => p (tagAt log i)) = log.countP (fun e => p e.2) := by
  rw [← sum_indicator, ← sum_indicator]
  exact cells_sum (fun t => if p t then 1 else 0) (by simp [hp]) N log hn hlt

/-- pigeonhole -/
theorem tagAt_ne_zero_of_full {N : Nat} (log : List (Nat × Nat)) (hn : (log.map Prod.fst).Nodup)
    (hp : ∀ p ∈ log, p.1 < N ∧ p.2 ≠ 0) (hl : log.length = N) (i : Nat) (hi : i < N) : tagAt log i ≠ 0 := by
  have h := cells_countP (· != 0) rfl N log hn (fun p h => (hp p h).1)
  have hall : log.countP (fun e => e.2 != 0) = log.length :=
    List.countP_eq_length.mpr (fun e he => by simpa using (hp e he).2)
  rw [hall, hl] at h
  have := List.countP_eq_length.mp (h.trans List.length_range.symm) i (List.mem_range.mpr hi)
  simpa using this

section inv
variable {nrow ncol ncw : Nat}

/-- A property of (state, codeword counter) kept by every eight-module codeword step: such a property is kept by
    every stage of the walk (`mainLoop_inv`). -/
def StepInv (nrow ncol ncw : Nat) (P : PS × Nat → Prop) : Prop :=
  ∀ (guard : Bool) (st : PS) (idx : Nat) (ps : List (Int × Int)) (r : PS × Nat), ps.length = 8 →
    P (st, idx) → DmSym.stepIf nrow ncol ncw guard (st, idx) ps = some r → P r

theorem place_inv {P : PS × Nat → Prop} (hP : StepInv nrow ncol ncw P) (inRange : Bool) (st : PS) (idx : Nat)
    (row col : Int) (r : PS × Nat) (h : P (st, idx))
    (hs : DmSym.place nrow ncol ncw inRange st idx row col = some r) : P r := by
  rcases place_some hs with ⟨_, rfl⟩ | ⟨_, i, _, _, ⟨_, rfl⟩ | ⟨_, h1⟩⟩
  · exact h
  · exact h
  · exact hP true st idx (utahPos row col) r rfl h h1

theorem sweep_inv {P : PS × Nat → Prop} (hP : StepInv nrow ncol ncw P) (d : Dir) : ∀ (fuel : Nat) (w r : WS),
    P (w.1, w.2.1) → sweep nrow ncol ncw d fuel w = some r → P (r.1, r.2.1) := by
  intro fuel
  induction fuel with
  | zero => intro w r _ hs; cases hs
  | succ fuel ih =>
    intro w r h hs
    obtain ⟨st, idx, row, col⟩ := w
    obtain ⟨p, hp, hs⟩ := sweep_some hs
    have h1 := place_inv hP _ st idx row col p h hp
    split at hs
    · rw [hs]; exact h1
    · exact ih _ r h1 hs

theorem round_inv {P : PS × Nat → Prop} (hP : StepInv nrow ncol ncw P) (w r : WS)
    (h : P (w.1, w.2.1)) (hs : DmSym.round nrow ncol ncw w = some r) : P (r.1, r.2.1) := by
  obtain ⟨st, idx, row, col⟩ := w
  obtain ⟨s1, s2, s3, s4, u, d, h1, h2, h3, h4, _, hu, _, hd, rfl⟩ := round_some hs
  have p1 := hP _ st idx _ s1 rfl h h1
  have p2 := hP _ s1.1 s1.2 _ s2 rfl p1 h2
  have p3 := hP _ s2.1 s2.2 _ s3 rfl p2 h3
  have p4 := hP _ s3.1 s3.2 _ s4 rfl p3 h4
  exact sweep_inv hP _ _ (u.1, u.2.1, u.2.2.1 + 1, u.2.2.2 + 3) d (sweep_inv hP _ _ (s4.1, s4.2, row, col) u p4 hu) hd

theorem mainLoop_inv {P : PS × Nat → Prop} (hP : StepInv nrow ncol ncw P) : ∀ (fuel : Nat) (w : WS) (r : PS × Nat),
    P (w.1, w.2.1) → DmSym.mainLoop nrow ncol ncw fuel w = some r → P r := by
  intro fuel
  induction fuel with
  | zero => intro w r _ hs; simp [DmSym.mainLoop] at hs
  | succ fuel ih =>
    intro w r h hs
    have hs := mainLoop_some hs
    split at hs
    · obtain ⟨w', hw, hs⟩ := hs
      exact ih w' r (round_inv hP w w' h hw) hs
    · rw [hs]; exact h

end inv

/-- the tags of the log (newest first) after `idx` codewords: for every codeword its bits 1…8, in order -/
def tagsRev : Nat → List Nat
  | 0 => []
  | idx + 1 => ((List.range 8).map (fun b => 10 * (idx + 1) + (b + 1))).reverse ++ tagsRev idx

theorem tagsRev_length : ∀ idx, (tagsRev idx).length = 8 * idx
  | 0 => rfl
  | idx + 1 => by simp [tagsRev, tagsRev_length idx]; omega

def WalkInv (n : Nat) (p : PS × Nat) : Prop := LogInv n p.1 ∧ p.1.log.map Prod.snd = tagsRev p.2

section tags
variable {nrow ncol ncw : Nat}

theorem shape_log (chr : Nat) (hchr : 1 ≤ chr) : ∀ (L : List ((Int × Int) × Nat)) (st st' : PS),
    LogInv (nrow * ncol) st → st.shape nrow ncol L chr = some st' →
    LogInv (nrow * ncol) st' ∧
      st'.log.map Prod.snd = (L.map (fun p => 10 * chr + (p.2 + 1))).reverse ++ st.log.map Prod.snd := by
  intro L
  induction L with
  | nil =>
    intro st st' hi hs
    cases hs
    exact ⟨hi, by simp⟩
  | cons p L ih =>
    intro st st' hi hs
    obtain ⟨st1, h1, h2⟩ := PS.shape_cons_some hs
    obtain ⟨i, _, hlt, hfree, rfl⟩ := PS.set_some h1
    have hi1 := logInv_set hi i (10 * chr + (p.2 + 1)) hlt (by omega) hfree
    obtain ⟨hi', ht'⟩ := ih _ st' hi1 h2
    refine ⟨hi', ?_⟩
    rw [ht']
    simp

theorem walkInv_step : StepInv nrow ncol ncw (WalkInv (nrow * ncol)) := by
  intro guard st idx ps r hlen h hs
  rcases stepIf_some hs with ⟨_, rfl⟩ | ⟨_, _, h1, h2⟩
  · exact h
  · obtain ⟨s1, idx1⟩ := r
    obtain rfl : idx1 = idx + 1 := h2
    obtain ⟨hi, ht⟩ := shape_log (idx + 1) (by omega) ps.zipIdx st s1 h.1 h1
    refine ⟨hi, ?_⟩
    show s1.log.map Prod.snd = tagsRev (idx + 1)
    rw [ht, h.2, tagsRev]
    congr 2
    have : ps.zipIdx.map (fun p => 10 * (idx + 1) + (p.2 + 1)) =
        (ps.zipIdx.map Prod.snd).map (fun b => 10 * (idx + 1) + (b + 1)) := by
      rw [List.map_map]; rfl
    rw [this, List.zipIdx_map_snd, hlen, List.range_eq_range']

/-- `st0`: the state the walk ends in, with the invariant; the result is `st0` or, if the lower right 2×2 block
    stayed free, `st0` with the last cell and its diagonal neighbour logged as dark -/
theorem run_final {st : PS} (hrun : run nrow ncol ncw = some st) :
    2 ≤ nrow ∧ 2 ≤ ncol ∧ ncol + 2 ≤ nrow * ncol ∧ ∃ st0 : PS,
      DmSym.mainLoop nrow ncol ncw (nrow + ncol) ({ occ := 0, log := [] }, 0, 4, 0) = some (st0, ncw) ∧
      LogInv (nrow * ncol) st0 ∧ st0.log.map Prod.snd = tagsRev ncw ∧ st0.log.length = 8 * ncw ∧
      ((st0.occ.testBit (nrow * ncol - 1) = true ∧ st0.log.length = nrow * ncol ∧ st = st0) ∨
       (st0.log.length + 4 = nrow * ncol ∧
        st0.occ.testBit (nrow * ncol - 1) = false ∧ st0.occ.testBit (nrow * ncol - 1 - 1) = false ∧
        st0.occ.testBit (nrow * ncol - 1 - ncol) = false ∧ st0.occ.testBit (nrow * ncol - 1 - ncol - 1) = false ∧
        st = { occ := st0.occ ||| (1 <<< (nrow * ncol - 1)) ||| (1 <<< (nrow * ncol - 1 - ncol - 1)),
               log := (nrow * ncol - 1 - ncol - 1, 1) :: (nrow * ncol - 1, 1) :: st0.log })) := by
  obtain ⟨h2r, h2c, st0, hml, hlen, hfin⟩ := run_some hrun
  have h0 : WalkInv (nrow * ncol) (({ occ := 0, log := [] } : PS), 0) := ⟨logInv_init _, rfl⟩
  obtain ⟨hi, ht⟩ := mainLoop_inv walkInv_step _ (_, 0, 4, 0) _ h0 hml
  refine ⟨h2r, h2c, (last_index h2r h2c).2.2, st0, hml, hi, ht, hlen, ?_⟩
  rcases hfin with h | ⟨f1, hl, f2, f3, f4, st1, hs1, hs2⟩
  · exact Or.inl h
  · exact Or.inr ⟨hl, f1, f2, f3, f4, pattern_some h2r h2c hs1 hs2⟩

/-- no cell is logged twice, and every logged cell is inside the matrix -/
theorem run_cells {st : PS} (hrun : run nrow ncol ncw = some st) :
    (st.log.map Prod.fst).Nodup ∧ (∀ p ∈ st.log, p.1 < nrow * ncol) := by
  obtain ⟨_, _, hN, st0, _, hi, _, _, hfin⟩ := run_final hrun
  rcases hfin with ⟨_, _, rfl⟩ | ⟨_, f1, _, _, f4, rfl⟩
  · exact ⟨hi.nodup, fun p hp => (hi.tags p hp).1⟩
  · refine ⟨?_, ?_⟩
    · simp only [List.map_cons, List.nodup_cons, List.mem_cons, not_or]
      exact ⟨⟨by omega, hi.not_mem f4⟩, hi.not_mem f1, hi.nodup⟩
    · simp only [List.forall_mem_cons]
      exact ⟨by omega, by omega, fun p hp => (hi.tags p hp).1⟩

/-- the tags in the order written: the codeword bits fill the matrix, or leave the lower right 2×2 block, which then
    carries the fixed pattern (two dark modules logged behind the codeword bits, two light ones never written) -/
theorem run_tags {st : PS} (hrun : run nrow ncol ncw = some st) :
    (st.log.length = nrow * ncol ∧ st.log.map Prod.snd = tagsRev ncw) ∨
    (st.log.length + 2 = nrow * ncol ∧ st.log.map Prod.snd = 1 :: 1 :: tagsRev ncw ∧
      tagAt st.log (nrow * ncol - 1) = 1 ∧ tagAt st.log (nrow * ncol - 1 - ncol - 1) = 1 ∧
      tagAt st.log (nrow * ncol - 1 - 1) = 0 ∧ tagAt st.log (nrow * ncol - 1 - ncol) = 0) := by
  obtain ⟨_, _, hN, st0, _, hi, ht, _, hfin⟩ := run_final hrun
  rcases hfin with ⟨_, hl, rfl⟩ | ⟨hl, _, f2, f3, _, rfl⟩
  · exact Or.inl ⟨hl, ht⟩
  · refine Or.inr ⟨by simp only [List.length_cons]; omega, by simp [ht], ?_, ?_, ?_, ?_⟩
    · have : ¬ nrow * ncol - 1 - ncol - 1 = nrow * ncol - 1 := by omega
      simp [tagAt, this]
    · simp [tagAt]
    · have a1 : ¬ nrow * ncol - 1 - ncol - 1 = nrow * ncol - 1 - 1 := by omega
      have a2 : ¬ nrow * ncol - 1 = nrow * ncol - 1 - 1 := by omega
      simp [tagAt, a1, a2, hi.tagAt_free f2]
    · have a1 : ¬ nrow * ncol - 1 - ncol - 1 = nrow * ncol - 1 - ncol := by omega
      have a2 : ¬ nrow * ncol - 1 = nrow * ncol - 1 - ncol := by omega
      simp [tagAt, a1, a2, hi.tagAt_free f3]

/-- Every module of the matrix has a tag, except, when the fixed pattern was drawn, its two light modules (left
    of and above the corner). -/
theorem run_covers {st : PS} (hrun : run nrow ncol ncw = some st) (i : Nat) (hi : i < nrow * ncol) :
    tagAt st.log i ≠ 0 ∨
      (st.log.length + 2 = nrow * ncol ∧ (i = nrow * ncol - 1 - 1 ∨ i = nrow * ncol - 1 - ncol)) := by
  obtain ⟨_, _, hN, st0, _, hinv, _, _, hfin⟩ := run_final hrun
  have htags : ∀ p ∈ st0.log, p.1 < nrow * ncol ∧ p.2 ≠ 0 := fun p hp => by have := hinv.tags p hp; omega
  rcases hfin with ⟨_, hl, rfl⟩ | ⟨hl, f1, f2, f3, f4, rfl⟩
  · exact Or.inl (tagAt_ne_zero_of_full st.log hinv.nodup htags hl i hi)
  · by_cases hx : i = nrow * ncol - 1 - 1 ∨ i = nrow * ncol - 1 - ncol
    · exact Or.inr ⟨by simp only [List.length_cons]; omega, hx⟩
    · left
      -- the pigeonhole on the log with the two light modules added
      have h := tagAt_ne_zero_of_full (N := nrow * ncol)
        ((nrow * ncol - 1 - 1, 1) :: (nrow * ncol - 1 - ncol, 1) :: (nrow * ncol - 1 - ncol - 1, 1) ::
          (nrow * ncol - 1, 1) :: st0.log)
        (by
          simp only [List.map_cons, List.nodup_cons, List.mem_cons, not_or]
          exact ⟨⟨by omega, by omega, by omega, hinv.not_mem f2⟩, ⟨by omega, by omega, hinv.not_mem f3⟩,
            ⟨by omega, hinv.not_mem f4⟩, hinv.not_mem f1, hinv.nodup⟩)
        (by
          simp only [List.forall_mem_cons]
          exact ⟨by omega, by omega, by omega, by omega, htags⟩)
        (by simp only [List.length_cons]; omega) i hi
      have a1 : ¬ nrow * ncol - 1 - 1 = i := fun e => hx (Or.inl e.symm)
      have a2 : ¬ nrow * ncol - 1 - ncol = i := fun e => hx (Or.inr e.symm)
      simpa only [tagAt, if_neg a1, if_neg a2] using h

end tags

end BV.Proofs.DmTags
