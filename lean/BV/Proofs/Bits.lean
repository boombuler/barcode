/-
  BV.Proofs.Bits — shared lemmas on the big-endian bit helpers of `BV.Base`:
  `msbBits` (value → bits), `bitsToNat` (bits → value), `pack8` (bits → codewords), and the array reader
  `bitsToNatAt` that the reference decoders use (stated for any function of that shape, instantiated for
  `Spec.Qr.bitsToNatAt` in `BV.Proofs.QrStream`).
-/
import BV.Base
namespace BV.Proofs.Bits
open BV

/-! ### `msbBits` -/

@[simp] theorem length_msbBits (x k : Nat) : (msbBits x k).length = k := by
  simp [msbBits]

theorem msbBits_zero (x : Nat) : msbBits x 0 = [] := rfl

theorem msbBits_succ (x k : Nat) : msbBits x (k + 1) = x.testBit k :: msbBits x k := by
  simp only [msbBits, List.range_succ_eq_map, List.map_cons, List.map_map]
  congr 1
  apply List.map_congr_left
  intro i _
  simp only [Function.comp]
  congr 1
  omega

theorem msbBits_zero_val (k : Nat) : msbBits 0 k = List.replicate k false := by
  induction k with
  | zero => rfl
  | succ k ih => rw [msbBits_succ, ih]; simp [List.replicate_succ]

/-! ### `bitsToNat` -/

/-- the fold of `bitsToNat` started from any accumulator -/
theorem bitsToNat_acc (l : List Bool) (a : Nat) :
    l.foldl (fun a b => 2 * a + (if b then 1 else 0)) a = a * 2 ^ l.length + bitsToNat l := by
  induction l generalizing a with
  | nil => simp [bitsToNat]
  | cons b l ih =>
    simp only [List.foldl_cons, bitsToNat, List.length_cons]
    rw [ih, ih (2 * 0 + _)]
    rw [Nat.pow_succ]
    generalize bitsToNat l = r
    generalize 2 ^ l.length = p
    have e : 2 * a * p = a * (p * 2) := by rw [Nat.mul_comm 2 a, Nat.mul_assoc, Nat.mul_comm 2 p]
    cases b <;> simp [Nat.add_mul] <;> omega

@[simp] theorem bitsToNat_nil : bitsToNat [] = 0 := rfl

theorem bitsToNat_cons (b : Bool) (l : List Bool) :
    bitsToNat (b :: l) = (if b then 1 else 0) * 2 ^ l.length + bitsToNat l := by
  simp only [bitsToNat, List.foldl_cons]
  rw [bitsToNat_acc]
  simp [bitsToNat]

theorem bitsToNat_append (l m : List Bool) :
    bitsToNat (l ++ m) = bitsToNat l * 2 ^ m.length + bitsToNat m := by
  simp only [bitsToNat, List.foldl_append]
  rw [bitsToNat_acc]
  simp [bitsToNat]

theorem bitsToNat_lt (l : List Bool) : bitsToNat l < 2 ^ l.length := by
  induction l with
  | nil => simp
  | cons b l ih =>
    rw [bitsToNat_cons, List.length_cons, Nat.pow_succ]
    cases b <;> simp <;> omega

theorem bitsToNat_msbBits (x k : Nat) : bitsToNat (msbBits x k) = x % 2 ^ k := by
  induction k with
  | zero => simp [msbBits_zero, Nat.mod_one]
  | succ k ih =>
    rw [msbBits_succ, bitsToNat_cons, ih, length_msbBits, Nat.mod_pow_succ,
      Nat.testBit_eq_decide_div_mod_eq]
    have : x / 2 ^ k % 2 < 2 := Nat.mod_lt _ (by omega)
    generalize x / 2 ^ k % 2 = t at *
    generalize 2 ^ k = p
    generalize x % p = r
    have ht : t = 0 ∨ t = 1 := by omega
    rcases ht with rfl | rfl <;> simp <;> omega

theorem bitsToNat_msbBits_of_lt (x k : Nat) (h : x < 2 ^ k) : bitsToNat (msbBits x k) = x := by
  rw [bitsToNat_msbBits, Nat.mod_eq_of_lt h]

theorem bitsToNat_replicate_false (k : Nat) : bitsToNat (List.replicate k false) = 0 := by
  rw [← msbBits_zero_val, bitsToNat_msbBits, Nat.zero_mod]

theorem foldl_testBit (x k : Nat) (h : x < 2 ^ k) :
    (List.range k).foldl (fun a j => 2 * a + (if x.testBit (k - 1 - j) then 1 else 0)) 0 = x := by
  have := bitsToNat_msbBits_of_lt x k h
  rwa [bitsToNat, msbBits, List.foldl_map] at this

theorem msbBits_bitsToNat (l : List Bool) : msbBits (bitsToNat l) l.length = l := by
  induction l with
  | nil => rfl
  | cons b l ih =>
    rw [List.length_cons, msbBits_succ]
    have hlt := bitsToNat_lt l
    have e1 : (bitsToNat (b :: l)).testBit l.length = b := by
      rw [Nat.testBit_eq_decide_div_mod_eq, bitsToNat_cons]
      cases b
      · simp; rw [Nat.div_eq_of_lt hlt]
      · simp
        rw [Nat.add_comm, Nat.add_div_right _ (Nat.two_pow_pos _), Nat.div_eq_of_lt hlt]
    have e2 : msbBits (bitsToNat (b :: l)) l.length = msbBits (bitsToNat l) l.length := by
      simp only [msbBits]
      apply List.map_congr_left
      intro i hi
      have hi : i < l.length := List.mem_range.mp hi
      rw [bitsToNat_cons]
      cases b
      · simp
      · simp only [if_true, Nat.one_mul]
        rw [Nat.testBit_two_pow_add_gt (by omega)]
    rw [e1, e2, ih]

theorem msbBits_inj (x y k : Nat) (hx : x < 2 ^ k) (hy : y < 2 ^ k) (h : msbBits x k = msbBits y k) :
    x = y := by
  rw [← bitsToNat_msbBits_of_lt x k hx, ← bitsToNat_msbBits_of_lt y k hy, h]

/-! ### the array reader of the reference decoders -/

/-- the shape of `Spec.*.bitsToNatAt` -/
def readAt (bits : Array Bool) (p n : Nat) : Nat :=
  (List.range n).foldl (fun acc i => 2 * acc + (if bits.getD (p + i) false then 1 else 0)) 0

theorem readAt_eq_map (l : List Bool) (p n : Nat) :
    readAt l.toArray p n = bitsToNat ((List.range n).map (fun i => l.getD (p + i) false)) := by
  simp only [readAt, bitsToNat, List.foldl_map]
  congr 1
  funext a i
  simp

theorem map_getD_eq_take_drop (l : List Bool) (p n : Nat) (h : p + n ≤ l.length) :
    (List.range n).map (fun i => l.getD (p + i) false) = (l.drop p).take n := by
  apply List.ext_getElem
  · simp; omega
  · intro i h1 h2
    simp only [List.length_map, List.length_range] at h1
    simp [List.getD, List.getElem?_eq_getElem (show p + i < l.length by omega)]

theorem readAt_eq_take_drop (l : List Bool) (p n : Nat) (h : p + n ≤ l.length) :
    readAt l.toArray p n = bitsToNat ((l.drop p).take n) := by
  rw [readAt_eq_map, map_getD_eq_take_drop l p n h]

theorem readAt_mid (pre mid post : List Bool) :
    readAt (pre ++ (mid ++ post)).toArray pre.length mid.length = bitsToNat mid := by
  rw [readAt_eq_take_drop _ _ _ (by simp)]
  simp

theorem readAt_msbBits (pre post : List Bool) (x k : Nat) (h : x < 2 ^ k) :
    readAt (pre ++ (msbBits x k ++ post)).toArray pre.length k = x := by
  have := readAt_mid pre (msbBits x k) post
  rw [length_msbBits] at this
  rw [this, bitsToNat_msbBits_of_lt x k h]

/-! ### `pack8` -/

-- `pack8` is defined by well-founded recursion: its equations are not `rfl`
theorem pack8_nil : pack8 [] = [] := by rw [pack8]

theorem pack8_cons (b : Bool) (l : List Bool) :
    pack8 (b :: l) =
      bitsToNat ((b :: l).take 8 ++ List.replicate (8 - ((b :: l).take 8).length) false) ::
        pack8 ((b :: l).drop 8) := by
  rw [pack8]

theorem pack8_append8 (c rest : List Bool) (hc : c.length = 8) :
    pack8 (c ++ rest) = bitsToNat c :: pack8 rest := by
  match c, hc with
  | [b0, b1, b2, b3, b4, b5, b6, b7], _ =>
    simp only [List.cons_append, List.nil_append]
    rw [pack8_cons]
    simp

theorem pack8_unpack : ∀ (n : Nat) (bits : List Bool), bits.length = 8 * n →
    (pack8 bits).length = n ∧ (∀ c ∈ pack8 bits, c < 256) ∧
    (pack8 bits).flatMap (fun c => msbBits c 8) = bits := by
  intro n
  induction n with
  | zero =>
    intro bits h
    have : bits = [] := List.eq_nil_of_length_eq_zero (by omega)
    subst this
    simp [pack8_nil]
  | succ n ih =>
    intro bits h
    have hsplit : bits = bits.take 8 ++ bits.drop 8 := (List.take_append_drop 8 bits).symm
    have h8 : (bits.take 8).length = 8 := by simp; omega
    have hr : (bits.drop 8).length = 8 * n := by simp; omega
    have := ih (bits.drop 8) hr
    rw [hsplit, pack8_append8 _ _ h8]
    refine ⟨by simp [this.1], ?_, ?_⟩
    · intro c hc
      rcases List.mem_cons.mp hc with rfl | hc
      · have := bitsToNat_lt (bits.take 8); rw [h8] at this; exact this
      · exact this.2.1 c hc
    · rw [List.flatMap_cons, this.2.2]
      have := msbBits_bitsToNat (bits.take 8)
      rw [h8] at this
      rw [this]

theorem pack8_flatMap_msbBits (cw : List Nat) (h : ∀ c ∈ cw, c < 256) :
    pack8 (cw.flatMap (fun c => msbBits c 8)) = cw := by
  induction cw with
  | nil => simp [pack8_nil]
  | cons c cw ih =>
    rw [List.flatMap_cons, pack8_append8 _ _ (length_msbBits c 8),
      bitsToNat_msbBits_of_lt c 8 (h c (List.mem_cons_self ..)),
      ih (fun c hc => h c (List.mem_cons_of_mem _ hc))]

end BV.Proofs.Bits
