/-
  BV.Proofs.Ean — lemmas for C06: the EAN-8/13 encoder model against `Spec.OneD.eanDecode` / `gs1Check`.
-/
import BV.Model.Ean
import BV.Proofs.OneD
import BV.Proofs.Kind
namespace BV.Proofs.Ean
open BV BV.Model BV.Model.Ean BV.Spec.OneD BV.Proofs.Ascii BV.Proofs.OneD

/-! ### table certificates -/

/-- the patterns of digit `d` in the sets L, G, R of ISO/IEC 15420 and the parity row of a first digit `d` -/
def L (d : Nat) : List Bool := eanL.getD d []
def G (d : Nat) : List Bool := eanG.getD d []
def R (d : Nat) : List Bool := eanR.getD d []
def P (d : Nat) : List Bool := eanParity.getD d []

theorem table_keys : table.map (·.1) = digitKeys := by decide

/-- certificate: entry of digit `d` = (L, G, R, parity row) of the standard -/
theorem table_digit : ∀ d : Fin 10,
    mapGet table ((48 + d.val : Nat) : Int) = some (L d.val, G d.val, R d.val, P d.val) := by decide +kernel

/-- the table entry of the digit with ASCII code `r` -/
def entry (r : Nat) : List Bool × List Bool × List Bool × List Bool := (L (r - 48), G (r - 48), R (r - 48), P (r - 48))

theorem mapGet_byte (b : UInt8) (h : isDigitByte b = true) : mapGet table (b.toNat : Int) = some (entry b.toNat) :=
  OneD.mapGet_byte (f := fun d => (L d, G d, R d, P d)) table_digit b h

theorem patterns_distinct : (eanL ++ eanG).Nodup ∧ eanR.Nodup ∧ eanParity.Nodup := by decide +kernel

theorem pattern_sizes :
    (∀ p ∈ eanL ++ eanG ++ eanR, p.length = 7) ∧ (∀ p ∈ eanParity, p.length = 6) ∧
    eanL.length = 10 ∧ eanG.length = 10 ∧ eanR.length = 10 ∧ eanParity.length = 10 := by decide +kernel

theorem eanL_length : eanL.length = 10 := rfl
theorem eanG_length : eanG.length = 10 := rfl
theorem eanR_length : eanR.length = 10 := rfl
theorem eanParity_length : eanParity.length = 10 := rfl

theorem eanL_nodup : eanL.Nodup := (List.nodup_append.1 patterns_distinct.1).1
theorem eanG_nodup : eanG.Nodup := (List.nodup_append.1 patterns_distinct.1).2.1

/-! ### what the certificates say about the pattern of a digit -/

theorem L_mem (d : Nat) (h : d < 10) : L d ∈ eanL := getD_mem (by rw [eanL_length]; exact h) _
theorem G_mem (d : Nat) (h : d < 10) : G d ∈ eanG := getD_mem (by rw [eanG_length]; exact h) _
theorem R_mem (d : Nat) (h : d < 10) : R d ∈ eanR := getD_mem (by rw [eanR_length]; exact h) _

theorem L_length (d : Nat) (h : d < 10) : (L d).length = 7 :=
  pattern_sizes.1 _ (List.mem_append_left _ (List.mem_append_left _ (L_mem d h)))
theorem G_length (d : Nat) (h : d < 10) : (G d).length = 7 :=
  pattern_sizes.1 _ (List.mem_append_left _ (List.mem_append_right _ (G_mem d h)))
theorem R_length (d : Nat) (h : d < 10) : (R d).length = 7 :=
  pattern_sizes.1 _ (List.mem_append_right _ (R_mem d h))
theorem P_length (d : Nat) (h : d < 10) : (P d).length = 6 :=
  pattern_sizes.2.1 _ (getD_mem (by rw [eanParity_length]; exact h) _)

theorem findDigit_L (d : Nat) (h : d < 10) : findDigit eanL (L d) = some d :=
  findIdx?_getD eanL_nodup (by rw [eanL_length]; exact h) _

theorem findDigit_G (d : Nat) (h : d < 10) : findDigit eanG (G d) = some d :=
  findIdx?_getD eanG_nodup (by rw [eanG_length]; exact h) _

/-- a set-G pattern is not in set L: this is how the decoder tells the parity of a left-hand digit -/
theorem findDigit_L_G (d : Nat) (h : d < 10) : findDigit eanL (G d) = none := by
  unfold findDigit
  rw [List.findIdx?_eq_none_iff]
  intro p hp
  exact beq_false_of_ne ((List.nodup_append.1 patterns_distinct.1).2.2 p hp _ (G_mem d h))

theorem findDigit_R (d : Nat) (h : d < 10) : findDigit eanR (R d) = some d :=
  findIdx?_getD patterns_distinct.2.1 (by rw [eanR_length]; exact h) _

theorem findIdx_P (d : Nat) (h : d < 10) : eanParity.findIdx? (· == P d) = some d :=
  findIdx?_getD patterns_distinct.2.2 (by rw [eanParity_length]; exact h) _

-- from here on a pattern is known by the lemmas above only: no `simp`, `rfl` or `decide` below looks into the tables
attribute [irreducible] L G R P

/-! ### the check digit -/

theorem calcCheckNum_go_digits (bs : Bytes) (hd : AllDigits bs) (off : Nat) (x3 : Bool) (sum : Int) :
    calcCheckNum.go (asciiRunes off bs) x3 sum =
      intToRune ((10 - (sum + (altB (digitsOf bs) x3 : Nat)).tmod 10).tmod 10) := by
  induction bs generalizing off x3 sum with
  | nil => simp [asciiRunes, calcCheckNum.go, digitsOf, altB]
  | cons b bs ih =>
    obtain ⟨hb, hbs⟩ := hd.cons
    have hlt := digitsOf_lt hd (b.toNat - 48) (by simp [digitsOf])
    simp only [asciiRunes, calcCheckNum.go, runeToInt_digit b hb]
    have h1 : ¬ (((b.toNat - 48 : Nat) : Int) < 0 ∨ ((b.toNat - 48 : Nat) : Int) > 9) := by omega
    simp only [h1, if_false]
    rw [ih hbs]
    have key : (sum + if x3 = true then ((b.toNat - 48 : Nat) : Int) * 3 else ((b.toNat - 48 : Nat) : Int)) +
        ((altB (digitsOf bs) (!x3) : Nat) : Int) = sum + ((altB (digitsOf (b :: bs)) x3 : Nat) : Int) := by
      simp only [digitsOf, List.map_cons, altB]
      cases x3 <;> simp <;> omega
    rw [key]

theorem calcCheckNum_digits (bs : Bytes) (hd : AllDigits bs) (hl : bs.length = 7 ∨ bs.length = 12) :
    calcCheckNum bs = 48 + gs1Check (digitsOf bs) := by
  unfold calcCheckNum
  rw [runes_ascii _ hd.ascii, calcCheckNum_go_digits bs hd]
  have hw : wt ((bs.length == 7) ^^ ((digitsOf bs).length % 2 == 0)) = 3 := by
    rcases hl with hl | hl <;> simp [hl, digitsOf, wt]
  rw [altB_eq_alt_reverse, hw]
  simp only [Int.zero_add, intToRune_check, gs1Check, gs1_go_eq, Nat.zero_add]

theorem gs1Check_lt (ds : List Nat) : gs1Check ds < 10 := by
  unfold gs1Check; omega

/-- whatever the input, `calcCheckNum` returns an ASCII rune, so that `string(rune)` appends a single byte -/
theorem calcCheckNum_go_lt (rs : List (Nat × Nat)) (x3 : Bool) (sum : Int) : calcCheckNum.go rs x3 sum < 128 := by
  induction rs generalizing x3 sum with
  | nil =>
    simp only [calcCheckNum.go, intToRune]
    split <;> omega
  | cons p rs ih =>
    obtain ⟨o, r⟩ := p
    simp only [calcCheckNum.go]
    split
    · omega
    · exact ih _ _

theorem calcCheckNum_lt (bs : Bytes) : calcCheckNum bs < 128 := calcCheckNum_go_lt _ _ _

/-! ### the symbols -/

def guardN : List Bool := [true, false, true]
def guardC : List Bool := [false, true, false, true, false]

def sym8 (ds : List Nat) : List Bool :=
  guardN ++ ((ds.take 4).map L).flatten ++ guardC ++ ((ds.drop 4).map R).flatten ++ guardN

/-- the six left patterns of an EAN-13 symbol: set G where the parity row of the first digit says so -/
def left13 (par : List Bool) (ds : List Nat) : List (List Bool) :=
  (par.zip ds).map fun pd => if pd.1 then G pd.2 else L pd.2

def sym13 (ds : List Nat) : List Bool :=
  guardN ++ (left13 (P (ds.headD 0)) ((ds.drop 1).take 6)).flatten ++ guardC ++ ((ds.drop 7).map R).flatten ++ guardN

/-- what the loop of `encodeEAN8` appends at position `cpos` for a digit with table entry `e` -/
def piece8 (cpos : Nat) (e : List Bool × List Bool × List Bool × List Bool) : List Bool :=
  (if cpos == 4 then guardC else []) ++ (if cpos < 4 then e.1 else e.2.2.1)

theorem go8_nil (acc : List Bool) : encodeEAN8.go [] acc = some (acc ++ guardN) := by rw [encodeEAN8.go]; rfl

theorem go8_cons (q : Nat × Nat) (rest : List (Nat × Nat)) (acc : List Bool) :
    encodeEAN8.go (q :: rest) acc =
      ((mapGet table (q.2 : Int)).map (piece8 q.1)).bind fun bs => encodeEAN8.go rest (acc ++ bs) := by
  obtain ⟨cpos, r⟩ := q
  rw [encodeEAN8.go]
  cases mapGet table (r : Int) with
  | none => rfl
  | some e =>
    simp only [Option.map_some, Option.bind_some, piece8]
    split <;> simp [guardC]

theorem encodeEAN8_digits (code : Bytes) (hl : code.length = 8) (hd : AllDigits code) :
    encodeEAN8 code = some (sym8 (digitsOf code)) := by
  rw [encodeEAN8, runes_ascii _ hd.ascii, loop_ok go8_nil go8_cons (fun q => piece8 q.1 (entry q.2))]
  · -- with the eight bytes named, the pieces are set L at positions 0-3, the centre guard and set R at 4, set R at 5-7,
    -- which is `sym8` written out
    match code, hl with
    | [b0, b1, b2, b3, b4, b5, b6, b7], _ =>
      simp [asciiRunes, piece8, entry, sym8, digitsOf, guardN, guardC]
  · intro q hq
    obtain ⟨_, b, hb, he⟩ := mem_asciiRunes hq
    rw [he, mapGet_byte b (hd b hb)]
    rfl

/-- what the loop of `encodeEAN13` appends at a position `cpos ≠ 0`, with `fn` the parity row of the first digit -/
def piece13 (fn : List Bool) (cpos : Nat) (e : List Bool × List Bool × List Bool × List Bool) : List Bool :=
  (if cpos == 7 then guardC else []) ++
    (if cpos < 7 then (if fn.getD (cpos - 1) false then e.2.1 else e.1) else e.2.2.1)

theorem go13_nil (fn acc : List Bool) : encodeEAN13.go [] fn acc = some (acc ++ guardN) := by
  rw [encodeEAN13.go]; rfl

theorem go13_first (r : Nat) (rest : List (Nat × Nat)) (fn acc : List Bool) :
    encodeEAN13.go ((0, r) :: rest) fn acc =
      (mapGet table (r : Int)).bind fun e => encodeEAN13.go rest e.2.2.2 acc := by
  rw [encodeEAN13.go]
  cases mapGet table (r : Int) <;> rfl

theorem go13_cons (fn : List Bool) (q : Nat × Nat) (rest : List (Nat × Nat)) (acc : List Bool) (h : q.1 ≠ 0) :
    encodeEAN13.go (q :: rest) fn acc =
      ((mapGet table (q.2 : Int)).map (piece13 fn q.1)).bind fun bs => encodeEAN13.go rest fn (acc ++ bs) := by
  obtain ⟨cpos, r⟩ := q
  rw [encodeEAN13.go]
  cases mapGet table (r : Int) with
  | none => rfl
  | some e =>
    have h0 : (cpos == 0) = false := beq_false_of_ne h
    simp only [h0, Bool.false_eq_true, if_false, Option.map_some, Option.bind_some, piece13]
    split <;> simp [guardC]

theorem encodeEAN13_digits (code : Bytes) (hl : code.length = 13) (hd : AllDigits code) :
    encodeEAN13 code = some (sym13 (digitsOf code)) := by
  match code, hl with
  | b0 :: rest, hl =>
    obtain ⟨h0, hr⟩ := hd.cons
    have hp := P_length (b0.toNat - 48) (by rw [isDigitByte_iff] at h0; omega)
    rw [encodeEAN13, runes_ascii _ hd.ascii, asciiRunes, go13_first, mapGet_byte b0 h0, Option.bind_some]
    simp only [sym13, digitsOf, List.map_cons, List.headD_cons, entry]
    generalize P (b0.toNat - 48) = par at hp ⊢
    rw [loop_ok_of (go := fun rs acc => encodeEAN13.go rs par acc) (go13_nil par) (go13_cons par)
      (fun q => piece13 par q.1 (entry q.2))]
    · -- with the twelve bytes and the six parity flags named, the pieces are L or G by the flag at positions 1-6, the
      -- centre guard and set R at 7, set R at 8-12, which is `sym13` written out
      match rest, hl, par, hp with
      | [b1, b2, b3, b4, b5, b6, b7, b8, b9, b10, b11, b12], _, [p1, p2, p3, p4, p5, p6], _ =>
        simp [asciiRunes, piece13, entry, left13, guardN, guardC]
    · intro q hq
      obtain ⟨h1, b, hb, he⟩ := mem_asciiRunes hq
      rw [he, mapGet_byte b (hr b hb)]
      exact ⟨by omega, rfl⟩

/-! ### rejection of anything that is not a digit string -/

theorem encodeEAN8_bad (code : Bytes) (h : ¬ AllDigits code) : encodeEAN8 code = none := by
  obtain ⟨p, hp, hn⟩ := exists_bad_key table_keys code h
  exact loop_fail go8_cons _ _ ⟨p, hp, by rw [hn]; rfl⟩

theorem encodeEAN13_bad (code : Bytes) (h : ¬ AllDigits code) : encodeEAN13 code = none := by
  obtain ⟨p, hp, hn⟩ := exists_bad_key table_keys code h
  match code with
  | [] => cases hp
  | b :: rest =>
    obtain ⟨r, tl, hr, h0⟩ := Utf8.runes_cons_offsets b rest
    rw [encodeEAN13, hr, go13_first]
    rw [hr] at hp
    rcases List.mem_cons.1 hp with rfl | hp
    · rw [hn]; rfl
    · cases mapGet table (r : Int) with
      | none => rfl
      | some e =>
        exact loop_fail_of (go := fun rs acc => encodeEAN13.go rs e.2.2.2 acc) (go13_cons _) tl _ h0
          ⟨p, hp, by rw [hn]; rfl⟩

/-! ### the reference decoder on the symbols -/

theorem drop_append_len {α} {a b : List α} {n : Nat} (h : a.length = n) (m : Nat) :
    (a ++ b).drop (n + m) = b.drop m := by
  subst h
  rw [List.drop_append]
  simp

/-- where the guards and the two halves of a symbol with `k` patterns in each half are -/
theorem guards_frame (ls rs : List (List Bool)) (k n : Nat) (hls : ∀ p ∈ ls, p.length = 7) (hrs : ∀ p ∈ rs, p.length = 7)
    (hkl : ls.length = k) (hkr : rs.length = k) (hn : 7 * k = n) :
    (guardN ++ ls.flatten ++ guardC ++ rs.flatten ++ guardN).length = 2 * n + 11 ∧
    (guardN ++ ls.flatten ++ guardC ++ rs.flatten ++ guardN).take 3 = guardN ∧
    ((guardN ++ ls.flatten ++ guardC ++ rs.flatten ++ guardN).drop (3 + n)).take 5 = guardC ∧
    (guardN ++ ls.flatten ++ guardC ++ rs.flatten ++ guardN).drop (3 + (n + (5 + n))) = guardN ∧
    ((guardN ++ ls.flatten ++ guardC ++ rs.flatten ++ guardN).drop 3).take n = ls.flatten ∧
    ((guardN ++ ls.flatten ++ guardC ++ rs.flatten ++ guardN).drop (3 + (n + 5))).take n = rs.flatten := by
  have hL : ls.flatten.length = n := by rw [flatten_length_const 7 _ hls, hkl, hn]
  have hR : rs.flatten.length = n := by rw [flatten_length_const 7 _ hrs, hkr, hn]
  have h1 : guardN.length = 3 := rfl
  have hC : guardC.length = 5 := rfl
  simp only [List.append_assoc]
  refine ⟨by simp [hL, hR, guardN, guardC]; omega, List.take_left' h1, ?_, ?_, ?_, ?_⟩
  · rw [drop_append_len h1, List.drop_left' hL, List.take_left' hC]
  · rw [drop_append_len h1, drop_append_len hL, drop_append_len hC, List.drop_left' hR]
  · rw [List.drop_left' h1, List.take_left' hL]
  · rw [drop_append_len h1, drop_append_len hL, List.drop_left' hC, List.take_left' hR]

theorem sym8_frame (ds : List Nat) (hl : ds.length = 8) (hd : ∀ d ∈ ds, d < 10) :
    (sym8 ds).length = 67 ∧ (sym8 ds).take 3 = guardN ∧ ((sym8 ds).drop 31).take 5 = guardC ∧
      (sym8 ds).drop 64 = guardN ∧ ((sym8 ds).drop 3).take 28 = ((ds.take 4).map L).flatten ∧
      ((sym8 ds).drop 36).take 28 = ((ds.drop 4).map R).flatten :=
  guards_frame _ _ 4 28 (List.forall_mem_map.2 fun d h => L_length d (hd d (List.mem_of_mem_take h)))
    (List.forall_mem_map.2 fun d h => R_length d (hd d (List.mem_of_mem_drop h))) (by simp [hl]) (by simp [hl]) rfl

theorem eanDecode_sym8 (ds : List Nat) (hl : ds.length = 8) (hd : ∀ d ∈ ds, d < 10) :
    eanDecode (sym8 ds) = .ok ds := by
  obtain ⟨f0, f1, f2, f3, f4, f5⟩ := sym8_frame ds hl hd
  unfold eanDecode
  have hg : ¬ (guardN ≠ [true, false, true] ∨ guardC ≠ [false, true, false, true, false] ∨
      guardN ≠ [true, false, true]) := by decide
  simp only [f0, f1, f2, f3, f4, f5, if_true, hg, if_false]
  rw [mapM_splitEvery 7 (by omega) _ L id _ fun d h => by
        have hlt := hd d (List.mem_of_mem_take h)
        exact ⟨L_length d hlt, by simp only [findDigit_L d hlt]; rfl⟩,
    mapM_splitEvery 7 (by omega) _ R id _ fun d h => by
        have hlt := hd d (List.mem_of_mem_drop h)
        exact ⟨R_length d hlt, by simp only [findDigit_R d hlt]; rfl⟩]
  simp only [List.map_id]
  show Except.ok (ds.take 4 ++ ds.drop 4) = _
  rw [List.take_append_drop]

theorem left13_length7 (par : List Bool) {ds : List Nat} (hd : ∀ d ∈ ds, d < 10) :
    ∀ p ∈ left13 par ds, p.length = 7 := by
  refine List.forall_mem_map.2 fun pd hpd => ?_
  have := hd _ (List.of_mem_zip hpd).2
  split
  · exact G_length _ this
  · exact L_length _ this

theorem sym13_frame (ds : List Nat) (hl : ds.length = 13) (hd : ∀ d ∈ ds, d < 10) :
    (sym13 ds).length = 95 ∧ (sym13 ds).take 3 = guardN ∧ ((sym13 ds).drop 45).take 5 = guardC ∧
      (sym13 ds).drop 92 = guardN ∧
      ((sym13 ds).drop 3).take 42 = (left13 (P (ds.headD 0)) ((ds.drop 1).take 6)).flatten ∧
      ((sym13 ds).drop 50).take 42 = ((ds.drop 7).map R).flatten := by
  match ds, hl with
  | d0 :: rest, hl =>
    have hl' : rest.length = 12 := by simpa using hl
    have hr : ∀ d ∈ rest, d < 10 := fun d h => hd d (by simp [h])
    exact guards_frame _ _ 6 42 (left13_length7 _ fun d h => hr d (List.mem_of_mem_take h))
      (List.forall_mem_map.2 fun d h => R_length d (hr d (List.mem_of_mem_drop h)))
      (by simp [left13, P_length d0 (hd d0 (by simp)), hl']) (by simp [hl']) rfl

theorem eanDecode_sym13 (ds : List Nat) (hl : ds.length = 13) (hd : ∀ d ∈ ds, d < 10) :
    eanDecode (sym13 ds) = .ok ds := by
  match ds, hl with
  | d0 :: rest, hl =>
    have hl' : rest.length = 12 := by simpa using hl
    have hd0 : d0 < 10 := hd d0 (by simp)
    have hr : ∀ d ∈ rest, d < 10 := fun d h => hd d (by simp [h])
    have hzip : (P d0).length = (rest.take 6).length := by simp [P_length d0 hd0, hl']
    obtain ⟨f0, f1, f2, f3, f4, f5⟩ := sym13_frame (d0 :: rest) hl hd
    simp only [List.headD_cons, List.drop_succ_cons, List.drop_zero] at f4 f5
    unfold eanDecode
    have hg : ¬ (guardN ≠ [true, false, true] ∨ guardC ≠ [false, true, false, true, false] ∨
        guardN ≠ [true, false, true]) := by decide
    simp only [f0, f1, f2, f3, f4, f5, show ¬ ((95 : Nat) = 67) by decide, if_true, hg, if_false]
    rw [left13, mapM_splitEvery 7 (by omega) _ _ (fun pd : Bool × Nat => (pd.2, pd.1)) _ fun pd hpd => by
          have hlt := hr _ (List.mem_of_mem_take (List.of_mem_zip hpd).2)
          obtain ⟨p, d⟩ := pd
          cases p
          · exact ⟨L_length d hlt, by simp only [Bool.false_eq_true, if_false, findDigit_L d hlt]; rfl⟩
          · exact ⟨G_length d hlt, by simp only [if_true, findDigit_L_G d hlt, findDigit_G d hlt]; rfl⟩,
      mapM_splitEvery 7 (by omega) _ R id _ fun d h => by
          have hlt := hr d (List.mem_of_mem_drop h)
          exact ⟨R_length d hlt, by simp only [findDigit_R d hlt]; rfl⟩]
    simp only [bind, Except.bind, pure, Except.pure, List.map_map, List.map_id]
    rw [show ((fun x : Nat × Bool => x.2) ∘ fun pd : Bool × Nat => (pd.2, pd.1)) = Prod.fst from rfl,
      show ((fun x : Nat × Bool => x.1) ∘ fun pd : Bool × Nat => (pd.2, pd.1)) = Prod.snd from rfl,
      List.map_fst_zip (Nat.le_of_eq hzip), List.map_snd_zip (Nat.le_of_eq hzip.symm)]
    simp only [findIdx_P d0 hd0, List.cons_append, List.take_append_drop]

/-! ### `EncodeWithColor` -/

/-- the second half of `EncodeWithColor` -/
def encodeComplete (code : Bytes) (checkSum : Int) (s : Scheme) : Res Barcode :=
  if code.length == 8 then
    match encodeEAN8 code with
    | some bits => .ok (mk1D (kindStr Gen.Root.c_TypeEAN8) code bits (some checkSum) s)
    | none => .error .rejected
  else if code.length == 13 then
    match encodeEAN13 code with
    | some bits => .ok (mk1D (kindStr Gen.Root.c_TypeEAN13) code bits (some checkSum) s)
    | none => .error .rejected
  else .error .rejected

theorem encodeWithColor_eq (code : Bytes) (s : Scheme) :
    encodeWithColor code s =
      if code.length == 7 ∨ code.length == 12 then
        encodeComplete (code ++ encodeRune (calcCheckNum code))
          (runeToInt ((code ++ encodeRune (calcCheckNum code)).getLastD 0).toNat) s
      else if code.length == 8 ∨ code.length == 13 then
        if (code.take (code.length - 1) ++ encodeRune (calcCheckNum (code.take (code.length - 1)))) != code
        then .error .rejected
        else encodeComplete code (runeToInt (code.getLastD 0).toNat) s
      else encodeComplete code 0 s := by
  unfold encodeWithColor encodeComplete
  by_cases h1 : (code.length == 7) = true ∨ (code.length == 12) = true
  · simp only [h1, if_true]
    rfl
  · by_cases h2 : (code.length == 8) = true ∨ (code.length == 13) = true
    · simp only [h1, h2, if_true, if_false]
      by_cases h3 : ((code.take (code.length - 1) ++ encodeRune (calcCheckNum (code.take (code.length - 1)))) != code)
          = true
      · simp only [h3, if_true]
      · simp only [h3]
        rfl
    · simp only [h1, h2, if_false]
      rfl

theorem encodeComplete_bad (code : Bytes) (cs : Int) (s : Scheme) (h : ¬ AllDigits code) :
    encodeComplete code cs s = .error .rejected := by
  unfold encodeComplete
  rw [encodeEAN8_bad code h, encodeEAN13_bad code h]
  split
  · rfl
  · split <;> rfl

theorem encodeComplete_other (code : Bytes) (cs : Int) (s : Scheme) (h8 : code.length ≠ 8) (h13 : code.length ≠ 13) :
    encodeComplete code cs s = .error .rejected := by
  unfold encodeComplete
  simp [h8, h13]

/-- the barcode the encoder must return for a complete (8 or 13 digit) number -/
def expected (full : Bytes) (s : Scheme) : Barcode :=
  mk1D (if full.length = 8 then "EAN 8" else "EAN 13") full
    (if full.length = 8 then sym8 (digitsOf full) else sym13 (digitsOf full))
    (some (((digitsOf full).getLastD 0 : Nat) : Int)) s

/-- both ways into `encodeComplete` hand it a complete number and the value of its last digit -/
theorem encodeComplete_digits (code : Bytes) (s : Scheme) (hd : AllDigits code) (hl : code.length = 8 ∨ code.length = 13) :
    encodeComplete code (runeToInt (code.getLastD 0).toNat) s = .ok (expected code s) := by
  obtain ⟨init, lb, rfl⟩ : ∃ init lb, code = init ++ [lb] :=
    ⟨_, _, (List.dropLast_concat_getLast (by rintro rfl; simp at hl)).symm⟩
  have hlast : (digitsOf (init ++ [lb])).getLastD 0 = lb.toNat - 48 := by
    rw [digitsOf_concat, List.getLastD_concat]
  rw [List.getLastD_concat, runeToInt_digit lb (hd lb (by simp)), encodeComplete, expected, hlast]
  rcases hl with hl | hl
  · simp only [hl, beq_self_eq_true, if_true, encodeEAN8_digits _ hl hd, Render.kind_ean8]
  · simp only [hl, show ((13 : Nat) == 8) = false from rfl, show ¬ (13 : Nat) = 8 by decide, beq_self_eq_true, if_true,
      if_false, Bool.false_eq_true, encodeEAN13_digits _ hl hd, Render.kind_ean13]

theorem encode_short (code : Bytes) (s : Scheme) (hd : AllDigits code) (hl : code.length = 7 ∨ code.length = 12) :
    encodeWithColor code s = .ok (expected (code ++ [digitByte (gs1Check (digitsOf code))]) s) := by
  have hc := gs1Check_lt (digitsOf code)
  rw [encodeWithColor_eq, if_pos (by simpa using hl), calcCheckNum_digits code hd hl, encodeRune_digit _ hc]
  exact encodeComplete_digits _ s (hd.snoc hc) (by simp only [List.length_append, List.length_singleton]; omega)

/-- a complete number is encoded if its last digit is the check digit of the others, and rejected otherwise -/
theorem encode_full (code : Bytes) (s : Scheme) (hd : AllDigits code) (hl : code.length = 8 ∨ code.length = 13) :
    encodeWithColor code s =
      if (digitsOf code).getLast? = some (gs1Check (digitsOf code).dropLast) then .ok (expected code s)
      else .error .rejected := by
  obtain ⟨init, lb, rfl⟩ : ∃ init lb, code = init ++ [lb] :=
    ⟨_, _, (List.dropLast_concat_getLast (by rintro rfl; simp at hl)).symm⟩
  have hl' : init.length = 7 ∨ init.length = 12 := by
    simp only [List.length_append, List.length_singleton] at hl; omega
  have hlb := (isDigitByte_iff lb).1 (hd lb (by simp))
  have hc := gs1Check_lt (digitsOf init)
  rw [encodeWithColor_eq, if_neg (by simp; omega), if_pos (by simpa using hl), List.length_append,
    List.length_singleton, Nat.add_sub_cancel, List.take_left' rfl,
    calcCheckNum_digits init (fun x hx => hd x (by simp [hx])) hl', encodeRune_digit _ hc, digitsOf_concat]
  have hiff : digitByte (gs1Check (digitsOf init)) = lb ↔ lb.toNat - 48 = gs1Check (digitsOf init) := by
    rw [← UInt8.toNat_inj, digitByte_toNat _ hc]; omega
  simp only [List.getLast?_concat, List.dropLast_concat, Option.some.injEq, bne_iff_ne, ne_eq,
    List.append_cancel_left_eq, List.cons.injEq, and_true, ite_not, hiff]
  split
  · exact encodeComplete_digits _ s hd hl
  · rfl

theorem encode_nondigit (code : Bytes) (s : Scheme) (h : ¬ AllDigits code) :
    encodeWithColor code s = .error .rejected := by
  rw [encodeWithColor_eq]
  have h' : ∀ x, ¬ AllDigits (code ++ x) := fun x hx => h (fun b hb => hx b (by simp [hb]))
  split
  · exact encodeComplete_bad _ _ _ (h' _)
  · split
    · split
      · rfl
      · exact encodeComplete_bad _ _ _ h
    · exact encodeComplete_bad _ _ _ h

theorem encode_badlen (code : Bytes) (s : Scheme)
    (h : ¬ (code.length = 7 ∨ code.length = 12 ∨ code.length = 8 ∨ code.length = 13)) :
    encodeWithColor code s = .error .rejected := by
  rw [encodeWithColor_eq, if_neg (by simp; omega), if_neg (by simp; omega)]
  exact encodeComplete_other _ _ _ (by omega) (by omega)

theorem expected_decode (full : Bytes) (s : Scheme) (hd : AllDigits full) (hl : full.length = 8 ∨ full.length = 13) :
    eanDecode (expected full s).row0 = .ok (digitsOf full) := by
  rw [expected, row0_mk1D]
  rcases hl with hl | hl
  · simp only [hl, if_true]
    exact eanDecode_sym8 _ (by rw [digitsOf_length, hl]) (digitsOf_lt hd)
  · simp only [hl, show ¬ ((13 : Nat) = 8) by decide, if_false]
    exact eanDecode_sym13 _ (by rw [digitsOf_length, hl]) (digitsOf_lt hd)

/-! ### vocabulary of the property -/

/-- the inputs the EAN encoder must accept: 7 or 12 ASCII digits, or 8 or 13 ASCII digits whose last digit is the
    GS1 check digit of the others -/
def Accepts (code : Bytes) : Prop :=
  AllDigits code ∧ (code.length = 7 ∨ code.length = 12 ∨
    ((code.length = 8 ∨ code.length = 13) ∧
      (digitsOf code).getLast? = some (gs1Check (digitsOf code).dropLast)))

/-- the full number: a 7- or 12-digit input completed by its GS1 check digit -/
def completed (code : Bytes) : Bytes :=
  if code.length = 7 ∨ code.length = 12 then code ++ [digitByte (gs1Check (digitsOf code))] else code

instance (code : Bytes) : Decidable (Accepts code) := by unfold Accepts; infer_instance

theorem completed_spec (code : Bytes) (h : Accepts code) :
    AllDigits (completed code) ∧ ((completed code).length = 8 ∨ (completed code).length = 13) ∧
      (digitsOf (completed code)).getLast? = some (gs1Check (digitsOf (completed code)).dropLast) := by
  obtain ⟨hd, hl⟩ := h
  have hc := gs1Check_lt (digitsOf code)
  unfold completed
  by_cases hs : code.length = 7 ∨ code.length = 12
  · rw [if_pos hs]
    refine ⟨hd.snoc hc, by simp only [List.length_append, List.length_singleton]; omega, ?_⟩
    rw [digitsOf_concat, List.getLast?_concat, List.dropLast_concat, digitByte_toNat _ hc]
    congr 1; omega
  · rw [if_neg hs]
    rcases hl with hl | hl | ⟨hl, hc'⟩
    · exact absurd (Or.inl hl) hs
    · exact absurd (Or.inr hl) hs
    · exact ⟨hd, hl, hc'⟩

theorem encode_accepts (code : Bytes) (s : Scheme) (h : Accepts code) :
    encodeWithColor code s = .ok (expected (completed code) s) := by
  obtain ⟨hd, hl⟩ := h
  unfold completed
  rcases hl with hl | hl | ⟨hl, hc⟩
  · rw [encode_short code s hd (Or.inl hl), if_pos (Or.inl hl)]
  · rw [encode_short code s hd (Or.inr hl), if_pos (Or.inr hl)]
  · rw [encode_full code s hd hl, if_pos hc, if_neg (by omega)]

theorem encode_rejects (code : Bytes) (s : Scheme) (h : ¬ Accepts code) :
    encodeWithColor code s = .error .rejected := by
  by_cases hd : AllDigits code
  · by_cases hl : code.length = 7 ∨ code.length = 12 ∨ code.length = 8 ∨ code.length = 13
    · rcases hl with hl | hl | hl
      · exact absurd ⟨hd, Or.inl hl⟩ h
      · exact absurd ⟨hd, Or.inr (Or.inl hl)⟩ h
      · rw [encode_full code s hd hl, if_neg fun hc => h ⟨hd, Or.inr (Or.inr ⟨hl, hc⟩)⟩]
    · exact encode_badlen code s hl
  · exact encode_nondigit code s hd

end BV.Proofs.Ean
