/-
  BV.Proofs.AztecStream — the reference parser `Spec.Aztec.parse` on the code sequences the Aztec high-level
  encoder emits: characters, latch sequences, shift + character, binary-shift runs; table certificates.
-/
import BV.Proofs.AztecBits
namespace BV.Proofs.AztecStream
open BV BV.Model.Aztec BV.Proofs.Bits BV.Proofs.AztecBits
open BV.Spec.Aztec (Mode Act parse table codeBits takeBytes byte)

/-- the reference decoder's mode for the model's mode number -/
def modeOf : Nat → Mode
  | 0 => .upper
  | 1 => .lower
  | 2 => .digit
  | 3 => .mixed
  | _ => .punct

/-- "what is left is padding": fewer than `ws` bits, all ones — where the parser stops -/
def IsPad (ws : Nat) (bs : List Bool) : Prop := bs.length < ws ∧ bs.all id = true

/-- bits that can never be taken for padding, whatever follows -/
def NonPad (ws : Nat) (b : List Bool) : Prop := ∀ rest, ¬ IsPad ws (b ++ rest)

theorem not_isPad_append {ws : Nat} (b rest : List Bool) (h : ¬ IsPad ws rest) : ¬ IsPad ws (b ++ rest) := by
  intro ⟨h1, h2⟩
  apply h
  refine ⟨by simp at h1; omega, ?_⟩
  simp only [List.all_append, Bool.and_eq_true] at h2
  exact h2.2

theorem nonPad_of_false {ws : Nat} (b : List Bool) (h : b.all id = false) : NonPad ws b := by
  intro rest ⟨_, h2⟩
  simp only [List.all_append, Bool.and_eq_true] at h2
  rw [h] at h2
  exact absurd h2.1 (by simp)

theorem nonPad_of_length {ws : Nat} (b : List Bool) (h : ws ≤ b.length) : NonPad ws b := by
  intro rest ⟨h1, _⟩
  simp at h1; omega

theorem nonPad_append_left {ws : Nat} (a b : List Bool) (h : NonPad ws a) : NonPad ws (a ++ b) := by
  intro rest
  rw [List.append_assoc]
  exact h _

theorem nonPad_append_right {ws : Nat} (a b : List Bool) (h : NonPad ws b) : NonPad ws (a ++ b) := by
  intro rest
  rw [List.append_assoc]
  exact not_isPad_append a _ (h rest)

theorem msbBits_not_all_ones (v k : Nat) (h : v < 2 ^ k - 1) : (msbBits v k).all id = false := by
  rw [Bool.eq_false_iff]
  intro hh
  have e : msbBits v k = msbBits (2 ^ k - 1) k := by
    rw [msbBits_ones, List.eq_replicate_iff]
    exact ⟨length_msbBits v k, fun b hb => by simpa using List.all_eq_true.mp hh b hb⟩
  have := msbBits_inj v (2 ^ k - 1) k (by omega) (by have := Nat.two_pow_pos k; omega) e
  omega

/-! ### runs of the parser -/

/-- `Run ws strong m0 bits m out`: started in mode `m0` at a code boundary in front of `bits ++ rest`, the parser
    consumes exactly `bits`, appends `out` to its output and continues in mode `m` on `rest`.  A strong run works
    for every `rest`, a weak one only when `rest` cannot be taken for padding. -/
def Run (ws : Nat) (strong : Bool) (m0 : Mode) (bits : List Bool) (m : Mode) (out : Bytes) : Prop :=
  ∀ (rest : List Bool), (strong = true ∨ ¬ IsPad ws rest) →
  ∀ (fuel : Nat) (out0 : Bytes), ∃ fuel', fuel ≤ fuel' ∧
    parse ws (fuel + bits.length) m0 none (bits.length + rest.length) (bits ++ rest) out0
      = parse ws fuel' m none rest.length rest (out0 ++ out)

theorem Run.nil (ws : Nat) (strong : Bool) (m : Mode) : Run ws strong m [] m [] := by
  intro rest _ fuel out0
  exact ⟨fuel, Nat.le_refl _, by simp⟩

theorem Run.weaken {ws : Nat} {strong : Bool} {m0 m : Mode} {bits : List Bool} {out : Bytes}
    (h : Run ws strong m0 bits m out) : Run ws false m0 bits m out := by
  intro rest hr fuel out0
  rcases hr with hr | hr
  · exact absurd hr (by simp)
  · exact h rest (Or.inr hr) fuel out0

/-- composition; the second part decides whether the whole is strong -/
theorem Run.append {ws : Nat} {strong : Bool} {m0 m1 m2 : Mode} {b1 b2 : List Bool} {o1 o2 : Bytes}
    (h1 : Run ws false m0 b1 m1 o1) (h2 : Run ws strong m1 b2 m2 o2) (hs : strong = true → NonPad ws b2) :
    Run ws strong m0 (b1 ++ b2) m2 (o1 ++ o2) := by
  intro rest hr fuel out0
  have hp : ¬ IsPad ws (b2 ++ rest) := by
    rcases hr with hr | hr
    · exact hs hr rest
    · exact not_isPad_append _ _ hr
  obtain ⟨f1, hf1, e1⟩ := h1 (b2 ++ rest) (Or.inr hp) (fuel + b2.length) out0
  obtain ⟨f2, hf2, e2⟩ := h2 rest hr (f1 - b2.length) (out0 ++ o1)
  refine ⟨f2, by omega, ?_⟩
  have a1 : fuel + (b1 ++ b2).length = fuel + b2.length + b1.length := by simp; omega
  have a2 : (b1 ++ b2).length + rest.length = b1.length + (b2 ++ rest).length := by simp; omega
  rw [a1, a2, List.append_assoc, e1]
  have a3 : f1 = f1 - b2.length + b2.length := by omega
  rw [a3, List.length_append, e2, List.append_assoc]

theorem Run.ofStep {ws : Nat} {strong : Bool} {m m' : Mode} {bits : List Bool} {out : Bytes}
    (hpos : 1 ≤ bits.length)
    (h : ∀ rest, (strong = true ∨ ¬ IsPad ws rest) → ∀ fuel out0,
      parse ws (fuel + 1) m none (bits.length + rest.length) (bits ++ rest) out0 =
        parse ws fuel m' none rest.length rest (out0 ++ out)) :
    Run ws strong m bits m' out := by
  intro rest hr fuel out0
  refine ⟨fuel + (bits.length - 1), by omega, ?_⟩
  rw [show fuel + bits.length = fuel + (bits.length - 1) + 1 by omega]
  exact h rest hr _ out0

/-- one code `v` of the table `m` in force (the latched mode, or the mode shifted to) in front of bits that are
    not padding: the parser reads it, and what it does next depends on the kind of table entry -/
theorem parse_code (ws : Nat) (m : Mode) (v : Nat) (hv : v < 2 ^ codeBits m) (rest : List Bool)
    (hp : ¬ IsPad ws (msbBits v (codeBits m) ++ rest)) (fuel : Nat) (out0 : Bytes) (sh : Option Mode)
    (mode : Mode) (hm : sh.getD mode = m) :
    (∀ c, table m v = .chars c →
      parse ws (fuel + 1) mode sh (codeBits m + rest.length) (msbBits v (codeBits m) ++ rest) out0 =
        parse ws fuel mode none rest.length rest (out0 ++ c)) ∧
    (∀ b, table m v = .shift b → sh = none →
      parse ws (fuel + 1) mode sh (codeBits m + rest.length) (msbBits v (codeBits m) ++ rest) out0 =
        parse ws fuel mode (some b) rest.length rest out0) ∧
    (∀ b, table m v = .latch b → sh = none →
      parse ws (fuel + 1) mode sh (codeBits m + rest.length) (msbBits v (codeBits m) ++ rest) out0 =
        parse ws fuel b none rest.length rest out0) := by
  rw [parse]
  have hp' : ¬ (codeBits m + rest.length < ws ∧ (msbBits v (codeBits m) ++ rest).all id = true) := by
    intro h; apply hp; refine ⟨by simpa using h.1, h.2⟩
  rw [if_neg hp']
  simp only [hm]
  rw [if_neg (by omega), toNat_take_msbBits v _ hv, drop_msbBits]
  refine ⟨fun c ht => ?_, fun b ht hs => ?_, fun b ht hs => ?_⟩
  · simp [ht]
  · simp [ht, hs]
  · simp [ht, hs]

theorem codeBits_pos (m : Mode) : 1 ≤ codeBits m := by cases m <;> simp [codeBits]

/-- `Run.char`, `Run.shiftChar` and the `Run.binary*` below give, with the strong run, that its bits are `NonPad`:
    `Run.append` asks that of a strong second part. -/
theorem Run.char (ws : Nat) (m : Mode) (v : Nat) (c : Bytes) (hv : v < 2 ^ codeBits m - 1)
    (ht : table m v = .chars c) :
    Run ws true m (msbBits v (codeBits m)) m c ∧ NonPad ws (msbBits v (codeBits m)) := by
  have hnp : NonPad ws (msbBits v (codeBits m)) := nonPad_of_false _ (msbBits_not_all_ones v _ hv)
  refine ⟨Run.ofStep (by rw [length_msbBits]; exact codeBits_pos m) fun rest _ fuel out0 => ?_, hnp⟩
  rw [length_msbBits]
  exact (parse_code ws m v (by omega) rest (hnp rest) fuel out0 none m rfl).1 c ht

theorem Run.shiftChar (ws : Nat) (m b : Mode) (sv v : Nat) (c : Bytes) (hsv : sv < 2 ^ codeBits m)
    (hs : table m sv = .shift b) (hv : v < 2 ^ codeBits b - 1) (ht : table b v = .chars c) :
    Run ws true m (msbBits sv (codeBits m) ++ msbBits v (codeBits b)) m c ∧
      NonPad ws (msbBits sv (codeBits m) ++ msbBits v (codeBits b)) := by
  have hnp0 : NonPad ws (msbBits v (codeBits b)) := nonPad_of_false _ (msbBits_not_all_ones v _ hv)
  have hnp : NonPad ws (msbBits sv (codeBits m) ++ msbBits v (codeBits b)) := nonPad_append_right _ _ hnp0
  refine ⟨?_, hnp⟩
  intro rest _ fuel out0
  have hk := codeBits_pos m
  have hk' := codeBits_pos b
  refine ⟨fuel + (codeBits m - 1) + (codeBits b - 1), by omega, ?_⟩
  have e1 := (parse_code ws m sv hsv (msbBits v (codeBits b) ++ rest) (by
    rw [← List.append_assoc]; exact hnp rest) (fuel + (codeBits m - 1) + (codeBits b - 1) + 1) out0 none m
    rfl).2.1 b hs rfl
  have e2 := (parse_code ws b v (by omega) rest (hnp0 rest) (fuel + (codeBits m - 1) + (codeBits b - 1))
    out0 (some b) m rfl).1 c ht
  rw [List.length_append, length_msbBits, length_msbBits, List.append_assoc]
  have a1 : fuel + (codeBits m + codeBits b) = fuel + (codeBits m - 1) + (codeBits b - 1) + 1 + 1 := by omega
  have a2 : codeBits m + codeBits b + rest.length = codeBits m + (msbBits v (codeBits b) ++ rest).length := by
    simp; omega
  rw [a1, a2, e1]
  have a3 : (msbBits v (codeBits b) ++ rest).length = codeBits b + rest.length := by simp
  rw [a3, e2]

/-! ### latch sequences -/

/-- follow a sequence of latch codes: the mode reached when `bs` consists of latch codes only -/
def latchPath : Nat → Mode → List Bool → Option Mode
  | 0, m, bs => if bs = [] then some m else none
  | f + 1, m, bs =>
    if bs = [] then some m
    else if bs.length < codeBits m then none
    else
      match table m (Spec.Aztec.toNat (bs.take (codeBits m))) with
      | .latch m' => latchPath f m' (bs.drop (codeBits m))
      | _ => none

theorem Run.latch (ws : Nat) (m b : Mode) (v : Nat) (hv : v < 2 ^ codeBits m) (ht : table m v = .latch b) :
    Run ws false m (msbBits v (codeBits m)) b [] := by
  refine Run.ofStep (by rw [length_msbBits]; exact codeBits_pos m) fun rest hr fuel out0 => ?_
  rw [length_msbBits, List.append_nil]
  exact (parse_code ws m v hv rest (not_isPad_append _ _ (hr.resolve_left (by simp))) fuel out0 none m
    rfl).2.2 b ht rfl

theorem Run.ofLatchPath (ws : Nat) : ∀ (f : Nat) (m m' : Mode) (bs : List Bool),
    latchPath f m bs = some m' → Run ws false m bs m' [] := by
  intro f
  induction f with
  | zero =>
    intro m m' bs h
    simp only [latchPath] at h
    split at h
    · rename_i hb; subst hb; cases h; exact Run.nil ws false m
    · cases h
  | succ f ih =>
    intro m m' bs h
    rw [latchPath] at h
    split at h
    · rename_i hb; subst hb; cases h; exact Run.nil ws false m
    · split at h
      · cases h
      · rename_i hne hlen
        split at h
        · rename_i m1 ht
          have hl : (bs.take (codeBits m)).length = codeBits m := by simp; omega
          have hbits := msbBits_bitsToNat (bs.take (codeBits m))
          have hvlt := bitsToNat_lt (bs.take (codeBits m))
          rw [hl] at hbits hvlt
          rw [toNat_eq] at ht
          have := Run.append (Run.latch ws m m1 _ hvlt ht) (ih m1 m' _ h) (by simp)
          rwa [hbits, List.take_append_drop, List.append_nil] at this
        · cases h

/-! ### binary shift -/

theorem byte_toNat (b : UInt8) : byte b.toNat = b := by
  unfold byte; exact UInt8.ofNat_toNat

theorem takeBytes_flatMap (bytes : Bytes) (rest : List Bool) :
    takeBytes bytes.length (bytes.flatMap addByte ++ rest) = (bytes, rest) := by
  induction bytes with
  | nil => rfl
  | cons b bytes ih =>
    simp only [List.length_cons, takeBytes, List.flatMap_cons, List.append_assoc, addByte]
    rw [drop_msbBits, ih, toNat_take_msbBits _ _ (by have := b.toNat_lt; omega), byte_toNat]

theorem length_flatMap_addByte (bytes : Bytes) : (bytes.flatMap addByte).length = 8 * bytes.length := by
  induction bytes with
  | nil => rfl
  | cons b bytes ih => simp [List.flatMap_cons, addByte, ih]; omega

theorem msbBits_add (x a b : Nat) : msbBits x (a + b) = msbBits (x / 2 ^ b) a ++ msbBits x b := by
  induction a with
  | zero => simp [msbBits_zero]
  | succ a ih =>
    have e : a + 1 + b = (a + b) + 1 := by omega
    rw [e, msbBits_succ, msbBits_succ, ih, List.cons_append]
    congr 1
    rw [Nat.testBit_div_two_pow]

/-- the modes in which the encoder opens a binary shift -/
def BinMode (m : Mode) : Prop := m = .upper ∨ m = .lower ∨ m = .mixed

theorem BinMode.spec {m : Mode} (h : BinMode m) : codeBits m = 5 ∧ table m 31 = .binary := by
  rcases h with rfl | rfl | rfl <;> exact ⟨rfl, by simp [table]⟩

/-- a binary-shift run: the B/S code, a length header `H` from which the parser reads the number of bytes and the
    header's own width, and the bytes.  Such a run has at least 5 + 5 + 8 bits, so with `ws ≤ 18` the parser never
    takes it for padding. -/
theorem Run.binary (ws : Nat) (hws : ws ≤ 18) (m : Mode) (hm : BinMode m) (bytes : Bytes) (H : List Bool)
    (hH : 5 ≤ H.length) (h1 : 1 ≤ bytes.length)
    (hdr : ∀ X : List Bool,
      (if Spec.Aztec.toNat ((H ++ X).take 5) ≠ 0 then (Spec.Aztec.toNat ((H ++ X).take 5), 5)
       else (Spec.Aztec.toNat (((H ++ X).drop 5).take 11) + 31, 16)) = (bytes.length, H.length)) :
    Run ws true m (msbBits 31 5 ++ (H ++ bytes.flatMap addByte)) m bytes ∧
      NonPad ws (msbBits 31 5 ++ (H ++ bytes.flatMap addByte)) := by
  have hlen : (msbBits 31 5 ++ (H ++ bytes.flatMap addByte)).length = 5 + H.length + 8 * bytes.length := by
    simp only [List.length_append, length_msbBits, length_flatMap_addByte]; omega
  refine ⟨Run.ofStep (by omega) fun rest _ fuel out0 => ?_, nonPad_of_length _ (by omega)⟩
  rw [hlen, parse, if_neg (by omega)]
  simp only [Option.getD_none, hm.spec.1, List.append_assoc]
  rw [if_neg (by omega), toNat_take_msbBits 31 5 (by omega), drop_msbBits, hm.spec.2]
  simp only []
  rw [if_neg (by omega), hdr]
  simp only []
  rw [if_neg (by omega), List.drop_left' rfl, takeBytes_flatMap]
  simp only []
  congr 1
  omega

theorem Run.binaryShort (ws : Nat) (hws : ws ≤ 18) (m : Mode) (hm : BinMode m) (bytes : Bytes)
    (h1 : 1 ≤ bytes.length) (h31 : bytes.length ≤ 31) :
    Run ws true m (msbBits 31 5 ++ (msbBits bytes.length 5 ++ bytes.flatMap addByte)) m bytes ∧
      NonPad ws (msbBits 31 5 ++ (msbBits bytes.length 5 ++ bytes.flatMap addByte)) := by
  refine Run.binary ws hws m hm bytes _ (by rw [length_msbBits]; omega) h1 fun X => ?_
  rw [toNat_take_msbBits _ 5 (by omega), if_pos (by omega), length_msbBits]

theorem Run.binaryLong (ws : Nat) (hws : ws ≤ 18) (m : Mode) (hm : BinMode m) (bytes : Bytes)
    (h1 : 32 ≤ bytes.length) (h31 : bytes.length - 31 < 2048) :
    Run ws true m (msbBits 31 5 ++ (msbBits (bytes.length - 31) 16 ++ bytes.flatMap addByte)) m bytes ∧
      NonPad ws (msbBits 31 5 ++ (msbBits (bytes.length - 31) 16 ++ bytes.flatMap addByte)) := by
  refine Run.binary ws hws m hm bytes _ (by rw [length_msbBits]; omega) (by omega) fun X => ?_
  have e16 : msbBits (bytes.length - 31) 16 = msbBits 0 5 ++ msbBits (bytes.length - 31) 11 := by
    have := msbBits_add (bytes.length - 31) 5 11
    rwa [Nat.div_eq_of_lt (by omega)] at this
  rw [length_msbBits, e16, List.append_assoc, toNat_take_msbBits 0 5 (by omega), if_neg (by omega), drop_msbBits,
    toNat_take_msbBits _ 11 (by omega), show bytes.length - 31 + 31 = bytes.length by omega]

/-! ### the bits of a binary-shift token -/

/-- the bytes of the run that a binary-shift token covers -/
def runBytes (text : Array UInt8) (start : Nat) (l : List Nat) : Bytes :=
  l.map (fun i => text.getD (start + i) 0)

theorem flatMap_noHeader (text : Array UInt8) (start cnt : Nat) (l : List Nat)
    (h : ∀ i ∈ l, i ≠ 0 ∧ (i = 31 → 62 < cnt)) :
    l.flatMap (binaryShiftByteBits text start cnt) = (runBytes text start l).flatMap addByte := by
  induction l with
  | nil => rfl
  | cons i l ih =>
    rw [List.flatMap_cons, ih (fun j hj => h j (List.mem_cons_of_mem _ hj))]
    have hi := h i (List.mem_cons_self ..)
    have e : binaryShiftByteBits text start cnt i = addByte (text.getD (start + i) 0) := by
      unfold binaryShiftByteBits
      have : (i == 0 || (i == 31 && decide (cnt ≤ 62))) = false := by
        have h0 : (i == 0) = false := by simp [hi.1]
        rw [h0, Bool.false_or]
        by_cases h31 : i = 31
        · have := hi.2 h31
          simp [h31]; omega
        · simp [h31]
      simp only [this]
      simp
    rw [e]
    simp [runBytes, List.flatMap_cons]

theorem range_eq_cons (n : Nat) (h : 1 ≤ n) : List.range n = 0 :: List.range' 1 (n - 1) := by
  rw [List.range_eq_range']
  have : n = (n - 1) + 1 := by omega
  rw [this, List.range'_succ]
  simp

/-- the first byte of a run carries the length header: 5 bits for up to 62 bytes (31 then announces a second
    block), 5 + 11 bits beyond -/
theorem byteBits_zero (text : Array UInt8) (start cnt : Nat) :
    binaryShiftByteBits text start cnt 0 =
      msbBits 31 5 ++ ((if 62 < cnt then msbBits (cnt - 31) 16 else msbBits (min cnt 31) 5) ++
        addByte (text.getD start 0)) := by
  unfold binaryShiftByteBits
  simp only [BEq.rfl, Bool.true_or, if_true, Nat.add_zero, List.append_assoc, gt_iff_lt]
  rw [show (31 : Int) = ((31 : Nat) : Int) from rfl, addBits_natCast]
  split
  · rw [show ((cnt : Int) - (31 : Nat)) = ((cnt - 31 : Nat) : Int) by omega, addBits_natCast]
  · split
    · rw [addBits_natCast, Nat.min_eq_left (by omega)]
    · rw [Nat.min_eq_right (by omega)]

theorem binaryToken_bits (text : Array UInt8) (start cnt : Nat) (h1 : 1 ≤ cnt) :
    (cnt ≤ 31 → Token.bits text (.binaryShift start cnt) =
      msbBits 31 5 ++ (msbBits cnt 5 ++ (runBytes text start (List.range cnt)).flatMap addByte)) ∧
    (31 < cnt → cnt ≤ 62 → Token.bits text (.binaryShift start cnt) =
      (msbBits 31 5 ++ (msbBits 31 5 ++ (runBytes text start (List.range 31)).flatMap addByte)) ++
      (msbBits 31 5 ++ (msbBits (cnt - 31) 5 ++ (runBytes text start (List.range' 31 (cnt - 31))).flatMap addByte))) ∧
    (62 < cnt → Token.bits text (.binaryShift start cnt) =
      msbBits 31 5 ++ (msbBits (cnt - 31) 16 ++ (runBytes text start (List.range cnt)).flatMap addByte)) := by
  have hbytes : ∀ (s n : Nat), 1 ≤ s → (s ≤ 31 → 31 < s + n → 62 < cnt) →
      (List.range' s n).flatMap (binaryShiftByteBits text start cnt) =
        (runBytes text start (List.range' s n)).flatMap addByte := fun s n hs h =>
    flatMap_noHeader text start cnt _ (fun i hi => by rw [List.mem_range'_1] at hi; exact ⟨by omega, by omega⟩)
  simp only [Token.bits]
  refine ⟨fun hc => ?_, fun hc1 hc2 => ?_, fun hc => ?_⟩
  · rw [range_eq_cons cnt h1, List.flatMap_cons, hbytes 1 _ (by omega) (by omega), byteBits_zero,
      if_neg (by omega), Nat.min_eq_left (by omega)]
    simp [runBytes]
  · have hr : List.range cnt = 0 :: List.range' 1 30 ++ 31 :: List.range' 32 (cnt - 32) := by
      rw [range_eq_cons cnt h1, show cnt - 1 = 30 + (1 + (cnt - 32)) by omega,
        ← List.range'_append_1, ← List.range'_append_1]
      rfl
    have h31 : binaryShiftByteBits text start cnt 31 =
        msbBits 31 5 ++ (msbBits (cnt - 31) 5 ++ addByte (text.getD (start + 31) 0)) := by
      unfold binaryShiftByteBits
      have : ((31 : Nat) == 0 || ((31 : Nat) == 31 && decide (cnt ≤ 62))) = true := by simpa
      simp only [this, if_true]
      rw [if_neg (by omega), show (31 : Int) = ((31 : Nat) : Int) from rfl, addBits_natCast,
        show ((cnt : Int) - (31 : Nat)) = ((cnt - 31 : Nat) : Int) by omega, addBits_natCast (cnt - 31)]
      simp
    rw [hr, List.flatMap_append, List.flatMap_cons, List.flatMap_cons, hbytes 1 30 (by omega) (by omega),
      hbytes 32 _ (by omega) (by omega), byteBits_zero, if_neg (by omega), Nat.min_eq_right (by omega), h31,
      range_eq_cons 31 (by omega), show cnt - 31 = (cnt - 32) + 1 by omega, List.range'_succ (s := 31)]
    simp [runBytes]
  · rw [range_eq_cons cnt h1, List.flatMap_cons, hbytes 1 _ (by omega) (by omega), byteBits_zero,
      if_pos (by omega)]
    simp [runBytes]

@[simp] theorem length_runBytes (text : Array UInt8) (start : Nat) (l : List Nat) :
    (runBytes text start l).length = l.length := by simp [runBytes]

/-- a binary-shift token of 1 … 2078 bytes, in a mode that has a B/S code, is a strong run emitting its bytes -/
theorem Run.binaryToken (ws : Nat) (hws : ws ≤ 18) (m : Mode) (hm : BinMode m) (text : Array UInt8)
    (start cnt : Nat) (h1 : 1 ≤ cnt) (h2 : cnt ≤ 2078) :
    Run ws true m (Token.bits text (.binaryShift start cnt)) m (runBytes text start (List.range cnt)) ∧
      NonPad ws (Token.bits text (.binaryShift start cnt)) := by
  obtain ⟨e1, e2, e3⟩ := binaryToken_bits text start cnt h1
  by_cases hc1 : cnt ≤ 31
  · have := Run.binaryShort ws hws m hm (runBytes text start (List.range cnt)) (by simpa using h1) (by simpa)
    rw [e1 hc1]
    simpa using this
  · by_cases hc2 : cnt ≤ 62
    · have r1 := Run.binaryShort ws hws m hm (runBytes text start (List.range 31)) (by simp) (by simp)
      have r2 := Run.binaryShort ws hws m hm (runBytes text start (List.range' 31 (cnt - 31)))
        (by simp; omega) (by simp; omega)
      simp only [length_runBytes, List.length_range, List.length_range'] at r1 r2
      have hsplit : runBytes text start (List.range cnt) =
          runBytes text start (List.range 31) ++ runBytes text start (List.range' 31 (cnt - 31)) := by
        have a1 : List.range cnt = List.range 31 ++ List.range' (0 + 31) (cnt - 31) := by
          rw [List.range_eq_range', List.range_eq_range', List.range'_append_1]; congr 1; omega
        rw [a1]; simp [runBytes]
      rw [e2 (by omega) hc2, hsplit]
      exact ⟨Run.append r1.1.weaken r2.1 (fun _ => r2.2), nonPad_append_left _ _ r1.2⟩
    · have := Run.binaryLong ws hws m hm (runBytes text start (List.range cnt)) (by simp; omega)
        (by simp; omega)
      rw [e3 (by omega)]
      simpa using this

/-! ### table certificates -/

def actIsChars : Act → Bytes → Bool
  | .chars c, d => c == d
  | _, _ => false

theorem actIsChars_eq {a : Act} {c : Bytes} (h : actIsChars a c = true) : a = .chars c := by
  cases a <;> simp [actIsChars] at h
  rw [h]

def actIsShift : Act → Mode → Bool
  | .shift m, m' => m == m'
  | _, _ => false

theorem actIsShift_eq {a : Act} {m : Mode} (h : actIsShift a m = true) : a = .shift m := by
  cases a <;> simp [actIsShift] at h
  rw [h]

/-- `encodingMode.BitCount` is the code width of the standard -/
theorem BitCount_eq (a : Nat) (h : a < 5) : BitCount a = codeBits (modeOf a) := by
  have : a = 0 ∨ a = 1 ∨ a = 2 ∨ a = 3 ∨ a = 4 := by omega
  rcases this with rfl | rfl | rfl | rfl | rfl <;> rfl

def latchBits (a b : Nat) : List Bool :=
  Token.bits #[] (.simple (latchTable a b &&& 0xFFFF) ((latchTable a b >>> 16) % 256))

/-- certificate (20 entries, by evaluation): every latch table entry `a → b` is a sequence of latch codes of the
    standard that leads from mode `a` to mode `b`; no entry is longer than 14 bits -/
theorem latch_cert : ∀ a < 5, ∀ b < 5, a ≠ b →
    latchPath 3 (modeOf a) (latchBits a b) = some (modeOf b) ∧ latchTable a b >>> 16 ≤ 14 := by
  decide

/-- the entries of row `m` of `charMap`, each with its index: an entry is 0, or the code of exactly the character
    of its index in the standard's table of mode `m` and not the all-ones code -/
def charMapRowOK (m : Nat) : Bool :=
  ((List.range 256).zip (charMap.getD m #[]).toList).all fun (n, v) =>
    v.toNat == 0 || (decide (v.toNat < 2 ^ codeBits (modeOf m) - 1) &&
      actIsChars (table (modeOf m) v.toNat) [UInt8.ofNat n])

/-- certificate (5 × 256 entries, by evaluation) -/
theorem charMap_cert : (List.range 5).all charMapRowOK = true := by decide +kernel

def shiftOK (a b : Nat) : Bool :=
  match shiftTableOk a b with
  | some v => decide (0 ≤ v) && actIsShift (table (modeOf a) v.toNat) (modeOf b) &&
      decide (v.toNat < 2 ^ codeBits (modeOf a)) && decide (codeBits (modeOf b) = 5) &&
      decide (shiftTable a b = v.toNat)
  | none => true

/-- certificate: every shift table entry is the shift code of the standard; shifts lead to 5-bit modes -/
theorem shift_cert : ∀ a < 5, ∀ b < 5, shiftOK a b = true := by decide

theorem shift_spec (a b : Nat) (ha : a < 5) (hb : b < 5) (h : (shiftTableOk a b).isSome = true) :
    table (modeOf a) (shiftTable a b) = .shift (modeOf b) ∧
      shiftTable a b < 2 ^ codeBits (modeOf a) ∧ codeBits (modeOf b) = 5 := by
  have := shift_cert a ha b hb
  unfold shiftOK at this
  cases hv : shiftTableOk a b with
  | none => rw [hv] at h; cases h
  | some v =>
    rw [hv] at this
    simp only [Bool.and_eq_true, decide_eq_true_eq] at this
    obtain ⟨⟨⟨⟨_, h2⟩, h3⟩, h4⟩, h5⟩ := this
    rw [h5]
    exact ⟨actIsShift_eq h2, h3, h4⟩

theorem shift_punct_cert : ∀ a < 4, (shiftTableOk a 4).isSome = true := by decide

theorem charMap_spec (mode : Nat) (hm : mode < 5) (ch : UInt8) (h : 0 < charMapAt mode ch) :
    charMapAt mode ch < 2 ^ codeBits (modeOf mode) - 1 ∧
      table (modeOf mode) (charMapAt mode ch) = .chars [ch] := by
  have hrow := List.all_eq_true.mp charMap_cert mode (List.mem_range.mpr hm)
  unfold charMapAt at h ⊢
  unfold charMapRowOK at hrow
  generalize charMap.getD mode #[] = row at h hrow ⊢
  have hlt := ch.toNat_lt
  by_cases hn : ch.toNat < row.size
  · have hmem : (ch.toNat, row[ch.toNat]) ∈ (List.range 256).zip row.toList :=
      List.mem_iff_getElem.mpr ⟨ch.toNat, by simp; omega, by simp⟩
    have := List.all_eq_true.mp hrow _ hmem
    rw [Array.getD_eq_getD_getElem?, Array.getElem?_eq_getElem hn, Option.getD_some] at h ⊢
    simp only [Bool.or_eq_true, Bool.and_eq_true, beq_iff_eq, decide_eq_true_eq, UInt8.ofNat_toNat] at this
    rcases this with h0 | ⟨h1, h2⟩
    · omega
    · exact ⟨h1, actIsChars_eq h2⟩
  · rw [Array.getD_eq_getD_getElem?, Array.getElem?_eq_none (by omega)] at h
    exact absurd h (by decide)

theorem latch_run (ws : Nat) (a b : Nat) (ha : a < 5) (hb : b < 5) (hab : a ≠ b) :
    Run ws false (modeOf a) (latchBits a b) (modeOf b) [] :=
  Run.ofLatchPath ws 3 _ _ _ (latch_cert a ha b hb hab).1

/-- the `switch` of `highlevelEncode` recognises the four pairs that have a code in Punct; the first byte of
    ". " and ", " (codes 3 and 4) is also a Digit character, as is the space -/
theorem pairCode_table (c n : UInt8) (h : 0 < pairCodeOf c n) :
    pairCodeOf c n < 31 ∧ table .punct (pairCodeOf c n) = .chars [c, n] ∧
    ((pairCodeOf c n == 3 || pairCodeOf c n == 4) = true → 16 - pairCodeOf c n < 15 ∧
      table .digit (16 - pairCodeOf c n) = .chars [c] ∧ table .digit 1 = .chars [n]) := by
  unfold pairCodeOf at h ⊢
  repeat' split
  all_goals simp_all [table]

/-- the last byte has no partner (`nextChar = 0`) -/
theorem pairCodeOf_zero (c : UInt8) : pairCodeOf c 0 = 0 := by
  unfold pairCodeOf; simp

end BV.Proofs.AztecStream
