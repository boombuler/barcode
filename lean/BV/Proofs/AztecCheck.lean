/-
  BV.Proofs.AztecCheck — the check words and the mode message of an Aztec symbol (property C03):
  `bitsToWords` is the reference decoder's `groups`; `generateCheckWords` appends Reed–Solomon check words that make
  the word sequence a codeword of the standard's field (via C17); reading the message back the way
  `Spec.Aztec.decode` does returns the words; the mode message is a GF(16) codeword that spells `layers - 1` and
  `dataWords - 1`; neither function panics.
-/
import BV.Proofs.AztecBits
import BV.Props.C17
namespace BV.Proofs.AztecCheck
open BV BV.Model BV.Model.Aztec BV.Proofs.Bits BV.Proofs.AztecBits

/-! ### `bitsToWords` -/

theorem or_two_pow (acc w : Nat) (h : acc % 2 ^ (w + 1) = 0) : acc ||| 2 ^ w = acc + 2 ^ w := by
  have e : acc = 2 ^ (w + 1) * (acc / 2 ^ (w + 1)) := by
    have := Nat.div_add_mod acc (2 ^ (w + 1)); omega
  rw [e, ← Nat.two_pow_add_eq_or_of_lt (Nat.pow_lt_pow_right (by omega) (Nat.lt_succ_self w))]

/-- the inner loop of `bitsToWords` (set bit `w-j-1` when cell `j` is set), started on a multiple of `2^w`, adds the
    big-endian value of the cells -/
theorem orFold_eq (w : Nat) : ∀ (g : Nat → Bool) (acc : Nat), acc % 2 ^ w = 0 →
    (List.range w).foldl (fun value j => if g j then value ||| (1 <<< (w - j - 1)) else value) acc =
      acc + bitsToNat ((List.range w).map g) := by
  induction w with
  | zero => intro g acc _; simp
  | succ w ih =>
    intro g acc h
    rw [List.range_succ_eq_map, List.foldl_cons, List.foldl_map, List.map_cons, List.map_map, bitsToNat_cons]
    have e : ∀ (v : Nat) (j : Nat), (if g (j + 1) then v ||| (1 <<< (w + 1 - (j + 1) - 1)) else v) =
        (if (g ∘ Nat.succ) j then v ||| (1 <<< (w - j - 1)) else v) := by
      intro v j
      have : w + 1 - (j + 1) - 1 = w - j - 1 := by omega
      rw [this]; rfl
    simp only [Nat.succ_eq_add_one, e]
    have hacc : acc % 2 ^ w = 0 :=
      Nat.mod_eq_zero_of_dvd (Nat.dvd_trans (Nat.pow_dvd_pow 2 (Nat.le_succ w)) (Nat.dvd_of_mod_eq_zero h))
    rw [ih]
    · simp only [List.length_map, List.length_range, Nat.sub_zero, Nat.add_sub_cancel, Nat.one_shiftLeft]
      cases g 0
      · simp
      · simp only [if_true, Nat.one_mul]
        rw [or_two_pow acc w h]; omega
    · simp only [Nat.sub_zero, Nat.add_sub_cancel, Nat.one_shiftLeft]
      cases g 0
      · simpa using hacc
      · simp only [if_true]
        rw [or_two_pow acc w h, Nat.add_mod_right]; exact hacc

theorem groups_eq_map (w : Nat) : ∀ (n : Nat) (bs : List Bool),
    Spec.Aztec.groups w n bs = (List.range n).map (fun i => bitsToNat ((bs.drop (i * w)).take w)) := by
  intro n
  induction n with
  | zero => intro bs; rfl
  | succ n ih =>
    intro bs
    rw [List.range_succ_eq_map, List.map_cons, List.map_map]
    simp only [Spec.Aztec.groups, ih, toNat_eq, Nat.zero_mul, List.drop_zero]
    congr 1
    apply List.map_congr_left
    intro i _
    simp only [Function.comp, List.drop_drop, Nat.succ_eq_add_one]
    congr 3
    rw [Nat.succ_mul]; omega

/-- `bitsToWords` (array reads, OR-ing single bits) computes the reference decoder's grouping of the bit list into
    `n` words of `w` bits, as long as the `n` words lie inside the list -/
theorem bitsToWords_eq (bits : List Bool) (w n : Nat) (h : n * w ≤ bits.length) :
    bitsToWords bits.toArray w n = Spec.Aztec.groups w n bits := by
  rw [groups_eq_map]
  unfold bitsToWords
  apply List.map_congr_left
  intro i hi
  have hi : i < n := List.mem_range.mp hi
  have hle : i * w + w ≤ bits.length := by
    have := Nat.mul_le_mul_right w (Nat.succ_le_of_lt hi)
    rw [Nat.succ_mul] at this; omega
  rw [orFold_eq w (fun j => bits.toArray.getD (i * w + j) false) 0 (Nat.zero_mod _), Nat.zero_add]
  rw [← map_getD_eq_take_drop bits (i * w) w hle]
  congr 1
  apply List.map_congr_left
  intro j _
  simp

/-! ### the fields -/

/-- the five word sizes of Aztec: `getGF` builds the field `NewGaloisField(pp, 2^w, 1)` whose polynomial and size
    are those of the standard's field for that word size; the triple is one of the six of C17 (table fact, by cases) -/
theorem getGF_spec (w : Nat) (hw : w ∈ [4, 6, 8, 10, 12]) :
    ∃ pp n, getGF w = some (GF.newField pp n 1) ∧ Spec.RS.aztecField w = some ⟨pp, n⟩ ∧ n = 2 ^ w ∧
      (pp, n, 1) ∈ BV.Props.C17.fields := by
  simp only [List.mem_cons, List.not_mem_nil, or_false] at hw
  rcases hw with rfl | rfl | rfl | rfl | rfl
  · exact ⟨19, 16, rfl, rfl, rfl, by decide⟩
  · exact ⟨67, 64, rfl, rfl, rfl, by decide⟩
  · exact ⟨301, 256, rfl, rfl, rfl, by decide⟩
  · exact ⟨1033, 1024, rfl, rfl, rfl, by decide⟩
  · exact ⟨4201, 4096, rfl, rfl, rfl, by decide⟩

/-! ### `generateCheckWords` -/

theorem flatMap_addBits (ws : List Nat) (w : Nat) :
    ws.flatMap (fun (x : Nat) => addBits (x : Int) w) = ws.flatMap (fun x => msbBits x w) := by
  congr 1; funext x; exact addBits_natCast x w

/-- `generateCheckWords` as a formula, whenever the field exists and at least one check word is requested:
    the start padding, the message words and the Reed–Solomon check words, `w` bits each -/
theorem generateCheckWords_eq (bits : List Bool) (totalBits w : Nat) (gf : GF.Field) (hgf : getGF w = some gf)
    (hk : 1 ≤ totalBits / w - bits.length / w) :
    generateCheckWords bits totalBits w = .ok (List.replicate (totalBits % w) false ++
      (Spec.Aztec.groups w (bits.length / w) bits ++
        GF.rsEncode gf (Spec.Aztec.groups w (bits.length / w) bits) (totalBits / w - bits.length / w)).flatMap
          (fun x => msbBits x w)) := by
  unfold generateCheckWords
  rw [hgf]
  simp only []
  rw [if_neg (by omega), if_neg (by simp; omega)]
  rw [bitsToWords_eq bits w _ (Nat.div_mul_le_self _ _), flatMap_addBits, flatMap_addBits,
    show (0 : Int) = ((0 : Nat) : Int) from rfl, addBits_natCast, msbBits_zero_val, List.flatMap_append,
    List.append_assoc]

/-- the statement of `generateCheckWords_spec` for an explicit field (the mode message uses it with GF(16)) -/
theorem generateCheckWords_core (w pp n : Nat) (hgf : getGF w = some (GF.newField pp n 1)) (hn : n = 2 ^ w)
    (hf : (pp, n, 1) ∈ BV.Props.C17.fields) (stuffed : List Bool) (totalBits : Nat)
    (hk1 : 1 ≤ totalBits / w - stuffed.length / w) (hkn : totalBits / w - stuffed.length / w ≤ 2 ^ w - 1) :
    let m := stuffed.length / w
    let k := totalBits / w - m
    let dw := Spec.Aztec.groups w m stuffed
    let ecc := GF.rsEncode (GF.newField pp n 1) dw k
    generateCheckWords stuffed totalBits w =
        .ok (List.replicate (totalBits % w) false ++ (dw ++ ecc).flatMap (fun x => msbBits x w)) ∧
      dw.length = m ∧ ecc.length = k ∧ (∀ x ∈ dw, x < 2 ^ w) ∧ (∀ x ∈ ecc, x < 2 ^ w) ∧
      (Spec.RS.BinField.mk pp n).valid 1 k (dw ++ ecc) = true := by
  intro m k dw ecc
  have hdw : ∀ x ∈ dw, x < 2 ^ w := groups_lt w m stuffed
  have hd : BV.Proofs.GF.AllLt n dw := by intro x hx; rw [hn]; exact hdw x hx
  obtain ⟨e1, e2, e3, e4, _⟩ := BV.Props.C17.C17_rs_encode pp n 1 hf dw hd k hk1 (by rw [hn]; exact hkn)
    GF.newEncoder (BV.Props.C17.C17_newEncoder_inv _)
  rw [e4] at e1 e2 e3
  refine ⟨generateCheckWords_eq stuffed totalBits w _ hgf hk1, length_groups w m stuffed, e1, hdw, ?_, e3⟩
  intro x hx; rw [← hn]; exact e2 x hx

/-- **Check words** (C03).  For each of the five Aztec word sizes, with `m = len(stuffed)/w` message words and
    `k = totalBits/w - m` check words, `1 ≤ k ≤ 2^w - 1`: `generateCheckWords` succeeds and returns the start
    padding, the message words `dw` (the reference decoder's grouping of `stuffed`) and `k` check words `ecc`
    (those of `Encode` in the library's field), every word below `2^w`, such that `dw ++ ecc` is a Reed–Solomon
    codeword with `k` check symbols in the field that the specification prescribes for this word size. -/
theorem generateCheckWords_spec (w : Nat) (hw : w ∈ [4, 6, 8, 10, 12]) (stuffed : List Bool) (totalBits : Nat)
    (hk1 : 1 ≤ totalBits / w - stuffed.length / w) (hkn : totalBits / w - stuffed.length / w ≤ 2 ^ w - 1) :
    let m := stuffed.length / w
    let k := totalBits / w - m
    let dw := Spec.Aztec.groups w m stuffed
    ∃ pp n ecc, getGF w = some (GF.newField pp n 1) ∧ Spec.RS.aztecField w = some ⟨pp, n⟩ ∧ n = 2 ^ w ∧
      ecc = GF.rsEncode (GF.newField pp n 1) dw k ∧
      generateCheckWords stuffed totalBits w =
        .ok (List.replicate (totalBits % w) false ++ (dw ++ ecc).flatMap (fun x => msbBits x w)) ∧
      dw.length = m ∧ ecc.length = k ∧ (∀ x ∈ dw, x < 2 ^ w) ∧ (∀ x ∈ ecc, x < 2 ^ w) ∧
      (Spec.RS.BinField.mk pp n).valid 1 k (dw ++ ecc) = true := by
  intro m k dw
  obtain ⟨pp, n, h1, h2, h3, h4⟩ := getGF_spec w hw
  exact ⟨pp, n, _, h1, h2, h3, rfl, generateCheckWords_core w pp n h1 h3 h4 stuffed totalBits hk1 hkn⟩

theorem length_message (p w : Nat) (ws : List Nat) :
    (List.replicate p false ++ ws.flatMap (fun x => msbBits x w)).length = p + ws.length * w := by
  rw [List.length_append, List.length_replicate, length_flatMap_msbBits]

theorem generateCheckWords_length (w : Nat) (hw : w ∈ [4, 6, 8, 10, 12]) (stuffed : List Bool) (totalBits : Nat)
    (hk1 : 1 ≤ totalBits / w - stuffed.length / w) (hkn : totalBits / w - stuffed.length / w ≤ 2 ^ w - 1)
    {r : List Bool} (hr : generateCheckWords stuffed totalBits w = .ok r) : r.length = totalBits := by
  obtain ⟨pp, n, ecc, _, _, _, _, h, hm, hk, _⟩ := generateCheckWords_spec w hw stuffed totalBits hk1 hkn
  rw [← Except.ok.inj (h.symm.trans hr), length_message, List.length_append, hm, hk]
  have := Nat.div_add_mod totalBits w
  have e : stuffed.length / w + (totalBits / w - stuffed.length / w) = totalBits / w := by omega
  rw [e, Nat.mul_comm]; omega

/-- `generateCheckWords` does not panic when the word size is one of the five Aztec sizes and the message has
    fewer words than the symbol (no other hypothesis: neither the nil field, nor a negative, nor a zero number
    of check words) -/
theorem generateCheckWords_no_panic (w : Nat) (hw : w ∈ [4, 6, 8, 10, 12]) (bits : List Bool) (totalBits : Nat)
    (h : bits.length / w < totalBits / w) : ∃ r, generateCheckWords bits totalBits w = .ok r := by
  obtain ⟨pp, n, h1, _⟩ := getGF_spec w hw
  exact ⟨_, generateCheckWords_eq bits totalBits w _ h1 (by omega)⟩

/-! ### reading the message back the way `Spec.Aztec.decode` does -/

/-- the reference decoder takes `len % w` leading pad bits, checks that they are zero and groups the rest into
    `len / w` words: on a message made of `p < w` zero bits and the words `ws` (each below `2^w`, written with `w`
    bits) it finds `p` pad bits, all zero, and exactly the words `ws` -/
theorem read_back (p w : Nat) (ws : List Nat) (hp : p < w) (hws : ∀ x ∈ ws, x < 2 ^ w) :
    let msg := List.replicate p false ++ ws.flatMap (fun x => msbBits x w)
    msg.length % w = p ∧ msg.length / w = ws.length ∧ (msg.take p).all (fun b => !b) = true ∧
      Spec.Aztec.groups w (msg.length / w) (msg.drop (msg.length % w)) = ws := by
  intro msg
  have hl : msg.length = p + ws.length * w := length_message p w ws
  have h1 : msg.length % w = p := by
    rw [hl, Nat.add_mul_mod_self_right, Nat.mod_eq_of_lt hp]
  have h2 : msg.length / w = ws.length := by
    rw [hl, Nat.add_mul_div_right _ _ (by omega), Nat.div_eq_of_lt hp, Nat.zero_add]
  refine ⟨h1, h2, ?_, ?_⟩
  · have : msg.take p = List.replicate p false := List.take_left' (List.length_replicate ..)
    rw [this]; simp
  · rw [h1, h2]
    have : msg.drop p = ws.flatMap (fun x => msbBits x w) := List.drop_left' (List.length_replicate ..)
    rw [this]
    have := groups_flatMap w ws hws []
    rwa [List.append_nil] at this

/-! ### the mode message -/

/-- the two call sites of `generateCheckWords` in `generateModeMessage` with their (generated) arguments -/
theorem generateModeMessage_eq (compact : Bool) (L W : Nat) :
    generateModeMessage compact L W =
      if compact then generateCheckWords (addBits ((L : Int) - 1) 2 ++ addBits ((W : Int) - 1) 6) 28 4
      else generateCheckWords (addBits ((L : Int) - 1) 5 ++ addBits ((W : Int) - 1) 11) 40 4 := rfl

theorem fold16 (ws : List Nat) (h : ∀ x ∈ ws, x < 2 ^ 4) : ∀ acc : Nat,
    ws.foldl (fun a x => 16 * a + x) acc =
      acc * 2 ^ (ws.length * 4) + bitsToNat (ws.flatMap (fun x => msbBits x 4)) := by
  induction ws with
  | nil => intro acc; simp
  | cons x ws ih =>
    intro acc
    rw [List.foldl_cons, ih (fun y hy => h y (List.mem_cons_of_mem _ hy)), List.flatMap_cons, bitsToNat_append,
      length_flatMap_msbBits, bitsToNat_msbBits_of_lt x 4 (h x (List.mem_cons_self ..)), List.length_cons,
      show (ws.length + 1) * 4 = ws.length * 4 + 4 by omega, Nat.pow_add]
    generalize 2 ^ (ws.length * 4) = P
    have : (16 * acc + x) * P = acc * (P * 2 ^ 4) + x * P := by
      rw [Nat.add_mul, Nat.mul_comm 16 acc, Nat.mul_assoc, Nat.mul_comm 16 P]
    omega

/-- a mode message: `md` data words (the bits `stuffed`) completed to `tw` words of 4 bits in GF(16).  The result has
    `4·tw` bits; grouped as the reference decoder does it is a codeword with `tw - md` check words whose first `md`
    words have the value of `stuffed` -/
theorem generateCheckWords_gf16 (stuffed : List Bool) (md tw total : Nat) (hlen : stuffed.length = md * 4)
    (ht : total = tw * 4) (h1 : md < tw) (h2 : tw - md ≤ 15) :
    ∃ mm, generateCheckWords stuffed total 4 = .ok mm ∧ mm.length = total ∧
      (let words := Spec.Aztec.groups 4 (mm.length / 4) mm
       (Spec.RS.BinField.mk 0x13 16).valid 1 (words.length - md) words = true ∧
       (words.take md).foldl (fun a x => 16 * a + x) 0 = bitsToNat stuffed) := by
  subst ht
  have hm : stuffed.length / 4 = md := by omega
  have htw : tw * 4 / 4 = tw := by omega
  have hp : tw * 4 % 4 = 0 := by omega
  obtain ⟨e, hdl, hel, hdw, hecc, hv⟩ := generateCheckWords_core 4 19 16 rfl rfl (by decide) stuffed (tw * 4)
    (by omega) (by rw [hm, htw]; exact h2)
  simp only [hm, htw, hp] at e hdl hel hdw hecc hv
  generalize GF.rsEncode (GF.newField 19 16 1) (Spec.Aztec.groups 4 md stuffed) (tw - md) = ecc at *
  have hall : ∀ x ∈ Spec.Aztec.groups 4 md stuffed ++ ecc, x < 2 ^ 4 := by
    intro x hx
    rcases List.mem_append.mp hx with hx | hx
    · exact hdw x hx
    · exact hecc x hx
  obtain ⟨r1, r2, _, r4⟩ := read_back 0 4 (Spec.Aztec.groups 4 md stuffed ++ ecc) (by omega) hall
  refine ⟨_, e, ?_, ?_⟩
  · rw [length_message, List.length_append, hdl, hel]; omega
  · intro words
    have hw : words = Spec.Aztec.groups 4 md stuffed ++ ecc := by
      rw [r1, List.drop_zero] at r4; exact r4
    rw [hw, List.length_append, hdl, hel, List.take_left' hdl]
    refine ⟨by rw [show md + (tw - md) - md = tw - md by omega]; exact hv, ?_⟩
    rw [fold16 _ hdw 0, Nat.zero_mul, Nat.zero_add]
    rw [flatMap_groups 4 md stuffed hlen]

theorem bitsToNat_two_fields (a la b lb : Nat) (ha : a < 2 ^ la) (hb : b < 2 ^ lb) :
    bitsToNat (msbBits a la ++ msbBits b lb) = a * 2 ^ lb + b := by
  rw [bitsToNat_append, length_msbBits, bitsToNat_msbBits_of_lt a la ha, bitsToNat_msbBits_of_lt b lb hb]

/-- **Mode message** (C03).  For each of the 36 shapes and `1 ≤ W ≤ 64` (compact) resp. `2048` (full range) data
    words, `generateModeMessage` succeeds with 28 resp. 40 bits; grouped into 4-bit words the way the reference
    decoder does, they form a GF(16) Reed–Solomon codeword with 5 resp. 6 check words, and the 2 resp. 4 data words
    have the value `(L-1)·64 + (W-1)` resp. `(L-1)·2048 + (W-1)`. -/
theorem generateModeMessage_spec (compact : Bool) (L W : Nat) (hL : Shape compact L)
    (hW : 1 ≤ W ∧ W ≤ (if compact then 64 else 2048)) :
    ∃ mm, generateModeMessage compact L W = .ok mm ∧ mm.length = (if compact then 28 else 40) ∧
      (let words := Spec.Aztec.groups 4 (mm.length / 4) mm
       let modeData := if compact then 2 else 4
       (Spec.RS.BinField.mk 0x13 16).valid 1 (words.length - modeData) words = true ∧
       (words.take modeData).foldl (fun a x => 16 * a + x) 0 =
         (L - 1) * (if compact then 64 else 2048) + (W - 1)) := by
  have eL : ((L : Int) - 1) = ((L - 1 : Nat) : Int) := by have := hL.1; omega
  have eW : ((W : Int) - 1) = ((W - 1 : Nat) : Int) := by omega
  cases compact
  · have hL2 : L ≤ 32 := hL.2
    have hW2 : W ≤ 2048 := hW.2
    rw [generateModeMessage_eq, if_neg Bool.false_ne_true, eL, eW, addBits_natCast, addBits_natCast]
    obtain ⟨mm, h1, h2, h3⟩ := generateCheckWords_gf16 (msbBits (L - 1) 5 ++ msbBits (W - 1) 11) 4 10 40 (by simp)
      rfl (by omega) (by omega)
    rw [bitsToNat_two_fields (L - 1) 5 (W - 1) 11 (by omega) (by omega)] at h3
    exact ⟨mm, h1, h2, h3⟩
  · have hL2 : L ≤ 4 := hL.2
    have hW2 : W ≤ 64 := hW.2
    rw [generateModeMessage_eq, if_pos rfl, eL, eW, addBits_natCast, addBits_natCast]
    obtain ⟨mm, h1, h2, h3⟩ := generateCheckWords_gf16 (msbBits (L - 1) 2 ++ msbBits (W - 1) 6) 2 7 28 (by simp) rfl
      (by omega) (by omega)
    rw [bitsToNat_two_fields (L - 1) 2 (W - 1) 6 (by omega) (by omega)] at h3
    exact ⟨mm, h1, h2, h3⟩

/-- from the value of the mode message the reference decoder recovers the number of layers and of data words, in
    the form in which `Spec.Aztec.decode` computes them -/
theorem mode_read_back (compact : Bool) (L W : Nat) (hL : 1 ≤ L) (hW : 1 ≤ W ∧ W ≤ (if compact then 64 else 2048)) :
    let v := (L - 1) * (if compact then 64 else 2048) + (W - 1)
    (if compact then v / 64 else v / 2048) + 1 = L ∧ (if compact then v % 64 else v % 2048) + 1 = W := by
  cases compact <;> simp only [Bool.false_eq_true, if_true, if_false] at hW ⊢ <;> omega

/-- `generateModeMessage` never panics, whatever the arguments (even `W = 0`, where `AddBits(-1, …)` writes all
    ones): the call has 2 (4) message words and 7 (10) words in total in GF(16) -/
theorem generateModeMessage_no_panic (compact : Bool) (L W : Nat) :
    ∃ mm, generateModeMessage compact L W = .ok mm := by
  cases compact
  · rw [generateModeMessage_eq, if_neg Bool.false_ne_true]
    exact generateCheckWords_no_panic 4 (by decide) _ 40 (by simp)
  · rw [generateModeMessage_eq, if_pos rfl]
    exact generateCheckWords_no_panic 4 (by decide) _ 28 (by simp)

/-! ### concrete instances -/

/-- the mode message of a compact 1-layer symbol with 3 data words: words `0 2 | 5 8 12 4 2`; it is a codeword with 5
    check words and reads back as layers 1, data words 3 -/
example :
    (generateModeMessage true 1 3).toOption = some ([0, 2, 5, 8, 12, 4, 2].flatMap (fun x => msbBits x 4)) ∧
    Spec.Aztec.groups 4 7 ([0, 2, 5, 8, 12, 4, 2].flatMap (fun x => msbBits x 4)) = [0, 2, 5, 8, 12, 4, 2] ∧
    (Spec.RS.BinField.mk 0x13 16).valid 1 5 [0, 2, 5, 8, 12, 4, 2] = true ∧
    ([0, 2].foldl (fun a x => 16 * a + x) 0) / 64 + 1 = 1 ∧ ([0, 2].foldl (fun a x => 16 * a + x) 0) % 64 + 1 = 3 := by
  decide +kernel

/-- a full-range mode message: 5 layers, 100 data words, value `4·2048 + 99 = 0x2063` -/
example :
    (generateModeMessage false 5 100).toOption.map (Spec.Aztec.groups 4 10) = some [2, 0, 6, 3, 7, 14, 10, 8, 4, 14] ∧
    (Spec.RS.BinField.mk 0x13 16).valid 1 6 [2, 0, 6, 3, 7, 14, 10, 8, 4, 14] = true := by
  decide +kernel

/-- outside the domain (`W = 0`) the data words are `3 15` (all ones in the 6-bit field), no panic -/
example : (generateModeMessage true 1 0).toOption.map (Spec.Aztec.groups 4 7) = some [3, 15, 7, 14, 0, 1, 1] := by
  decide +kernel

/-- the hypotheses of `generateCheckWords_spec` are satisfiable: word size 6, two message words `44 10`, 33 bits in
    total (3 pad bits, 5 words), check words `59 62 24` in GF(64) -/
example :
    let stuffed := [true, false, true, true, false, false, false, false, true, false, true, false]
    6 ∈ [4, 6, 8, 10, 12] ∧ 1 ≤ 33 / 6 - stuffed.length / 6 ∧ 33 / 6 - stuffed.length / 6 ≤ 2 ^ 6 - 1 ∧
    Spec.Aztec.groups 6 2 stuffed = [44, 10] ∧
    (generateCheckWords stuffed 33 6).toOption =
      some (List.replicate 3 false ++ [44, 10, 59, 62, 24].flatMap (fun x => msbBits x 6)) ∧
    (Spec.RS.BinField.mk 0x43 64).valid 1 3 [44, 10, 59, 62, 24] = true := by
  decide +kernel

/-- a message with as many words as the symbol holds (no check word) is the Go panic `result[-1:]`; the guard
    `len(bits)/w < totalBits/w` of `generateCheckWords_no_panic` excludes it -/
example : (match generateCheckWords [true, false, true, true] 4 4 with
    | .error .panic => true
    | _ => false) = true := by decide +kernel

end BV.Proofs.AztecCheck
