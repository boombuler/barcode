/-
  Render — C11: colour scheme, bounds, metadata.  Shared vocabulary and the 1-D families.

  `Barcode.recolor s b` replaces the scheme of `b`.  For every family
  `encodeWithColor a s = (encode a).map (Barcode.recolor s)`, which yields `SameButScheme`; for the 1-D families
  this and the metadata come from `Uniform1D`.
-/
import BV.Model.Ean
import BV.Model.Code39
import BV.Model.Code93
import BV.Model.Code128
import BV.Model.Codabar
import BV.Model.Twooffive
import BV.Proofs.Kind
namespace BV.Proofs.Render
open BV BV.Model

/-! ### generic fold lemmas -/

/-- a map that commutes with every step commutes with the fold -/
theorem foldl_comm {σ α} (φ : σ → σ) (f : σ → α → σ) (h : ∀ a x, f (φ a) x = φ (f a x)) :
    ∀ (l : List α) (a : σ), l.foldl f (φ a) = φ (l.foldl f a) := by
  intro l
  induction l with
  | nil => intro a; rfl
  | cons x l ih => intro a; rw [List.foldl_cons, List.foldl_cons, h, ih]

/-- a property that every step preserves is preserved by the fold -/
theorem foldl_inv {σ α} (P : σ → Prop) (f : σ → α → σ) (h : ∀ a x, P a → P (f a x)) :
    ∀ (l : List α) (a : σ), P a → P (l.foldl f a) := by
  intro l
  induction l with
  | nil => intro a ha; exact ha
  | cons x l ih => intro a ha; exact ih _ (h _ _ ha)

/-- the same barcode with another colour scheme -/
def _root_.BV.Barcode.recolor (s : Scheme) (b : Barcode) : Barcode := { b with scheme := s }

/-- Two encoder results agree in everything except the colour scheme, and the scheme of the first is `s`. -/
def SameButScheme (r r0 : Res Barcode) (s : Scheme) : Prop :=
  match r, r0 with
  | .ok b, .ok b0 => b.scheme = s ∧ b.kind = b0.kind ∧ b.dims = b0.dims ∧ b.w = b0.w ∧ b.h = b0.h ∧
                     b.content = b0.content ∧ b.checksum = b0.checksum ∧ ∀ x y, b.dark x y = b0.dark x y
  | .error e, .error e0 => e = e0
  | _, _ => False

theorem sameButScheme_of_map (r r0 : Res Barcode) (s : Scheme) (h : r = r0.map (Barcode.recolor s)) :
    SameButScheme r r0 s := by
  subst h
  cases r0 with
  | error e => simp [SameButScheme, Except.map]
  | ok b => simp [SameButScheme, Except.map, Barcode.recolor]

theorem mk1D_recolor (k : String) (c : Bytes) (bits : List Bool) (cs : Option Int) (s s0 : Scheme) :
    mk1D k c bits cs s = (mk1D k c bits cs s0).recolor s := rfl

/-! ### 1-D families -/

/-- what `mk1D` fixes -/
structure Is1D (b : Barcode) (kind : String) (s : Scheme) : Prop where
  kind : b.kind = kind
  dims : b.dims = 1
  h : b.h = 1
  scheme : b.scheme = s

theorem is1D_mk1D (k : String) (c : Bytes) (bits : List Bool) (cs : Option Int) (s : Scheme) :
    Is1D (mk1D k c bits cs s) k s := ⟨rfl, rfl, rfl, rfl⟩

theorem Is1D.and {b : Barcode} {k : String} {s : Scheme} (h : Is1D b k s) :
    b.kind = k ∧ b.dims = 1 ∧ b.h = 1 ∧ b.scheme = s := ⟨h.kind, h.dims, h.h, h.scheme⟩

/-- The result of a 1-D encoder as a function of the colour scheme: the same error for every scheme, or `mk1D` of
    the same kind, content, modules and checksum for every scheme; `P` says what is known of kind and content.
    Every `EncodeWithColor` of the linear symbologies has this form because the scheme is only handed on to
    `mk1D`. -/
def Uniform1D (f : Scheme → Res Barcode) (P : String → Bytes → Prop) : Prop :=
  (∃ e, ∀ s, f s = .error e) ∨ ∃ k c bits cs, P k c ∧ ∀ s, f s = .ok (mk1D k c bits cs s)

theorem Uniform1D.map {f P} (h : Uniform1D f P) (s : Scheme) : f s = (f scheme16).map (Barcode.recolor s) := by
  rcases h with ⟨e, he⟩ | ⟨k, c, bits, cs, _, hf⟩
  · rw [he, he]; rfl
  · rw [hf, hf]; rfl

theorem Uniform1D.sameButScheme {f P} (h : Uniform1D f P) (s : Scheme) : SameButScheme (f s) (f scheme16) s :=
  sameButScheme_of_map _ _ _ (h.map s)

theorem Uniform1D.ok {f P} (h : Uniform1D f P) {s : Scheme} {b : Barcode} (hb : f s = .ok b) :
    ∃ k, P k b.content ∧ Is1D b k s := by
  rcases h with ⟨e, he⟩ | ⟨k, c, bits, cs, hP, hf⟩
  · rw [he] at hb; cases hb
  · rw [hf] at hb; cases hb
    exact ⟨k, hP, is1D_mk1D ..⟩

theorem ean_uniform (code : Bytes) :
    Uniform1D (Ean.encodeWithColor code)
      (fun k c => (c.length = 8 ∧ k = "EAN 8") ∨ (c.length = 13 ∧ k = "EAN 13")) := by
  unfold Uniform1D Ean.encodeWithColor
  simp only []
  split
  · exact .inl ⟨_, fun _ => rfl⟩
  · rename_i c cs _
    split
    · rename_i h8
      split
      · exact .inr ⟨_, _, _, _, .inl ⟨by simpa using h8, kind_ean8⟩, fun _ => rfl⟩
      · exact .inl ⟨_, fun _ => rfl⟩
    · split
      · rename_i h13
        split
        · exact .inr ⟨_, _, _, _, .inr ⟨by simpa using h13, kind_ean13⟩, fun _ => rfl⟩
        · exact .inl ⟨_, fun _ => rfl⟩
      · exact .inl ⟨_, fun _ => rfl⟩

/-- the text Code 39 and Code 93 encode (the first step of both `EncodeWithColor`): the input itself unless
    full-ASCII mode spells it out -/
theorem basic_content {c c' : Bytes} {prep : Option Bytes} {full : Bool} (hf : full = false)
    (h : (if full = true then prep else if containsRune c 42 = true then none else some c) = some c') : c' = c := by
  subst hf
  simp only [Bool.false_eq_true, if_false] at h
  split at h
  · cases h
  · cases h; rfl

theorem code39_uniform (c : Bytes) (cs full : Bool) :
    Uniform1D (Code39.encodeWithColor c cs full) (fun k c' => k = "Code 39" ∧ (full = false → c' = c)) := by
  unfold Uniform1D Code39.encodeWithColor
  simp only []
  split
  · exact .inl ⟨_, fun _ => rfl⟩
  · rename_i c' hc
    split
    · exact .inl ⟨_, fun _ => rfl⟩
    · exact .inr ⟨_, _, _, _, ⟨kind_code39, fun hf => basic_content hf hc⟩, fun _ => rfl⟩

theorem code93_uniform (c : Bytes) (cs full : Bool) :
    Uniform1D (Code93.encodeWithColor c cs full) (fun k c' => k = "Code 93" ∧ (full = false → c' = c)) := by
  unfold Uniform1D Code93.encodeWithColor
  simp only []
  split
  · exact .inl ⟨_, fun _ => rfl⟩
  · rename_i c' hc
    split
    · exact .inl ⟨_, fun _ => rfl⟩
    · exact .inr ⟨_, _, _, _, ⟨kind_code93, fun hf => basic_content hf hc⟩, fun _ => rfl⟩

theorem code128_uniform (c : Bytes) :
    Uniform1D (Code128.encodeWithColor c) (fun k c' => k = "Code 128" ∧ c' = c) := by
  unfold Uniform1D Code128.encodeWithColor
  simp only []
  split
  · exact .inl ⟨_, fun _ => rfl⟩
  · split
    · exact .inl ⟨_, fun _ => rfl⟩
    · exact .inr ⟨_, _, _, _, ⟨kind_code128, rfl⟩, fun _ => rfl⟩

theorem code128nc_uniform (c : Bytes) :
    Uniform1D (Code128.encodeWithoutChecksumWithColor c) (fun k c' => k = "Code 128" ∧ c' = c) := by
  unfold Uniform1D Code128.encodeWithoutChecksumWithColor
  simp only []
  split
  · exact .inl ⟨_, fun _ => rfl⟩
  · split
    · exact .inl ⟨_, fun _ => rfl⟩
    · exact .inr ⟨_, _, _, _, ⟨kind_code128, rfl⟩, fun _ => rfl⟩

theorem codabar_uniform (c : Bytes) :
    Uniform1D (Codabar.encodeWithColor c) (fun k c' => k = "Codabar" ∧ c' = c) := by
  unfold Uniform1D Codabar.encodeWithColor
  split
  · exact .inl ⟨_, fun _ => rfl⟩
  · exact .inr ⟨_, _, _, _, ⟨kind_codabar, rfl⟩, fun _ => rfl⟩

theorem twooffive_uniform (c : Bytes) (il : Bool) :
    Uniform1D (Twooffive.encodeWithColor c il)
      (fun k c' => k = (if il then "2 of 5 (interleaved)" else "2 of 5") ∧ c' = c) := by
  unfold Uniform1D Twooffive.encodeWithColor
  simp only []
  split
  · exact .inl ⟨_, fun _ => rfl⟩
  · split
    · exact .inl ⟨_, fun _ => rfl⟩
    · split
      · exact .inl ⟨_, fun _ => rfl⟩
      · refine .inr ⟨_, _, _, _, ⟨?_, rfl⟩, fun _ => rfl⟩
        cases il
        · exact kind_2of5
        · exact kind_2of5il

/-! ### helpers for the concrete examples of `BV.Props.C11` -/

/-- a colour scheme different from `scheme16` -/
def red : Scheme := { model := "RGBAModel", bg := "RGBA:ffff00ff", fg := "RGBA:ff0000ff" }

/-- the result is a barcode with this kind, dimensionality, width, height, scheme and these colours at the
    pixels (0,0) and (1,0) -/
def check (r : Res Barcode) (kind : String) (dims w h : Nat) (s : Scheme) (c00 c10 : String) : Bool :=
  match r with
  | .ok b => b.kind == kind && b.dims == dims && b.w == w && b.h == h && b.scheme == s &&
      b.colourAt 0 0 == c00 && b.colourAt 1 0 == c10
  | .error _ => false

/-- the result is the error return -/
def isRejected (r : Res Barcode) : Bool :=
  match r with
  | .error .rejected => true
  | _ => false

end BV.Proofs.Render
