/-
  Proofs for C18: the BitList model refines an append-only bit sequence.
-/
import BV.Model.BitList
import BV.Spec.BitSeq
import BV.Proofs.Bits
import BV.Proofs.ListLemmas
namespace BV.Proofs.BitList
open BV BV.Model.BitList

/-! ### word level -/

theorem getWordBit_eq (w : BitVec 32) (s : Nat) (hs : s < 32) :
    (((w.sshiftRight s) &&& 1#32) == 1#32) = w.getLsbD s := by
  have h : (w.sshiftRight s) &&& 1#32 = if w.getLsbD s then 1#32 else 0#32 := by
    apply BitVec.eq_of_getLsbD_eq
    intro i hi
    rw [BitVec.getLsbD_and, BitVec.getLsbD_sshiftRight, BitVec.getLsbD_one]
    by_cases h0 : i = 0
    · subst h0
      cases w.getLsbD s <;> simp [hs]
    · cases w.getLsbD s <;> simp [h0]
  rw [h]
  cases w.getLsbD s <;> rfl

theorem getLsbD_one_shiftLeft (s k : Nat) (hk : k < 32) : (1#32 <<< s).getLsbD k = decide (k = s) := by
  rw [BitVec.getLsbD_shiftLeft, BitVec.getLsbD_one, Bool.eq_iff_iff]
  simp only [Bool.and_eq_true, Bool.not_eq_true', decide_eq_true_eq, decide_eq_false_iff_not]
  omega

/-- the word update of `SetBit` -/
theorem getLsbD_setWordBit (w : BitVec 32) (s k : Nat) (v : Bool) (hk : k < 32) :
    (if v then w ||| (1#32 <<< s) else w &&& ~~~(1#32 <<< s)).getLsbD k = if k = s then v else w.getLsbD k := by
  cases v
  · rw [if_neg (by decide), BitVec.getLsbD_and, BitVec.getLsbD_not, getLsbD_one_shiftLeft s k hk]
    by_cases h : k = s <;> simp [h, hk]
  · rw [if_pos rfl, BitVec.getLsbD_or, getLsbD_one_shiftLeft s k hk]
    by_cases h : k = s <;> simp [h]

/-! ### bits of a list -/

/-- bit `i` of the word array, in Go's layout: word `i/32`, bit `31 - i%32` -/
def bit (b : BL) (i : Nat) : Bool := (b.data.getD (i / 32) 0#32).getLsbD (31 - i % 32)

theorem getBit_eq (b : BL) (i : Nat) : b.getBit i = bit b i :=
  getWordBit_eq _ _ (by omega)

theorem abs_eq (b : BL) : b.abs = (List.range b.count).map (bit b) :=
  List.map_congr_left (fun i _ => getBit_eq b i)

theorem length_abs (b : BL) : b.abs.length = b.count := by
  rw [abs_eq, List.length_map, List.length_range]

/-- the representation invariant: the words cover `count` bits and every bit at or beyond `count` is zero -/
def Inv (b : BL) : Prop := b.count ≤ 32 * b.data.size ∧ ∀ i, b.count ≤ i → bit b i = false

theorem bit_setBit (b : BL) (i j : Nat) (v : Bool) (hi : i / 32 < b.data.size) :
    bit (b.setBit i v) j = if j = i then v else bit b j := by
  unfold bit BL.setBit
  simp only
  rw [getD_setIfInBounds]
  by_cases hw : i / 32 = j / 32
  · rw [if_pos ⟨hw, hi⟩, getLsbD_setWordBit _ _ _ _ (by omega), ← hw]
    have e : (31 - j % 32 = 31 - i % 32) ↔ j = i := by omega
    simp only [e]
  · rw [if_neg (fun c => hw c.1), if_neg (fun c => hw (by rw [c]))]

theorem getD_append_replicate (a : Array (BitVec 32)) (n j : Nat) :
    (a ++ Array.replicate n 0#32).getD j 0#32 = a.getD j 0#32 := by
  simp only [Array.getD_eq_getD_getElem?, Array.getElem?_append, Array.getElem?_replicate]
  by_cases h : j < a.size
  · simp [h]
  · simp only [h, if_false]
    rw [Array.getElem?_eq_none (by omega)]
    split <;> simp

theorem bit_grow (b : BL) (j : Nat) : bit b.grow j = bit b j := by
  unfold bit BL.grow
  simp only [getD_append_replicate]

theorem count_grow (b : BL) : b.grow.count = b.count := rfl

theorem size_grow (b : BL) : b.grow.data.size ≥ b.data.size + 128 := by
  unfold BL.grow
  simp only [Array.size_append, Array.size_replicate]
  split
  · omega
  · split <;> omega

theorem ensure_spec (b : BL) (h : b.count ≤ 32 * b.data.size) :
    b.ensure.count = b.count ∧ (∀ j, bit b.ensure j = bit b j) ∧ b.count / 32 < b.ensure.data.size := by
  unfold BL.ensure
  by_cases h1 : b.count / 32 ≥ b.data.size
  · have hs := size_grow b
    have : ¬ (b.grow.count / 32 ≥ b.grow.data.size) := by
      rw [count_grow]; omega
    simp only [h1, if_true, this, if_false]
    exact ⟨count_grow b, bit_grow b, by omega⟩
  · simp only [h1, if_false]
    refine ⟨trivial, fun _ => trivial, by omega⟩

theorem count_setBit (b : BL) (i : Nat) (v : Bool) : (b.setBit i v).count = b.count := rfl
theorem size_setBit (b : BL) (i : Nat) (v : Bool) : (b.setBit i v).data.size = b.data.size :=
  Array.size_setIfInBounds

-- from here on `ensure` is used through `ensure_spec` only; irreducible, so that the definitional unfoldings of
-- `addBit` below stop at `b.ensure` and do not evaluate its nested `if`s
attribute [local irreducible] BL.ensure

theorem count_addBit (b : BL) (v : Bool) : (b.addBit v).count = b.ensure.count + 1 := rfl

theorem size_addBit (b : BL) (v : Bool) : (b.addBit v).data.size = b.ensure.data.size :=
  size_setBit b.ensure _ v

theorem bit_addBit (b : BL) (v : Bool) (j : Nat) :
    bit (b.addBit v) j = bit (b.ensure.setBit b.ensure.count v) j := by
  unfold bit; rfl

theorem addBit_bits (b : BL) (v : Bool) (h : Inv b) :
    (b.addBit v).count = b.count + 1 ∧ Inv (b.addBit v) ∧
    (∀ j, bit (b.addBit v) j = if j = b.count then v else bit b j) := by
  obtain ⟨hc, hb, hs⟩ := ensure_spec b h.1
  have hbit : ∀ j, bit (b.addBit v) j = if j = b.count then v else bit b j := by
    intro j
    rw [bit_addBit, bit_setBit _ _ _ _ (by rw [hc]; exact hs), hc, hb]
  have hcount : (b.addBit v).count = b.count + 1 := by rw [count_addBit, hc]
  refine ⟨hcount, ⟨?_, fun i hi => ?_⟩, hbit⟩
  · rw [hcount, size_addBit]
    omega
  · rw [hcount] at hi
    rw [hbit, if_neg (by omega)]
    exact h.2 i (by omega)

theorem addBit_spec (b : BL) (v : Bool) (h : Inv b) : Inv (b.addBit v) ∧ (b.addBit v).abs = b.abs ++ [v] := by
  obtain ⟨hc, hi, hb⟩ := addBit_bits b v h
  refine ⟨hi, ?_⟩
  rw [abs_eq, abs_eq, hc, List.range_succ, List.map_append, List.map_singleton, hb, if_pos rfl]
  refine congrArg (· ++ [v]) (List.map_congr_left fun i hi => ?_)
  rw [hb, if_neg (Nat.ne_of_lt (List.mem_range.mp hi))]

theorem foldl_addBit_spec {α} (f : α → Bool) (l : List α) : ∀ (b : BL), Inv b →
    Inv (l.foldl (fun acc i => acc.addBit (f i)) b) ∧
    (l.foldl (fun acc i => acc.addBit (f i)) b).abs = b.abs ++ l.map f := by
  induction l with
  | nil => intro b h; exact ⟨h, (List.append_nil _).symm⟩
  | cons x rest ih =>
    intro b h
    obtain ⟨h1, h2⟩ := addBit_spec b (f x) h
    have := ih (b.addBit (f x)) h1
    rwa [h2, List.append_assoc] at this

theorem addBitsList_spec (b : BL) (bits : List Bool) (h : Inv b) :
    Inv (b.addBitsList bits) ∧ (b.addBitsList bits).abs = b.abs ++ bits := by
  have := foldl_addBit_spec id bits b h
  rwa [List.map_id] at this

theorem getD_replicate_zero (k j : Nat) : (Array.replicate k 0#32).getD j 0#32 = 0#32 := by
  rw [Array.getD_eq_getD_getElem?, Array.getElem?_replicate]
  split <;> rfl

theorem bit_new (n i : Nat) : bit (new n) i = false := by
  unfold bit new
  simp only [getD_replicate_zero]
  exact BitVec.getLsbD_zero

theorem inv_new (n : Nat) : Inv (new n) := by
  refine ⟨?_, fun i _ => bit_new n i⟩
  show n ≤ 32 * (Array.replicate _ 0#32).size
  rw [Array.size_replicate]
  by_cases h : n % 32 = 0
  · rw [if_neg (by simp [h])]; omega
  · rw [if_pos (by simp [h])]; omega

theorem abs_new (n : Nat) : (new n).abs = List.replicate n false := by
  rw [abs_eq, List.map_congr_left (fun i _ => bit_new n i), List.map_const', List.length_range]
  rfl

theorem inv_empty : Inv empty := inv_new 0

theorem abs_empty : empty.abs = [] := abs_new 0

theorem setBit_spec (b : BL) (i : Nat) (v : Bool) (h : Inv b) (hi : i < b.count) :
    Inv (b.setBit i v) ∧ (b.setBit i v).abs = b.abs.set i v := by
  have hr : i / 32 < b.data.size := by have := h.1; omega
  constructor
  · constructor
    · rw [count_setBit, size_setBit]; exact h.1
    · intro j hj
      rw [count_setBit] at hj
      rw [bit_setBit _ _ _ _ hr, if_neg (by omega)]
      exact h.2 j hj
  · rw [abs_eq, abs_eq, count_setBit]
    apply List.ext_getElem
    · simp
    · intro k h1 h2
      simp only [List.getElem_map, List.getElem_range, List.getElem_set]
      rw [bit_setBit _ _ _ _ hr]
      by_cases hk : i = k
      · simp [hk]
      · have : k ≠ i := fun e => hk e.symm
        simp [hk, this]

/-- bit `k` of the abstraction, also beyond the end (zero there by the invariant) -/
theorem abs_getD (b : BL) (h : Inv b) (k : Nat) : b.abs.getD k false = bit b k := by
  rw [abs_eq]
  by_cases hk : k < b.count
  · simp [List.getD, hk]
  · simp [List.getD, hk]
    exact (h.2 k (by omega))

theorem getBit_abs (b : BL) (h : Inv b) (i : Nat) : b.getBit i = b.abs.getD i false := by
  rw [abs_getD b h, getBit_eq]

/-! ### byte views -/

theorem byte_testBit (w : BitVec 32) (s k : Nat) (hs : s + 8 ≤ 32) (hk : k < 8) :
    (((w.sshiftRight s) &&& 0xFF#32).toNat).testBit k = w.getLsbD (s + k) := by
  rw [BitVec.toNat_and, Nat.testBit_and, BitVec.testBit_toNat, BitVec.getLsbD_sshiftRight,
    show (0xFF#32).toNat = 2 ^ 8 - 1 from rfl, Nat.testBit_two_pow_sub_one, decide_eq_true hk, Bool.and_true,
    decide_eq_false (show ¬ 32 ≤ k by omega), if_pos (show s + k < 32 by omega)]
  rfl

theorem byte_lt (w : BitVec 32) (s : Nat) : ((w.sshiftRight s) &&& 0xFF#32).toNat < 2 ^ 8 := by
  rw [BitVec.toNat_and, show (0xFF#32).toNat = 2 ^ 8 - 1 from rfl, Nat.and_two_pow_sub_one_eq_mod]
  exact Nat.mod_lt _ (by decide)

theorem byte_val (w : BitVec 32) (s : Nat) (hs : s + 8 ≤ 32) :
    ((w.sshiftRight s) &&& 0xFF#32).toNat =
      (List.range 8).foldl (fun acc j => 2 * acc + (if w.getLsbD (s + 7 - j) then 1 else 0)) 0 := by
  conv => lhs; rw [← Bits.foldl_testBit _ 8 (byte_lt w s)]
  apply foldl_congr_mem
  intro acc j hj
  have hj := List.mem_range.mp hj
  rw [byte_testBit w s (8 - 1 - j) hs (by omega), show s + (8 - 1 - j) = s + 7 - j by omega]

/-- byte `i` as `GetBytes` and `IterateBytes` read it -/
def byteAt (b : BL) (i : Nat) : Nat :=
  (((b.data.getD (i / 4) 0#32).sshiftRight ((3 - i % 4) * 8)) &&& 0xFF#32).toNat

theorem byteCount_eq (c : Nat) : c / 8 + (if c % 8 != 0 then 1 else 0) = (c + 7) / 8 := by
  by_cases h : c % 8 = 0
  · rw [if_neg (by simp [h])]; omega
  · rw [if_pos (by simp [h])]; omega

theorem getBytes_eq (b : BL) : b.getBytes = (List.range ((b.count + 7) / 8)).map (byteAt b) := by
  unfold BL.getBytes
  rw [byteCount_eq]
  rfl

theorem getBytes_eq_pack (b : BL) (h : Inv b) : b.getBytes = Spec.BitSeq.pack b.abs := by
  rw [getBytes_eq, Spec.BitSeq.pack, length_abs]
  apply List.map_congr_left
  intro i _
  rw [byteAt, byte_val _ _ (by omega)]
  apply foldl_congr_mem
  intro acc j hj
  have hj8 : j < 8 := List.mem_range.mp hj
  rw [abs_getD b h, bit, show (8 * i + j) / 32 = i / 4 by omega,
    show 31 - (8 * i + j) % 32 = (3 - i % 4) * 8 + 7 - j by omega]

/-- byte `r` of word `w`, read with shift `s` -/
theorem byteAt_quad (b : BL) (w r s : Nat) (hs : s + 8 * r = 24) :
    byteAt b (4 * w + r) = (((b.data.getD w 0#32).sshiftRight s) &&& 0xFF#32).toNat := by
  have hr : r < 4 := by omega
  rw [byteAt, Nat.mul_add_div (by decide), Nat.mul_add_mod, Nat.div_eq_of_lt hr, Nat.mod_eq_of_lt hr, Nat.add_zero,
    show (3 - r) * 8 = s by omega]

/-- the loop of `IterateBytes`, entered with `c` bits to go at byte `k`, which is byte `r` of word `w` (shift `s`),
    yields the remaining ones of the `N` bytes -/
theorem iterate_go (b : BL) (N : Nat) (hN : b.count ≤ 8 * N ∧ 8 * N < b.count + 8) :
    ∀ (fuel k w r s : Nat) (c : Int), k = 4 * w + r → s + 8 * r = 24 → c = (b.count : Int) - 8 * k → N - k ≤ fuel →
    BL.iterateBytes.go b fuel c s w = (List.range (N - k)).map (fun i => byteAt b (k + i))
  | 0, k, _, _, _, _, _, _, _, hf => by
    rw [Nat.le_zero.mp hf]; rfl
  | fuel + 1, k, w, r, s, c, hk, hs, hc, hf => by
    rw [BL.iterateBytes.go]
    by_cases hpos : c > 0
    · have htail : ∀ w' r' s', k + 1 = 4 * w' + r' → s' + 8 * r' = 24 →
          BL.iterateBytes.go b fuel (c - 8) s' w' =
            (List.range (N - (k + 1))).map ((fun i => byteAt b (k + i)) ∘ Nat.succ) := by
        intro w' r' s' h1 h2
        rw [iterate_go b N hN fuel (k + 1) w' r' s' (c - 8) h1 h2 (by omega) (by omega)]
        refine List.map_congr_left fun i _ => ?_
        show byteAt b (k + 1 + i) = byteAt b (k + (i + 1))
        rw [Nat.add_right_comm, Nat.add_assoc]
      rw [if_pos hpos, show N - k = (N - (k + 1)) + 1 by omega, List.range_succ_eq_map, List.map_cons, List.map_map,
        ← byteAt_quad b w r s hs, ← hk]
      clear hc hf hN hpos
      by_cases h8 : s < 8
      · rw [if_pos h8, htail (w + 1) 0 24 (by omega) rfl]; rfl
      · rw [if_neg h8, htail w (r + 1) (s - 8) (by omega) (by omega)]; rfl
    · rw [if_neg hpos, show N - k = 0 by omega]; rfl

theorem iterateBytes_eq_getBytes (b : BL) : b.iterateBytes = b.getBytes := by
  have := iterate_go b ((b.count + 7) / 8) (by omega) (b.count / 8 + 1) 0 0 0 24 b.count rfl rfl (by omega) (by omega)
  simp only [Nat.zero_add, Nat.sub_zero] at this
  rw [getBytes_eq]
  exact this

/-! ### AddByte / AddBits append the low bits, most significant first -/

theorem addBits_spec (b : BL) (x : Int) (k : Nat) (h : Inv b) :
    Inv (b.addBits x k) ∧ (b.addBits x k).abs = b.abs ++ Spec.BitSeq.lowBits x k := by
  have := foldl_addBit_spec (fun i => (x >>> (k - 1 - i)) % 2 == 1) (List.range k) b h
  refine ⟨this.1, this.2.trans (congrArg (b.abs ++ ·) (List.map_congr_left fun i _ => ?_))⟩
  rw [Int.shiftRight_eq_div_pow]
  norm_cast

theorem addByte_eq_addBits (b : BL) (x : Nat) : b.addByte x = b.addBits (x : Int) 8 := by
  apply foldl_congr_mem
  intro acc i _
  refine congrArg acc.addBit ?_
  show (x >>> (7 - i) % 2 == 1) = ((x : Int) >>> (7 - i) % 2 == 1)
  rw [Nat.shiftRight_eq_div_pow, Int.shiftRight_eq_div_pow, Bool.eq_iff_iff, beq_iff_eq, beq_iff_eq]
  norm_cast

theorem addByte_spec (b : BL) (x : Nat) (h : Inv b) :
    Inv (b.addByte x) ∧ (b.addByte x).abs = b.abs ++ Spec.BitSeq.lowBits (x : Int) 8 := by
  rw [addByte_eq_addBits]
  exact addBits_spec b x 8 h

end BV.Proofs.BitList
