/-
  BV.Proofs.Kind — certificates: the generated type constants of package `barcode` are the expected strings.  They belong
  to the metadata statements of `BV.Proofs.Render` and carry its namespace; they stand apart because the proofs about
  each encoder need its own string and nothing else of `Render`.
-/
import BV.Model.Util
namespace BV.Proofs.Render
open BV BV.Model

theorem kind_ean8 : kindStr Gen.Root.c_TypeEAN8 = "EAN 8" := by decide
theorem kind_ean13 : kindStr Gen.Root.c_TypeEAN13 = "EAN 13" := by decide
theorem kind_code128 : kindStr Gen.Root.c_TypeCode128 = "Code 128" := by decide
theorem kind_code39 : kindStr Gen.Root.c_TypeCode39 = "Code 39" := by decide
theorem kind_code93 : kindStr Gen.Root.c_TypeCode93 = "Code 93" := by decide
theorem kind_codabar : kindStr Gen.Root.c_TypeCodabar = "Codabar" := by decide
theorem kind_2of5 : kindStr Gen.Root.c_Type2of5 = "2 of 5" := by decide
theorem kind_2of5il : kindStr Gen.Root.c_Type2of5Interleaved = "2 of 5 (interleaved)" := by decide
theorem kind_qr : kindStr Gen.Root.c_TypeQR = "QR Code" := by decide
theorem kind_dm : kindStr Gen.Root.c_TypeDataMatrix = "DataMatrix" := by decide
theorem kind_aztec : kindStr Gen.Root.c_TypeAztec = "Aztec" := by decide
theorem kind_pdf : kindStr Gen.Root.c_TypePDF = "PDF417" := by decide

end BV.Proofs.Render
