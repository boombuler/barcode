/-
  PDF417 Byte compaction: the model's `encodeBinary` (mirror of the Go `encodeBinary`) is inverted by the
  Spec's `flushByte` (ISO/IEC 15438 Byte compaction, 901 / 924), for byte strings of every length.  Six bytes
  and five base-900 digits determine each other because 256^6 < 900^5, and the Spec's count of five-codeword
  groups (`len / 5`, one less when a 901 segment has a multiple of five codewords) is the model's `count / 6`.
-/
import BV.Model.Pdf417
import BV.Spec.Pdf417
namespace BV.Proofs.PdfByte
open BV BV.Model.Pdf417 BV.Spec.Pdf417 BV.Gen.Pdf417

/-- value of a six-byte group, first byte most significant (the `t` of the Go loop) -/
def val6 (b0 b1 b2 b3 b4 b5 : UInt8) : Nat :=
  ((((b0.toNat * 256 + b1.toNat) * 256 + b2.toNat) * 256 + b3.toNat) * 256 + b4.toNat) * 256 + b5.toNat

/-- the five base-900 digits of `t`, most significant first, as the Go code computes them -/
def words5 (t : Nat) : List Nat :=
  [t / 900 / 900 / 900 / 900 % 900, t / 900 / 900 / 900 % 900, t / 900 / 900 % 900, t / 900 % 900, t % 900]

theorem val6_lt (b0 b1 b2 b3 b4 b5 : UInt8) : val6 b0 b1 b2 b3 b4 b5 < 256 ^ 6 := by
  have h0 := b0.toNat_lt; have h1 := b1.toNat_lt; have h2 := b2.toNat_lt
  have h3 := b3.toNat_lt; have h4 := b4.toNat_lt; have h5 := b5.toNat_lt
  unfold val6; omega

theorem words5_lt (t : Nat) : ∀ c ∈ words5 t, c < 900 := by
  intro c hc
  simp only [words5, List.mem_cons, List.not_mem_nil, or_false] at hc
  omega

theorem words5_fold (t : Nat) (h : t < 900 ^ 5) : (words5 t).foldl (fun a c => 900 * a + c) 0 = t := by
  simp only [words5, List.foldl_cons, List.foldl_nil]
  omega

theorem val6_bytes (b0 b1 b2 b3 b4 b5 : UInt8) :
    (List.range 6).map (fun i => UInt8.ofNat (val6 b0 b1 b2 b3 b4 b5 / 256 ^ (5 - i) % 256)) =
      [b0, b1, b2, b3, b4, b5] := by
  have hdiv : ∀ (t : Nat) (b : UInt8), (t * 256 + b.toNat) / 256 = t := fun t b => by have := b.toNat_lt; omega
  have hmod : ∀ (t : Nat) (b : UInt8), (t * 256 + b.toNat) % 256 = b.toNat := fun t b => by have := b.toNat_lt; omega
  have h0 : b0.toNat % 256 = b0.toNat := Nat.mod_eq_of_lt b0.toNat_lt
  -- `256 ^ k` becomes `k` divisions by 256, each of which strips one byte off `val6`
  simp only [List.range, List.range.loop, List.map_cons, List.map_nil, Nat.reduceSub, val6, Nat.pow_succ,
    Nat.pow_zero, Nat.one_mul, ← Nat.div_div_eq_div_mul, Nat.div_one, hdiv, hmod, h0, UInt8.ofNat_toNat]

/-- the Spec's base-900 → base-256 conversion inverts the model's base-256 → base-900 conversion
    (256^6 < 900^5) -/
theorem sixBytes_words5 (b0 b1 b2 b3 b4 b5 : UInt8) :
    sixBytes (words5 (val6 b0 b1 b2 b3 b4 b5)) = .ok [b0, b1, b2, b3, b4, b5] := by
  have hlt := val6_lt b0 b1 b2 b3 b4 b5
  unfold sixBytes
  simp only [words5_fold _ (Nat.lt_trans hlt (by decide))]
  rw [if_neg (Nat.not_le.mpr hlt)]
  exact congrArg Except.ok (val6_bytes b0 b1 b2 b3 b4 b5)

/-- value of the first six bytes exactly as the model folds them -/
def valOf (d : Bytes) : Nat := (d.take 6).foldl (fun t b => t * 256 + b.toNat) 0

/-- `n` six-byte groups of `d`, five codewords each: the list form of the `sixpacks` loop -/
def groups : Nat → Bytes → List Nat
  | 0, _ => []
  | n + 1, d => words5 (valOf d) ++ groups n (d.drop 6)

theorem groups_length (n : Nat) (d : Bytes) : (groups n d).length = 5 * n := by
  induction n generalizing d with
  | zero => rfl
  | succ n ih => simp only [groups, List.length_append, ih, words5, List.length_cons, List.length_nil]; omega

theorem groups_lt (n : Nat) (d : Bytes) : ∀ c ∈ groups n d, c < 900 := by
  induction n generalizing d with
  | zero => intro c hc; simp [groups] at hc
  | succ n ih =>
    intro c hc
    simp only [groups, List.mem_append] at hc
    rcases hc with hc | hc
    · exact words5_lt _ c hc
    · exact ih _ c hc

/-- the `sixpacks` loop with enough fuel: all complete groups are converted, the remainder is returned -/
theorem sixpacks_eq (fuel : Nat) (data : Bytes) (acc : List Nat) (h : data.length / 6 ≤ fuel) :
    sixpacks fuel data acc = (acc ++ groups (data.length / 6) data, data.drop (6 * (data.length / 6))) := by
  induction fuel generalizing data acc with
  | zero =>
    have : data.length / 6 = 0 := by omega
    simp [sixpacks, this, groups]
  | succ fuel ih =>
    unfold sixpacks
    by_cases h6 : data.length ≥ 6
    · rw [if_pos h6]
      have hl : (data.drop 6).length = data.length - 6 := List.length_drop
      have hq : data.length / 6 = (data.length - 6) / 6 + 1 := by omega
      rw [ih (data.drop 6) _ (by rw [hl]; omega), hl, hq]
      simp only [groups, valOf, words5, List.append_assoc, List.drop_drop]
      congr 2
      omega
    · rw [if_neg h6]
      have : data.length / 6 = 0 := by omega
      simp [this, groups]

/-- the latch / shift codeword `encodeBinary` starts with -/
def header (count startmode : Nat) : Nat :=
  if count == 1 && startmode == c_encText then c_shift_to_byte
  else if count % 6 == 0 then c_latch_to_byte else c_latch_to_byte_padded

/-- the body (everything after the latch) of a Byte segment -/
def body (data : Bytes) : List Nat :=
  groups (data.length / 6) data ++ (data.drop (6 * (data.length / 6))).map (fun b => b.toNat % 256)

theorem encodeBinary_eq (data : Bytes) (startmode : Nat) :
    encodeBinary data startmode = header data.length startmode :: body data := by
  unfold encodeBinary header body
  by_cases h6 : data.length ≥ 6
  · simp only [h6, if_true]
    rw [sixpacks_eq _ _ _ (by omega)]
    split
    · rfl
    · split <;> rfl
  · have h0 : data.length / 6 = 0 := by omega
    simp only [h6, if_false, h0, groups, Nat.mul_zero, List.drop_zero, List.nil_append]
    split
    · rfl
    · split <;> rfl

theorem six_cons (d : Bytes) (h : 6 ≤ d.length) :
    ∃ b0 b1 b2 b3 b4 b5 d', d = b0 :: b1 :: b2 :: b3 :: b4 :: b5 :: d' := by
  match d, h with
  | b0 :: b1 :: b2 :: b3 :: b4 :: b5 :: d', _ => exact ⟨b0, b1, b2, b3, b4, b5, d', rfl⟩

theorem valOf_cons (b0 b1 b2 b3 b4 b5 : UInt8) (d' : Bytes) :
    valOf (b0 :: b1 :: b2 :: b3 :: b4 :: b5 :: d') = val6 b0 b1 b2 b3 b4 b5 := by
  simp [valOf, val6]

theorem byteGroups_groups (k : Nat) (data : Bytes) (tail : List Nat) (hk : 6 * k ≤ data.length)
    (ht : ∀ c ∈ tail, c < 256) :
    byteGroups k (groups k data ++ tail) = .ok (data.take (6 * k) ++ tail.map UInt8.ofNat) := by
  induction k generalizing data with
  | zero =>
    have hall : (tail.all fun x => decide (x < 256)) = true := by simpa using ht
    show byteGroups 0 tail = _
    simp only [byteGroups, hall, if_true, Nat.mul_zero, List.take_zero, List.nil_append]
    rfl
  | succ k ih =>
    obtain ⟨b0, b1, b2, b3, b4, b5, d', rfl⟩ := six_cons data (by omega)
    have hl : 6 * k ≤ d'.length := by simp only [List.length_cons] at hk; omega
    simp only [groups, valOf_cons, byteGroups]
    have e1 : (words5 (val6 b0 b1 b2 b3 b4 b5) ++ groups k (List.drop 6 (b0 :: b1 :: b2 :: b3 :: b4 :: b5 :: d')) ++ tail).take 5
        = words5 (val6 b0 b1 b2 b3 b4 b5) := by simp [words5]
    have e2 : (words5 (val6 b0 b1 b2 b3 b4 b5) ++ groups k (List.drop 6 (b0 :: b1 :: b2 :: b3 :: b4 :: b5 :: d')) ++ tail).drop 5
        = groups k d' ++ tail := by simp [words5]
    rw [e1, e2, sixBytes_words5, ih d' hl]
    have : 6 * (k + 1) = 6 * k + 6 := by omega
    rw [this]
    rfl

/-- one byte in Text mode: shift 913 followed by the byte value -/
theorem encodeBinary_shift (b : UInt8) : encodeBinary [b] c_encText = [913, b.toNat] := by
  have := b.toNat_lt
  rw [encodeBinary_eq, body]
  have e : b.toNat % 256 = b.toNat := by omega
  have hh : header [b].length c_encText = 913 := rfl
  have hq : [b].length / 6 = 0 := by simp
  rw [hh, hq]
  simp only [groups, Nat.mul_zero, List.drop_zero, List.nil_append, List.map_cons, List.map_nil, e]

theorem body_lt (data : Bytes) : ∀ c ∈ body data, c < 900 := by
  intro c hc
  simp only [body, List.mem_append, List.mem_map] at hc
  rcases hc with hc | ⟨b, _, rfl⟩
  · exact groups_lt _ _ c hc
  · omega

theorem body_length (data : Bytes) : (body data).length = 5 * (data.length / 6) + data.length % 6 := by
  simp only [body, List.length_append, groups_length, List.length_map, List.length_drop]
  omega

/-- the Spec byte decoder inverts the model's body, for 924 (exact) and 901 alike -/
theorem flushByte_body (data : Bytes) : flushByte (data.length % 6 == 0) (body data) = .ok data := by
  have hlen := body_length data
  have key : byteGroups (data.length / 6) (body data) = .ok data := by
    unfold body
    rw [byteGroups_groups _ _ _ (by omega)]
    · congr 1
      rw [List.map_map]
      have : (UInt8.ofNat ∘ fun (b : UInt8) => b.toNat % 256) = id := by
        funext b
        have := b.toNat_lt
        simp only [Function.comp, id]
        rw [Nat.mod_eq_of_lt this]; exact UInt8.ofNat_toNat
      rw [this, List.map_id, List.take_append_drop]
    · intro c hc
      simp only [List.mem_map] at hc
      obtain ⟨b, _, rfl⟩ := hc
      omega
  unfold flushByte
  by_cases h0 : data.length % 6 = 0
  · have hb : (data.length % 6 == 0) = true := by simp [h0]
    simp only [hb, if_true]
    have h5 : ((body data).length % 5 != 0) = false := by rw [hlen, h0]; simp
    have hq : (body data).length / 5 = data.length / 6 := by rw [hlen, h0]; omega
    simp only [h5, hq]
    exact key
  · have hb : (data.length % 6 == 0) = false := by simp [h0]
    simp only [hb]
    have hq : (if ((body data).length % 5 == 0) = true then (body data).length / 5 - 1 else (body data).length / 5)
        = data.length / 6 := by
      rw [hlen]
      split
      · rename_i h; simp only [beq_iff_eq] at h; omega
      · rename_i h; simp only [beq_iff_eq] at h; omega
    simp only [Bool.false_eq_true, if_false, hq]
    exact key

/-- all other cases: a latch (924 iff the byte count is a multiple of six, else 901) followed by codewords
    < 900 which the Spec byte decoder maps back to the bytes -/
theorem encodeBinary_latch (data : Bytes) (startmode : Nat) (h : ¬ (data.length = 1 ∧ startmode = c_encText)) :
    ∃ body, encodeBinary data startmode = (if data.length % 6 = 0 then 924 else 901) :: body ∧
      (∀ c ∈ body, c < 900) ∧ flushByte (data.length % 6 == 0) body = .ok data := by
  refine ⟨body data, ?_, body_lt data, flushByte_body data⟩
  rw [encodeBinary_eq]
  have hh : (data.length == 1 && startmode == c_encText) = false := by
    simp only [Bool.and_eq_false_imp, beq_iff_eq, beq_eq_false_iff_ne, ne_eq]
    intro h1 h2; exact h ⟨h1, h2⟩
  simp only [header, hh, c_latch_to_byte, c_latch_to_byte_padded, beq_iff_eq, Bool.false_eq_true, if_false]

/-- the hypotheses are satisfiable on non-trivial inputs (13 bytes: two groups and one single byte; 6 bytes) -/
example : encodeBinary [1, 2, 3, 4, 5, 6, 7, 8, 9, 10, 11, 12, 255] c_encText
    = [901, 1, 620, 89, 74, 846, 11, 705, 58, 895, 432, 255] := by decide
example : flushByte false [1, 620, 89, 74, 846, 11, 705, 58, 895, 432, 255]
    = .ok [1, 2, 3, 4, 5, 6, 7, 8, 9, 10, 11, 12, 255] := by rfl
example : encodeBinary [255, 255, 255, 255, 255, 255] c_encBinary = [924, 429, 11, 71, 222, 855] := by decide

end BV.Proofs.PdfByte
