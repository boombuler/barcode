/-
  BV.Proofs.AztecStuff — bit stuffing of the Aztec encoder (`Model.Aztec.stuffBits`, part of property C03), for
  every word size `w ≥ 2`: whole `w`-bit words, none all-zero or all-one; removing the stuffing bits gives the
  input back followed by fewer than `w` one-bits; length bounds.  The bit tests `&&& mask` become tests on
  `word / 2`, `stuffBitsAux` becomes the word list `stuffWords`, and one case analysis (`stuffWords_cons`)
  describes a step.
-/
import BV.Proofs.AztecBits
namespace BV.Proofs.AztecStuff
open BV BV.Model.Aztec BV.Proofs.Bits BV.Proofs.AztecBits

/-! ### the bit tests of `stuffBits` as arithmetic -/

/-- masking a `w`-bit value with `1…10` clears the lowest bit -/
theorem and_mask (x w : Nat) (hw : 1 ≤ w) (hx : x < 2 ^ w) :
    x &&& ((1 <<< w) - 2) = 2 * (x / 2) := by
  apply Nat.eq_of_testBit_eq
  intro i
  have h1 : (1 : Nat) < 2 ^ w := Nat.one_lt_two_pow (by omega)
  rw [Nat.testBit_and, Nat.one_shiftLeft, show (2 ^ w - 2) = 2 ^ w - (1 + 1) from rfl,
    Nat.testBit_two_pow_sub_succ h1]
  cases i with
  | zero => simp [Nat.testBit_zero]
  | succ i =>
    rw [Nat.testBit_succ, Nat.testBit_succ, Nat.testBit_succ,
      Nat.mul_div_cancel_left _ (by omega : 0 < 2)]
    by_cases hi : i + 1 < w
    · simp [hi]
    · have : x < 2 ^ (i + 1) := Nat.lt_of_lt_of_le hx (Nat.pow_le_pow_right (by omega) (by omega))
      have := Nat.testBit_lt_two_pow this
      rw [Nat.testBit_succ] at this
      simp [this]

theorem two_pow_pred (w : Nat) (hw : 1 ≤ w) : 2 ^ w = 2 * 2 ^ (w - 1) := by
  obtain ⟨k, rfl⟩ : ∃ k, w = k + 1 := ⟨w - 1, by omega⟩
  rw [Nat.pow_succ, Nat.add_sub_cancel, Nat.mul_comm]

/-! ### the list-level form of `stuffBits` -/

/-- the next (up to) `w` bits, padded with ones to `w` bits -/
def padded (w : Nat) (bits : List Bool) : List Bool :=
  bits.take w ++ List.replicate (w - (bits.take w).length) true

theorem length_padded (w : Nat) (bits : List Bool) : (padded w bits).length = w := by
  simp [padded]; omega

/-- the words that `stuffBits` emits, as numbers: a word whose upper `w-1` bits are all one / all zero is
    replaced by `1…10` / `0…01` and consumes only `w-1` bits -/
def stuffWords (w : Nat) : Nat → List Bool → List Nat
  | 0, _ => []
  | _, [] => []
  | fuel + 1, b :: rest =>
    let x := bitsToNat (padded w (b :: rest))
    if x / 2 = 2 ^ (w - 1) - 1 then (2 ^ w - 2) :: stuffWords w fuel ((b :: rest).drop (w - 1))
    else if x / 2 = 0 then 1 :: stuffWords w fuel ((b :: rest).drop (w - 1))
    else x :: stuffWords w fuel ((b :: rest).drop w)

theorem stuffBitsAux_eq (w : Nat) (hw : 1 ≤ w) (fuel : Nat) (bits : List Bool) :
    stuffBitsAux w fuel bits = (stuffWords w fuel bits).flatMap (fun x => msbBits x w) := by
  induction fuel generalizing bits with
  | zero => simp [stuffBitsAux, stuffWords]
  | succ fuel ih =>
    cases bits with
    | nil => simp [stuffBitsAux, stuffWords]
    | cons b rest =>
      have hlt : bitsToNat (padded w (b :: rest)) < 2 ^ w := by
        have := bitsToNat_lt (padded w (b :: rest)); rwa [length_padded] at this
      have hm := and_mask _ w hw hlt
      have hp := two_pow_pred w hw
      simp only [stuffBitsAux, stuffWords]
      rw [show (List.take w (b :: rest) ++ List.replicate (w - (List.take w (b :: rest)).length) true)
        = padded w (b :: rest) from rfl, hm, Nat.one_shiftLeft]
      generalize bitsToNat (padded w (b :: rest)) = x at *
      have e1 : (2 * (x / 2) == 2 ^ w - 2) = decide (x / 2 = 2 ^ (w - 1) - 1) := by
        rw [Bool.eq_iff_iff, beq_iff_eq, decide_eq_true_eq]; omega
      have e2 : (2 * (x / 2) == 0) = decide (x / 2 = 0) := by
        rw [Bool.eq_iff_iff, beq_iff_eq, decide_eq_true_eq]; omega
      simp only [e1, e2, decide_eq_true_eq]
      split
      · rw [List.flatMap_cons, ih, addBits_natCast, show 2 * (x / 2) = 2 ^ w - 2 by omega]
      · split
        · rw [List.flatMap_cons, ih, addBits_natCast, show x ||| 1 = 1 by
            obtain rfl | rfl : x = 0 ∨ x = 1 := by omega
            all_goals rfl]
        · rw [List.flatMap_cons, ih, addBits_natCast]

/-! ### un-stuffing one word -/

theorem msbBits_succ_last (y k : Nat) : msbBits y (k + 1) = msbBits (y / 2) k ++ [y.testBit 0] := by
  simp only [msbBits, List.range_succ, List.map_append, List.map_cons, List.map_nil]
  congr 1
  · apply List.map_congr_left
    intro i hi
    have hi : i < k := List.mem_range.mp hi
    rw [show k + 1 - 1 - i = (k - 1 - i) + 1 by omega, Nat.testBit_succ]
  · simp

/-- `unstuffWord` in terms of `msbBits`: a word whose upper `w-1` bits are all equal carries those bits only -/
theorem unstuffWord_eq (w y : Nat) (hw : 1 ≤ w) :
    Spec.Aztec.unstuffWord w y =
      if y / 2 = 0 ∨ y / 2 = 2 ^ (w - 1) - 1 then msbBits (y / 2) (w - 1) else msbBits y w := by
  obtain ⟨k, rfl⟩ : ∃ k, w = k + 1 := ⟨w - 1, by omega⟩
  show (if _ then (msbBits y (k + 1)).dropLast else msbBits y (k + 1)) = _
  rw [msbBits_succ_last, List.dropLast_concat, Nat.add_sub_cancel]

theorem bitsToNat_half (P : List Bool) (k : Nat) (h : P.length = k + 1) :
    bitsToNat P / 2 = bitsToNat (P.take k) := by
  have e : P = P.take k ++ P.drop k := (List.take_append_drop k P).symm
  have hl : (P.drop k).length = 1 := by simp; omega
  have h2 := bitsToNat_lt (P.drop k)
  rw [hl] at h2
  conv => lhs; rw [e, bitsToNat_append, hl]
  omega

theorem take_padded (w k : Nat) (bits : List Bool) (hk : k ≤ w) :
    (padded w bits).take k = bits.take k ++ List.replicate (k - bits.length) true := by
  unfold padded
  rw [List.take_append, List.take_take, List.take_replicate, Nat.min_eq_left hk]
  congr 2
  simp only [List.length_take]
  omega

/-! ### one step of `stuffWords` -/

theorem stuffWords_nil (w fuel : Nat) : stuffWords w fuel [] = [] := by
  cases fuel <;> rfl

/-- One step: the emitted word `y` is a proper `w`-bit word, neither all-zero nor all-one; it consumes
    `k ∈ {w-1, w}` bits and un-stuffs to the first `k` bits of the (one-padded) input. -/
theorem stuffWords_cons (w : Nat) (hw : 2 ≤ w) (fuel : Nat) (b : Bool) (rest : List Bool) :
    ∃ y k, stuffWords w (fuel + 1) (b :: rest) = y :: stuffWords w fuel ((b :: rest).drop k) ∧
      (k = w - 1 ∨ k = w) ∧ y < 2 ^ w ∧ y ≠ 0 ∧ y ≠ 2 ^ w - 1 ∧
      Spec.Aztec.unstuffWord w y = (padded w (b :: rest)).take k := by
  have hlen := length_padded w (b :: rest)
  have hlt : bitsToNat (padded w (b :: rest)) < 2 ^ w := by
    have := bitsToNat_lt (padded w (b :: rest)); rwa [hlen] at this
  have hp := two_pow_pred w (by omega)
  have hp1 : 2 ≤ 2 ^ (w - 1) := by
    have := two_pow_pred (w - 1) (by omega)
    have : 0 < 2 ^ (w - 1 - 1) := Nat.two_pow_pos _
    omega
  have hhalf := bitsToNat_half (padded w (b :: rest)) (w - 1) (by omega)
  have hback : msbBits (bitsToNat ((padded w (b :: rest)).take (w - 1))) (w - 1)
      = (padded w (b :: rest)).take (w - 1) := by
    have := msbBits_bitsToNat ((padded w (b :: rest)).take (w - 1))
    rwa [show ((padded w (b :: rest)).take (w - 1)).length = w - 1 by simp [hlen]] at this
  have hfull : msbBits (bitsToNat (padded w (b :: rest))) w = (padded w (b :: rest)).take w := by
    have := msbBits_bitsToNat (padded w (b :: rest))
    rw [hlen] at this
    rw [this, List.take_of_length_le (by omega)]
  have hun := fun y => unstuffWord_eq w y (by omega)
  simp only [stuffWords]
  rw [← hhalf] at hback
  clear hhalf hlen
  generalize bitsToNat (padded w (b :: rest)) = x at *
  generalize 2 ^ (w - 1) = P at *
  generalize 2 ^ w = Q at *
  subst hp
  by_cases h1 : x / 2 = P - 1
  · have hy : 2 * P - 2 < 2 * P ∧ 2 * P - 2 ≠ 0 ∧ 2 * P - 2 ≠ 2 * P - 1 ∧ (2 * P - 2) / 2 = x / 2 := by omega
    refine ⟨2 * P - 2, w - 1, by rw [if_pos h1], Or.inl rfl, hy.1, hy.2.1, hy.2.2.1, ?_⟩
    rw [hun, hy.2.2.2, if_pos (Or.inr h1), hback]
  · by_cases h2 : x / 2 = 0
    · have hy : 1 < 2 * P ∧ 1 ≠ 2 * P - 1 ∧ 1 / 2 = x / 2 := by omega
      refine ⟨1, w - 1, by rw [if_neg h1, if_pos h2], Or.inl rfl, hy.1, Nat.one_ne_zero, hy.2.1, ?_⟩
      rw [hun, hy.2.2, if_pos (Or.inl h2), hback]
    · have hy : x ≠ 0 ∧ x ≠ 2 * P - 1 := by omega
      refine ⟨_, w, by rw [if_neg h1, if_neg h2], Or.inr rfl, hlt, hy.1, hy.2, ?_⟩
      rw [hun, if_neg (not_or.mpr ⟨h2, h1⟩), hfull]

/-! ### the words of `stuffBits` -/

theorem stuffWords_range (w : Nat) (hw : 2 ≤ w) (fuel : Nat) (bits : List Bool) :
    ∀ x ∈ stuffWords w fuel bits, x < 2 ^ w ∧ x ≠ 0 ∧ x ≠ 2 ^ w - 1 := by
  induction fuel generalizing bits with
  | zero => intro x hx; simp [stuffWords] at hx
  | succ fuel ih =>
    cases bits with
    | nil => intro x hx; simp [stuffWords] at hx
    | cons b rest =>
      obtain ⟨y, k, e, _, h1, h2, h3, _⟩ := stuffWords_cons w hw fuel b rest
      rw [e]
      intro x hx
      rcases List.mem_cons.mp hx with rfl | hx
      · exact ⟨h1, h2, h3⟩
      · exact ih _ x hx

theorem stuffWords_unstuff (w : Nat) (hw : 2 ≤ w) (fuel : Nat) (bits : List Bool)
    (hf : bits.length ≤ fuel) :
    ∃ pad : List Bool, pad.length < w ∧ pad.all id = true ∧
      (stuffWords w fuel bits).flatMap (Spec.Aztec.unstuffWord w) = bits ++ pad := by
  induction fuel generalizing bits with
  | zero =>
    have : bits = [] := List.eq_nil_of_length_eq_zero (by omega)
    subst this
    exact ⟨[], by simp; omega, rfl, rfl⟩
  | succ fuel ih =>
    cases bits with
    | nil => exact ⟨[], by simp; omega, rfl, rfl⟩
    | cons b rest =>
      obtain ⟨y, k, e, hk, _, _, _, hu⟩ := stuffWords_cons w hw fuel b rest
      rw [e, List.flatMap_cons, hu, take_padded w k _ (by omega)]
      by_cases hl : (b :: rest).length ≤ k
      · rw [List.drop_of_length_le hl, stuffWords_nil, List.take_of_length_le hl]
        refine ⟨List.replicate (k - (b :: rest).length) true, ?_, by simp, by simp⟩
        simp only [List.length_replicate, List.length_cons]
        omega
      · obtain ⟨pad, p1, p2, p3⟩ := ih ((b :: rest).drop k) (by
          simp only [List.length_drop, List.length_cons] at hf ⊢; omega)
        refine ⟨pad, p1, p2, ?_⟩
        rw [p3, show k - (b :: rest).length = 0 by omega, List.replicate_zero, List.append_nil,
          ← List.append_assoc, List.take_append_drop]

theorem stuffWords_length_ge (w : Nat) (hw : 2 ≤ w) (fuel : Nat) (bits : List Bool)
    (hf : bits.length ≤ fuel) : bits.length ≤ (stuffWords w fuel bits).length * w := by
  induction fuel generalizing bits with
  | zero => omega
  | succ fuel ih =>
    cases bits with
    | nil => simp
    | cons b rest =>
      obtain ⟨y, k, e, hk, _⟩ := stuffWords_cons w hw fuel b rest
      have := ih ((b :: rest).drop k) (by
        simp only [List.length_drop, List.length_cons] at hf ⊢; omega)
      rw [e]
      simp only [List.length_drop, List.length_cons, Nat.add_one_mul] at this ⊢
      generalize (stuffWords w fuel (List.drop k (b :: rest))).length * w = t at *
      omega

theorem stuffWords_length_le (w : Nat) (hw : 2 ≤ w) (fuel : Nat) (bits : List Bool) :
    (stuffWords w fuel bits).length * (w - 1) ≤ bits.length + (w - 2) := by
  induction fuel generalizing bits with
  | zero => simp [stuffWords]
  | succ fuel ih =>
    cases bits with
    | nil => simp [stuffWords]
    | cons b rest =>
      obtain ⟨y, k, e, hk, _⟩ := stuffWords_cons w hw fuel b rest
      rw [e]
      by_cases hl : (b :: rest).length ≤ k
      · rw [List.drop_of_length_le hl, stuffWords_nil]
        simp only [List.length_nil, List.length_cons, Nat.add_one_mul, Nat.zero_mul] at hl ⊢
        omega
      · have := ih ((b :: rest).drop k)
        simp only [List.length_drop, List.length_cons, Nat.add_one_mul] at this hl ⊢
        generalize (stuffWords w fuel (List.drop k (b :: rest))).length * (w - 1) = t at *
        omega

/-! ### `stuffBits` -/

/-- the words of `stuffBits`: an empty stream yields the single word `1…10` (padding ones and a stuffed
    zero), a non-empty one the words of `stuffWords` -/
def words (w : Nat) (bits : List Bool) : List Nat :=
  if bits.isEmpty then [2 ^ w - 2] else stuffWords w bits.length bits

theorem words_of_ne_nil (w : Nat) (bits : List Bool) (h : bits ≠ []) :
    words w bits = stuffWords w bits.length bits := by
  cases bits with
  | nil => exact absurd rfl h
  | cons b rest => rfl

theorem words_nil (w : Nat) : words w [] = [2 ^ w - 2] := rfl

theorem stuffBits_eq (bits : List Bool) (w : Nat) (hw : 2 ≤ w) :
    stuffBits bits w = (words w bits).flatMap (fun x => msbBits x w) := by
  cases bits with
  | nil =>
    show addBits (((1 <<< w) - 2 : Nat) : Int) w = _
    rw [addBits_natCast, Nat.one_shiftLeft, words_nil]
    simp
  | cons b rest =>
    show stuffBitsAux w (b :: rest).length (b :: rest) = _
    rw [words_of_ne_nil w _ (by simp)]
    exact stuffBitsAux_eq w (by omega) _ _

theorem stuffBits_length (bits : List Bool) (w : Nat) (hw : 2 ≤ w) :
    (stuffBits bits w).length = (words w bits).length * w := by
  rw [stuffBits_eq bits w hw, length_flatMap_msbBits]

theorem words_range (w : Nat) (hw : 2 ≤ w) (bits : List Bool) :
    ∀ x ∈ words w bits, x < 2 ^ w ∧ x ≠ 0 ∧ x ≠ 2 ^ w - 1 := by
  cases bits with
  | nil =>
    intro x hx
    rw [words_nil, List.mem_singleton] at hx
    have hp := two_pow_pred w (by omega)
    have hp1 := two_pow_pred (w - 1) (by omega)
    have : 0 < 2 ^ (w - 1 - 1) := Nat.two_pow_pos _
    omega
  | cons b rest =>
    rw [words_of_ne_nil w _ (by simp)]
    exact stuffWords_range w hw _ _

theorem words_unstuff (w : Nat) (hw : 2 ≤ w) (bits : List Bool) :
    ∃ pad : List Bool, pad.length < w ∧ pad.all id = true ∧
      (words w bits).flatMap (Spec.Aztec.unstuffWord w) = bits ++ pad := by
  cases bits with
  | nil =>
    refine ⟨List.replicate (w - 1) true, by simp; omega, by simp, ?_⟩
    have hp := two_pow_pred w (by omega)
    have e : (2 ^ w - 2) / 2 = 2 ^ (w - 1) - 1 := by omega
    rw [words_nil, List.flatMap_cons, List.flatMap_nil, List.append_nil, List.nil_append,
      unstuffWord_eq w _ (by omega), e, if_pos (Or.inr rfl), msbBits_ones]
  | cons b rest =>
    rw [words_of_ne_nil w _ (by simp)]
    exact stuffWords_unstuff w hw _ _ (Nat.le_refl _)

theorem stuffBits_groups (bits : List Bool) (w : Nat) (hw : 2 ≤ w) :
    Spec.Aztec.groups w ((stuffBits bits w).length / w) (stuffBits bits w) = words w bits := by
  rw [stuffBits_length bits w hw, Nat.mul_div_cancel _ (by omega : 0 < w), stuffBits_eq bits w hw]
  have := groups_flatMap w (words w bits) (fun x hx => (words_range w hw _ x hx).1) []
  rwa [List.append_nil] at this

/-- Stuffing an empty stream gives the single word `1…10`: `w-1` padding ones and a stuffed zero. -/
theorem stuffBits_nil (w : Nat) : stuffBits [] w = msbBits (2 ^ w - 2) w := by
  show addBits (((1 <<< w) - 2 : Nat) : Int) w = _
  rw [addBits_natCast, Nat.one_shiftLeft]

theorem stuffBits_length_mod (bits : List Bool) (w : Nat) (hw : 2 ≤ w) :
    (stuffBits bits w).length % w = 0 := by
  rw [stuffBits_length bits w hw, Nat.mul_mod_left]

/-- The `w`-bit words `ws` of the stuffed stream: (a) none of them is all-zero or all-one (and each is
    below `2^w`); (b) removing the stuffing bit from every word whose upper `w-1` bits are equal
    (`Spec.Aztec.unstuffWord`) gives the original bits back, followed by fewer than `w` one-bits of padding;
    (c) the words written with `w` bits each are the stuffed stream. -/
theorem stuffBits_words (bits : List Bool) (w : Nat) (hw : 2 ≤ w) :
    let ws := Spec.Aztec.groups w ((stuffBits bits w).length / w) (stuffBits bits w)
    (∀ x ∈ ws, x < 2 ^ w ∧ x ≠ 0 ∧ x ≠ 2 ^ w - 1) ∧
    (∃ pad : List Bool, pad.length < w ∧ pad.all id = true ∧
      ws.flatMap (Spec.Aztec.unstuffWord w) = bits ++ pad) ∧
    ws.flatMap (fun x => msbBits x w) = stuffBits bits w := by
  intro ws
  have e : ws = words w bits := stuffBits_groups bits w hw
  rw [e]
  exact ⟨words_range w hw _, words_unstuff w hw _, (stuffBits_eq bits w hw).symm⟩

theorem stuffBits_wordCount_pos (bits : List Bool) (w : Nat) (hw : 2 ≤ w) : 1 ≤ (stuffBits bits w).length / w := by
  rw [stuffBits_length bits w hw, Nat.mul_div_cancel _ (by omega : 0 < w)]
  cases bits with
  | nil => simp [words_nil]
  | cons b rest =>
    rw [words_of_ne_nil w _ (by simp)]
    obtain ⟨y, k, e, _⟩ := stuffWords_cons w hw rest.length b rest
    rw [List.length_cons, e]; simp

theorem stuffBits_length_ge (bits : List Bool) (w : Nat) (hw : 2 ≤ w) :
    bits.length ≤ (stuffBits bits w).length := by
  cases bits with
  | nil => simp
  | cons b rest =>
    rw [stuffBits_length _ w hw, words_of_ne_nil w _ (by simp)]
    exact stuffWords_length_ge w hw _ _ (Nat.le_refl _)

/-- Every output word consumes at least `w-1` input bits: the stuffed form of `n` bits has at most `n / (w-1) + 1`
    words.  (The empty stream yields one word.) -/
theorem stuffBits_length_le (bits : List Bool) (w : Nat) (hw : 2 ≤ w) :
    (stuffBits bits w).length ≤ (bits.length / (w - 1) + 1) * w := by
  rw [stuffBits_length bits w hw]
  apply Nat.mul_le_mul_right
  by_cases hne : bits = []
  · subst hne
    simp [words_nil]
  · rw [words_of_ne_nil w bits hne, ← Nat.add_div_right _ (by omega : 0 < w - 1),
      Nat.le_div_iff_mul_le (by omega)]
    have := stuffWords_length_le w hw bits.length bits
    omega

/-! ### the statements on a concrete input (`w = 6`, 13 bits with a run of ones and a run of zeros) -/

/-- thirteen bits `11111 00000 101`: both kinds of stuffing occur, and the last word is padded -/
def sample : List Bool :=
  [true, true, true, true, true, false, false, false, false, false, true, false, true]

example : stuffBits sample 6 =
    [true, true, true, true, true, false,    -- 11111 + stuffed 0
     false, false, false, false, false, true, -- 00000 + stuffed 1
     true, false, true, true, true, true]     -- 101 + pad 111
    := by decide
example : (stuffBits sample 6).length % 6 = 0 := by decide
example : Spec.Aztec.groups 6 ((stuffBits sample 6).length / 6) (stuffBits sample 6) = [62, 1, 47] := by
  decide
example : (Spec.Aztec.groups 6 ((stuffBits sample 6).length / 6) (stuffBits sample 6)).flatMap
    (Spec.Aztec.unstuffWord 6) = sample ++ [true, true, true] := by decide
example : sample.length ≤ (stuffBits sample 6).length ∧
    (stuffBits sample 6).length ≤ (sample.length / (6 - 1) + 1) * 6 := by decide
/-- a final chunk of exactly `w-1` equal bits is a stuffed word with empty padding -/
example : stuffBits [true, true, true, true, true] 6 = [true, true, true, true, true, false] ∧
    Spec.Aztec.unstuffWord 6 62 = [true, true, true, true, true] := by decide
/-- the empty stream: one word `111110`, which un-stuffs to five padding ones -/
example : stuffBits [] 6 = [true, true, true, true, true, false] ∧
    Spec.Aztec.groups 6 ((stuffBits [] 6).length / 6) (stuffBits [] 6) = [62] := by decide

end BV.Proofs.AztecStuff
