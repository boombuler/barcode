/-
  Inversion lemmas for the symbolic placement run (`BV.Proofs.DmSym`): what each stage has checked and done when
  it answers `some`.  The simulation proofs (`DmPlaceM`, `DmPlaceS`) and the invariants (`DmTags`) go through
  these and never unfold the run themselves.  The two inner loops of the walk are treated as one loop (`sweep`)
  with a direction.
-/
import BV.Proofs.ListLemmas
import BV.Proofs.DmSym
namespace BV.Proofs.DmSym

theorem wrap_nonneg (nrow ncol : Nat) (row col : Int) (hr : 0 ≤ row) (hc : 0 ≤ col) :
    wrap nrow ncol row col = (row, col) := by
  unfold wrap
  have h1 : ¬ row < 0 := by omega
  have h2 : ¬ col < 0 := by omega
  simp only [h1, if_false, h2]

section
variable {nrow ncol ncw : Nat}

theorem PS.set_some {st st' : PS} {row col : Int} {tag : Nat}
    (h : st.set nrow ncol row col tag = some st') :
    ∃ i : Nat, (wrap nrow ncol row col).2 + (wrap nrow ncol row col).1 * (ncol : Int) = (i : Int) ∧
      i < nrow * ncol ∧ st.occ.testBit i = false ∧
      st' = { occ := st.occ ||| (1 <<< i), log := (i, tag) :: st.log } := by
  unfold PS.set at h
  simp only at h
  split at h
  · rename_i i hi
    split at h
    · rename_i hlt
      split at h
      · cases h
      · rename_i hb
        refine ⟨i, by rw [hi]; rfl, hlt, by simpa using hb, ?_⟩
        cases h; rfl
    · cases h
  · cases h

theorem PS.set_eq_some {st : PS} {row col : Int} {tag i : Nat}
    (hi : (wrap nrow ncol row col).2 + (wrap nrow ncol row col).1 * (ncol : Int) = (i : Int))
    (hlt : i < nrow * ncol) (hfree : st.occ.testBit i = false) :
    st.set nrow ncol row col tag = some { occ := st.occ ||| (1 <<< i), log := (i, tag) :: st.log } := by
  unfold PS.set
  cases hw : wrap nrow ncol row col with
  | mk r c =>
    rw [hw] at hi
    have hi' : c + r * (ncol : Int) = Int.ofNat i := hi
    simp only [hi', hlt, hfree, if_true, Bool.false_eq_true, if_false]

theorem PS.shape_cons (st : PS) (p : (Int × Int) × Nat) (ps : List ((Int × Int) × Nat)) (chr : Nat) :
    st.shape nrow ncol (p :: ps) chr =
      (st.set nrow ncol p.1.1 p.1.2 (10 * chr + (p.2 + 1))).bind (fun s => s.shape nrow ncol ps chr) :=
  List.foldlM_cons ..

theorem PS.shape_cons_some {st st' : PS} {p : (Int × Int) × Nat} {ps : List ((Int × Int) × Nat)} {chr : Nat}
    (h : st.shape nrow ncol (p :: ps) chr = some st') :
    ∃ st1, st.set nrow ncol p.1.1 p.1.2 (10 * chr + (p.2 + 1)) = some st1 ∧
      st1.shape nrow ncol ps chr = some st' := by
  rwa [PS.shape_cons, Option.bind_eq_some_iff] at h

theorem stepIf_some {guard : Bool} {st r : PS × Nat} {ps : List (Int × Int)}
    (h : stepIf nrow ncol ncw guard st ps = some r) :
    (guard = false ∧ r = st) ∨
    (guard = true ∧ st.2 < ncw ∧ st.1.shape nrow ncol ps.zipIdx (st.2 + 1) = some r.1 ∧ r.2 = st.2 + 1) := by
  unfold stepIf at h
  cases guard with
  | false => exact Or.inl ⟨rfl, by simpa using h.symm⟩
  | true =>
    simp only [if_true] at h
    split at h
    · rename_i hlt
      simp only [Option.map_eq_some_iff] at h
      obtain ⟨s, hs, rfl⟩ := h
      exact Or.inr ⟨rfl, hlt, hs, rfl⟩
    · cases h

theorem place_some {inRange : Bool} {st : PS} {idx : Nat} {row col : Int} {r : PS × Nat}
    (h : place nrow ncol ncw inRange st idx row col = some r) :
    (inRange = false ∧ r = (st, idx)) ∨
    (inRange = true ∧ ∃ i : Nat, col + row * (ncol : Int) = (i : Int) ∧ i < nrow * ncol ∧
      ((st.occ.testBit i = true ∧ r = (st, idx)) ∨
       (st.occ.testBit i = false ∧ stepIf nrow ncol ncw true (st, idx) (utahPos row col) = some r))) := by
  unfold place at h
  cases inRange with
  | false => exact Or.inl ⟨rfl, by simpa using h.symm⟩
  | true =>
    simp only [if_true] at h
    split at h
    · rename_i i hi
      split at h
      · rename_i hlt
        refine Or.inr ⟨rfl, i, hi, hlt, ?_⟩
        split at h
        · rename_i hb
          exact Or.inl ⟨hb, by simpa using h.symm⟩
        · rename_i hb
          exact Or.inr ⟨by simpa using hb, h⟩
      · cases h
    · cases h

/-- `place` at a position inside the matrix: the occupancy test is the guard of a `stepIf` -/
theorem place_eq {st : PS} {idx : Nat} {row col : Int} {i : Nat}
    (hi : col + row * (ncol : Int) = (i : Int)) (hlt : i < nrow * ncol) :
    place nrow ncol ncw true st idx row col =
      stepIf nrow ncol ncw (!st.occ.testBit i) (st, idx) (utahPos row col) := by
  have hi' : col + row * (ncol : Int) = Int.ofNat i := hi
  unfold place
  simp only [hi', hlt, if_true]
  cases st.occ.testBit i <;> rfl

/-- The two inner loops of the walk differ only in the direction of the step, the in-range test and the exit
    test (both tests get the dimensions of the matrix and a position). -/
structure Dir where
  dr : Int
  dc : Int
  inR : Int → Int → Int → Int → Bool
  out : Int → Int → Int → Int → Bool

def Dir.up : Dir := ⟨-2, 2, fun n _ r c => decide (r < n ∧ c ≥ 0), fun _ m r c => decide (r < 0 ∨ c ≥ m)⟩
def Dir.down : Dir := ⟨2, -2, fun _ m r c => decide (r ≥ 0 ∧ c < m), fun n _ r c => decide (r ≥ n ∨ c < 0)⟩

def sweep (nrow ncol ncw : Nat) (d : Dir) : Nat → WS → Option WS
  | 0, _ => none
  | fuel + 1, (st, idx, row, col) =>
    match place nrow ncol ncw (d.inR nrow ncol row col) st idx row col with
    | none => none
    | some (st, idx) =>
      if d.out nrow ncol (row + d.dr) (col + d.dc) then some (st, idx, row + d.dr, col + d.dc)
      else sweep nrow ncol ncw d fuel (st, idx, row + d.dr, col + d.dc)

theorem sweepUp_eq : ∀ (fuel : Nat) (w : WS), sweepUp nrow ncol ncw fuel w = sweep nrow ncol ncw .up fuel w := by
  intro fuel
  induction fuel with
  | zero => intro w; rfl
  | succ fuel ih =>
    intro ⟨st, idx, row, col⟩
    simp only [sweepUp, sweep, ih, Dir.up, decide_eq_true_eq]
    rfl

theorem sweepDown_eq : ∀ (fuel : Nat) (w : WS), sweepDown nrow ncol ncw fuel w = sweep nrow ncol ncw .down fuel w := by
  intro fuel
  induction fuel with
  | zero => intro w; rfl
  | succ fuel ih =>
    intro ⟨st, idx, row, col⟩
    simp only [sweepDown, sweep, ih, Dir.down, decide_eq_true_eq]
    rfl

theorem sweep_some {d : Dir} {fuel : Nat} {st : PS} {idx : Nat} {row col : Int} {r : WS}
    (h : sweep nrow ncol ncw d (fuel + 1) (st, idx, row, col) = some r) :
    ∃ p, place nrow ncol ncw (d.inR nrow ncol row col) st idx row col = some p ∧
      if d.out nrow ncol (row + d.dr) (col + d.dc) then r = (p.1, p.2, row + d.dr, col + d.dc)
      else sweep nrow ncol ncw d fuel (p.1, p.2, row + d.dr, col + d.dc) = some r := by
  rw [sweep] at h
  split at h
  · cases h
  · rename_i st1 idx1 hp
    refine ⟨(st1, idx1), hp, ?_⟩
    split at h
    · rename_i hc; rw [if_pos hc]; cases h; rfl
    · rename_i hc; rw [if_neg hc]; exact h

/-- `u`, `d`: the states the two sweeps end in; their fuel is within the `nrow + ncol` that the reference gives
    its sweeps -/
theorem round_some {st : PS} {idx : Nat} {row col : Int} {r : WS}
    (h : round nrow ncol ncw (st, idx, row, col) = some r) :
    ∃ s1 s2 s3 s4 u d,
      stepIf nrow ncol ncw (decide (row = nrow ∧ col = 0)) (st, idx) (corner1Pos nrow ncol) = some s1 ∧
      stepIf nrow ncol ncw (decide (row = (nrow : Int) - 2 ∧ col = 0 ∧ ncol % 4 ≠ 0)) s1 (corner2Pos nrow ncol) = some s2 ∧
      stepIf nrow ncol ncw (decide (row = (nrow : Int) - 2 ∧ col = 0 ∧ ncol % 8 = 4)) s2 (corner3Pos nrow ncol) = some s3 ∧
      stepIf nrow ncol ncw (decide (row = (nrow : Int) + 4 ∧ col = 2 ∧ ncol % 8 = 0)) s3 (corner4Pos nrow ncol) = some s4 ∧
      row.toNat / 2 + 2 ≤ nrow + ncol ∧
      sweep nrow ncol ncw .up (row.toNat / 2 + 2) (s4.1, s4.2, row, col) = some u ∧
      (u.2.2.2 + 3).toNat / 2 + 2 ≤ nrow + ncol ∧
      sweep nrow ncol ncw .down ((u.2.2.2 + 3).toNat / 2 + 2) (u.1, u.2.1, u.2.2.1 + 1, u.2.2.2 + 3) = some d ∧
      r = (d.1, d.2.1, d.2.2.1 + 3, d.2.2.2 + 1) := by
  unfold round at h
  simp only at h
  split at h; · cases h
  rename_i s1 h1
  split at h; · cases h
  rename_i s2 h2
  split at h; · cases h
  rename_i s3 h3
  split at h; · cases h
  rename_i s4 h4
  split at h; · cases h
  rename_i hfu
  split at h; · cases h
  rename_i st5 idx5 row5 col5 hu
  split at h; · cases h
  rename_i hfd
  split at h; · cases h
  rename_i st6 idx6 row6 col6 hd
  cases h
  exact ⟨s1, s2, s3, s4, _, _, h1, h2, h3, h4, Nat.le_of_not_lt hfu, sweepUp_eq _ _ ▸ hu, Nat.le_of_not_lt hfd,
    sweepDown_eq _ _ ▸ hd, rfl⟩

theorem mainLoop_some {fuel : Nat} {w : WS} {r : PS × Nat}
    (h : mainLoop nrow ncol ncw (fuel + 1) w = some r) :
    if w.2.2.1 < nrow ∨ w.2.2.2 < ncol
    then ∃ w', round nrow ncol ncw w = some w' ∧ mainLoop nrow ncol ncw fuel w' = some r
    else r = (w.1, w.2.1) := by
  rw [mainLoop] at h
  split at h
  · rename_i hc
    rw [if_pos hc]
    split at h
    · cases h
    · rename_i w' hw; exact ⟨w', hw, h⟩
  · rename_i hc
    rw [if_neg hc]
    cases h; rfl

theorem last_index (hr : 2 ≤ nrow) (hc : 2 ≤ ncol) :
    ((ncol : Int) - 1) + ((nrow : Int) - 1) * (ncol : Int) = ((nrow * ncol - 1 : Nat) : Int) ∧
    ((ncol : Int) - 2) + ((nrow : Int) - 2) * (ncol : Int) = ((nrow * ncol - 1 - ncol - 1 : Nat) : Int) ∧
    ncol + 2 ≤ nrow * ncol := by
  have h1 : 2 * ncol ≤ nrow * ncol := Nat.mul_le_mul_right ncol hr
  have e : ((nrow * ncol : Nat) : Int) = (nrow : Int) * (ncol : Int) := Int.natCast_mul _ _
  rw [Int.sub_mul, Int.sub_mul]
  generalize hp : (nrow : Int) * (ncol : Int) = p at *
  generalize hq : nrow * ncol = q at *
  refine ⟨by omega, by omega, by omega⟩

theorem pattern_some {st0 st1 st : PS} (hr : 2 ≤ nrow) (hc : 2 ≤ ncol)
    (h1 : st0.set nrow ncol ((nrow : Int) - 1) ((ncol : Int) - 1) 1 = some st1)
    (h2 : st1.set nrow ncol ((nrow : Int) - 2) ((ncol : Int) - 2) 1 = some st) :
    st = { occ := st0.occ ||| (1 <<< (nrow * ncol - 1)) ||| (1 <<< (nrow * ncol - 1 - ncol - 1)),
           log := (nrow * ncol - 1 - ncol - 1, 1) :: (nrow * ncol - 1, 1) :: st0.log } := by
  obtain ⟨e1, e2, _⟩ := last_index hr hc
  obtain ⟨i1, hi1, _, _, rfl⟩ := PS.set_some h1
  obtain ⟨i2, hi2, _, _, rfl⟩ := PS.set_some h2
  rw [wrap_nonneg _ _ _ _ (by omega) (by omega)] at hi1 hi2
  rw [e1] at hi1
  rw [e2] at hi2
  obtain rfl := Int.natCast_inj.mp hi1
  obtain rfl := Int.natCast_inj.mp hi2
  rfl

theorem run_some {st : PS} (h : run nrow ncol ncw = some st) :
    2 ≤ nrow ∧ 2 ≤ ncol ∧ ∃ st0 : PS,
      DmSym.mainLoop nrow ncol ncw (nrow + ncol) ({ occ := 0, log := [] }, 0, 4, 0) = some (st0, ncw) ∧
      st0.log.length = 8 * ncw ∧
      ((st0.occ.testBit (nrow * ncol - 1) = true ∧ st0.log.length = nrow * ncol ∧ st = st0) ∨
       (st0.occ.testBit (nrow * ncol - 1) = false ∧ st0.log.length + 4 = nrow * ncol ∧
        st0.occ.testBit (nrow * ncol - 1 - 1) = false ∧ st0.occ.testBit (nrow * ncol - 1 - ncol) = false ∧
        st0.occ.testBit (nrow * ncol - 1 - ncol - 1) = false ∧
        ∃ st1, st0.set nrow ncol ((nrow : Int) - 1) ((ncol : Int) - 1) 1 = some st1 ∧
          st1.set nrow ncol ((nrow : Int) - 2) ((ncol : Int) - 2) 1 = some st)) := by
  unfold run at h
  split at h; · cases h
  rename_i hsz
  split at h; · cases h
  rename_i st0 idx hml
  simp only at h
  split at h; · cases h
  rename_i hchk
  obtain rfl : idx = ncw := by omega
  refine ⟨by omega, by omega, st0, hml, by omega, ?_⟩
  split at h
  · rename_i hb
    split at h
    · rename_i hlen
      cases h
      exact Or.inl ⟨hb, hlen, rfl⟩
    · cases h
  · rename_i hb
    split at h
    · rename_i hc
      simp only [Bool.not_eq_true'] at hc
      split at h
      · cases h
      · rename_i st1 hs1
        exact Or.inr ⟨by simpa using hb, hc.1, hc.2.1, hc.2.2.1, hc.2.2.2, st1, hs1, h⟩
    · cases h

end

end BV.Proofs.DmSym
