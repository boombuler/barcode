/-
  Proofs for C17, part 2b: the specification's raw polynomial operations (`BV.Spec.RS.polyAddRaw`, `polyMulRaw`,
  `polyEq`) in terms of coefficients, so that the division theorem can be stated with them.
-/
import BV.Proofs.GFPoly
namespace BV.Proofs.GF
open BV BV.Model.GF BV.Spec.RS

theorem cf_polyAddRaw (p q : Poly) (d : Nat) : cf (polyAddRaw p q) d = cf p d ^^^ cf q d := by
  unfold polyAddRaw
  simp only []
  rw [cf_zipWith_xor _ _ d (by
    rw [List.length_append, List.length_append, List.length_replicate, List.length_replicate]; omega),
    cf_pad, cf_pad]

theorem allLt_polyAddRaw {f : Field} {n : Nat} (L : Laws f n) (p q : Poly) (hp : AllLt n p) (hq : AllLt n q) :
    AllLt n (polyAddRaw p q) :=
  allLt_zipWith_xor L _ _ (allLt_append.mpr ⟨allLt_replicate_zero L.pos _, hp⟩)
    (allLt_append.mpr ⟨allLt_replicate_zero L.pos _, hq⟩)

theorem stripZeros_zero (rest : List Nat) : stripZeros (0 :: rest) = stripZeros rest := rfl

theorem stripZeros_of_ne (a : Nat) (rest : List Nat) (h : a ≠ 0) : stripZeros (a :: rest) = a :: rest := by
  cases a with
  | zero => exact absurd rfl h
  | succ a => rfl

theorem cf_stripZeros : ∀ (p : List Nat) (d : Nat), cf (stripZeros p) d = cf p d
  | [], _ => rfl
  | a :: p, d => by
    by_cases h : a = 0
    · subst h
      rw [stripZeros_zero, cf_stripZeros p d]
      exact (cf_pad 1 p d).symm
    · rw [stripZeros_of_ne a p h]

theorem stripZeros_head : ∀ (p : List Nat), stripZeros p = [] ∨ (stripZeros p).headD 0 ≠ 0
  | [] => Or.inl rfl
  | a :: p => by
    by_cases h : a = 0
    · subst h; rw [stripZeros_zero]; exact stripZeros_head p
    · rw [stripZeros_of_ne a p h]; exact Or.inr h

theorem polyEq_of_cf (p q : List Nat) (hc : ∀ d, cf p d = cf q d) : polyEq p q = true := by
  unfold polyEq
  rw [beq_iff_eq]
  have hc' : ∀ d, cf (stripZeros p) d = cf (stripZeros q) d := fun d => by
    rw [cf_stripZeros, cf_stripZeros, hc d]
  have hle : ∀ r s : List Nat, (∀ d, cf (stripZeros r) d = cf (stripZeros s) d) →
      (stripZeros r).length ≤ (stripZeros s).length := by
    intro r s h
    rcases stripZeros_head r with e | e
    · rw [e]; exact Nat.zero_le _
    · exact length_le_of_head_ne e _ (fun d hd => by rw [h d]; exact cf_ge _ d hd)
  exact eq_of_cf_of_length _ _ (Nat.le_antisymm (hle p q hc') (hle q p (fun d => (hc' d).symm))) hc'

theorem cf_of_polyEq (p q : List Nat) (h : polyEq p q = true) (d : Nat) : cf p d = cf q d := by
  unfold polyEq at h
  rw [beq_iff_eq] at h
  rw [← cf_stripZeros p, ← cf_stripZeros q, h]

/-- one Horner step of the specification's product -/
def mulRawStep (f : Field) (q : Poly) (acc : Poly) (a : Nat) : Poly :=
  polyAddRaw (acc ++ [0]) (q.map (f.mul a))

theorem mulRaw_foldl {f : Field} {n : Nat} (L : Laws f n) (q : Poly) (hq : AllLt n q) :
    ∀ (p acc : Poly), AllLt n p → AllLt n acc →
      (∀ d, cf (p.foldl (mulRawStep f q) acc) d =
        (if d < p.length then 0 else cf acc (d - p.length)) ^^^ conv f (cf p) (cf q) d) ∧
      AllLt n (p.foldl (mulRawStep f q) acc)
  | [], acc, _, ha => by
    refine ⟨fun d => ?_, ha⟩
    show cf acc d = _
    rw [if_neg (by simp), conv_zero_left f _ _ cf_nil, Nat.xor_zero]; rfl
  | a :: p, acc, hp, ha => by
    obtain ⟨han, hp'⟩ := allLt_cons.mp hp
    have hacc' : AllLt n (mulRawStep f q acc a) :=
      allLt_polyAddRaw L _ _ (allLt_append.mpr ⟨ha, allLt_replicate_zero L.pos 1⟩)
        (hq.map (fun y hy => L.mul_lt _ _ han hy))
    obtain ⟨i1, i2⟩ := mulRaw_foldl L q hq p (mulRawStep f q acc a) hp' hacc'
    rw [List.foldl_cons]
    refine ⟨fun d => ?_, i2⟩
    rw [i1 d, conv_cons L a p (cf q) han hp' (fun i => cf_lt L.pos _ _ hq), List.length_cons]
    by_cases h1 : d < p.length
    · rw [if_pos h1, if_pos (by omega), if_pos h1, Nat.xor_zero]
    · rw [if_neg h1, if_neg h1]
      unfold mulRawStep
      rw [cf_polyAddRaw, cf_append, cf_map (f.mul a) (mul_zero_right f a)]
      simp only [List.length_singleton]
      by_cases h2 : d < p.length + 1
      · rw [if_pos h2, if_pos (by omega), Nat.zero_xor]
        have : cf [0] (d - p.length) = 0 := by rw [cf_cons]; split <;> rfl
        rw [this, Nat.zero_xor]
        exact Nat.xor_comm _ _
      · rw [if_neg h2, if_neg (by omega)]
        have : d - p.length - 1 = d - (p.length + 1) := by omega
        rw [this, Nat.xor_assoc, Nat.xor_comm (f.mul a _)]

theorem cf_polyMulRaw {pp n : Nat} (h : FieldOK pp n) (b : Nat) (p q : Poly) (hp : AllLt n p) (hq : AllLt n q)
    (d : Nat) :
    cf ((BinField.mk pp n).polyMulRaw p q) d = conv (newField pp n b) (cf p) (cf q) d := by
  have L := laws_of_ok h b
  have : (BinField.mk pp n).polyMulRaw p q = p.foldl (mulRawStep (newField pp n b) q) [] := by
    unfold BinField.polyMulRaw
    apply foldl_congr_mem
    intro acc a ha
    unfold mulRawStep
    congr 1
    apply List.map_congr_left
    intro y hy
    exact (ok_mul_eq_spec h b a y (hp a ha) (hq y hy)).symm
  rw [this, (mulRaw_foldl L q hq p [] hp allLt_nil).1 d]
  split
  · exact Nat.zero_xor _
  · exact Nat.zero_xor _

end BV.Proofs.GF
