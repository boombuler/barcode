/-
  QR matrix layer: the bitmap `render` returns, whichever mask it selects, shows the function patterns of `drawnP`
  and the data bits on the free modules of the walk (`render_pic`, `finalPic`), and so passes every check of the
  reference decoder (`render_decodes`).
-/
import BV.Proofs.QrMatrixDrawn
import BV.Proofs.QrMatrixData
import BV.Proofs.QrMatrixDecode
import BV.Proofs.QrMatrixCount
namespace BV.Proofs.QrMatrix
open BV BV.Model BV.Model.Qr BV.Gen.Qr BV.Proofs.QrTables BV.Proofs.QrRender BV.Proofs.QrCoords
open BV.Proofs.QrBlocks

/-- the free modules of the walk after the function patterns -/
def dataPos (vi : VersionInfo) : List (Nat × Nat) :=
  (walk vi.modulWidth).filter (fun p => !(drawnP vi).occ p.1 p.2)

/-- the picture of result `mask` after the data loop -/
def finalPic (vi : VersionInfo) (data : List Nat) (mask : Nat) : Nat → Nat → Bool :=
  foldUpd (writeCells (dataBit data) mask (dataPos vi) 0) ((drawnP vi).res mask)

/-- the bitmap `render` returns shows `finalPic` for the selected mask, which is one of 0..7 -/
theorem render_pic (vi : VersionInfo) (hmem : vi ∈ versionInfos) (data : List Nat) (color : Scheme) (r : QRCode)
    (mask : Nat) (hr : renderWithMask data vi color = .ok (r, mask)) :
    mask < 8 ∧ r.dimension = vi.modulWidth ∧
    ∀ X Y, X < vi.modulWidth → Y < vi.modulWidth → r.get X Y = finalPic vi data mask X Y := by
  have g := geo_of_mem hmem
  obtain ⟨s1, _, _, s4⟩ := renderWithMask_size data vi color r mask hr
  refine ⟨s4, s1, ?_⟩
  rw [renderWithMask_eq] at hr
  have hm := selectMask_mem _ _ _ _ hr
  have hrep := drawn_rep vi hmem color
  rw [g.width] at hrep
  have hw := written_rep color vi.version data _ _ hrep
  rw [← g.width] at hw
  intro X Y hX hY
  have := hw.2.2 mask X Y s4 hX hY
  unfold resV at this
  rw [hm] at this
  exact this

section
variable (vi : VersionInfo) (hmem : vi ∈ versionInfos) (data : List Nat) (mask : Nat)

theorem not_mem_dataPos (X Y : Nat) (h : (drawnP vi).occ X Y = true) : (X, Y) ∉ dataPos vi := by
  unfold dataPos
  intro hm
  have := (List.mem_filter.mp hm).2
  simp only [h, Bool.not_true] at this
  cases this

theorem finalPic_fn (X Y : Nat) (h : (drawnP vi).occ X Y = true) :
    finalPic vi data mask X Y = (drawnP vi).res mask X Y :=
  write_frame _ _ _ _ _ X Y (not_mem_dataPos vi X Y h)

theorem dataPos_nodup : (dataPos vi).Nodup :=
  List.Pairwise.sublist List.filter_sublist (walk_nodup vi.modulWidth)

theorem dataPos_range : ∀ p ∈ dataPos vi, p.1 < vi.modulWidth ∧ p.2 < vi.modulWidth :=
  fun p hp => walk_range _ p (List.mem_filter.mp hp).1

theorem dataPos_eq (f : Nat → Nat → Bool)
    (hf : ∀ X Y, X < vi.modulWidth → Y < vi.modulWidth → (drawnP vi).occ X Y = f X Y) :
    (walk vi.modulWidth).filter (fun p => !f p.1 p.2) = dataPos vi := by
  apply List.filter_congr
  intro p hp
  have hr := walk_range _ p hp
  rw [hf _ _ hr.1 hr.2]

include hmem

theorem dataPos_length (ec : Nat) (lens : List Nat) (hiso : isoBlocks vi.version vi.level = some (ec, lens)) :
    8 * (lens.foldl (· + ·) 0 + lens.length * ec) ≤ (dataPos vi).length ∧
    (dataPos vi).length < 8 * (lens.foldl (· + ·) 0 + lens.length * ec) + 8 := by
  have g := geo_of_mem hmem
  have := dataModuleCount vi.version vi.level g.ver1 g.ver40 g.lvl _ g.centres ec lens hiso
  simp only at this
  rw [← g.width, dataPos_eq vi _ (drawn_occ hmem)] at this
  exact this

/-- the bit stream the reference decoder reads from a picture that agrees with `finalPic` inside the symbol:
    the codewords, most significant bit first, then zero remainder bits -/
theorem decBits_eq (dark : Nat → Nat → Bool)
    (hdark : ∀ X Y, X < vi.modulWidth → Y < vi.modulWidth → dark X Y = finalPic vi data mask X Y)
    (hN : 8 * data.length ≤ (dataPos vi).length) :
    decBits vi.modulWidth vi.version vi.alignmentPatternPlacements dark mask =
      (data.flatMap (fun c => msbBits c 8) ++
        List.replicate ((dataPos vi).length - 8 * data.length) false).toArray := by
  rw [← Array.toList_inj]
  unfold decBits
  rw [readDataBits_eq, dataPos_eq vi (fun X Y => (Spec.Qr.functionMap vi.modulWidth vi.version
    (Spec.Qr.alignmentPositions vi.alignmentPatternPlacements)).getD (Y * vi.modulWidth + X) true)
    (drawn_occ_functionMap hmem)]
  have e : (dataPos vi).map (fun p => dark p.1 p.2 != Spec.Qr.maskCond mask p.2 p.1) =
      (dataPos vi).map (fun p => foldUpd (writeCells (dataBit data) mask (dataPos vi) 0) ((drawnP vi).res mask)
        p.1 p.2 != Spec.Qr.maskCond mask p.2 p.1) := by
    apply List.map_congr_left
    intro p hp
    have := dataPos_range vi p hp
    rw [hdark p.1 p.2 this.1 this.2]
    rfl
  rw [e, readback _ _ _ (dataPos_nodup vi)]
  simp only [Nat.zero_add]
  exact dataBits_eq data _ hN

end

theorem decCw_eq (data : List Nat) (h256 : ∀ c ∈ data, c < 256) (post : List Bool) :
    decCw (data.flatMap (fun c => msbBits c 8) ++ post).toArray data.length = data.toArray := by
  unfold decCw
  congr 1
  apply List.ext_getElem
  · simp
  · intro i h1 h2
    simp only [List.length_map, List.length_range] at h1
    simp only [List.getElem_map, List.getElem_range]
    have := BV.Proofs.QrStream.readAt_flatMap data [] post i h1 h256
    simp only [List.nil_append, List.length_nil, Nat.zero_add] at this
    rw [BV.Proofs.QrStream.bitsToNatAt_eq, this, List.getD_eq_getElem?_getD, List.getElem?_eq_getElem h1,
      Option.getD_some]

/-- **The matrix layer.**  A codeword sequence with the block structure of the standard for the row `vi`, drawn by
    `render` with whichever mask it selects, is accepted by the reference decoder: all function patterns, both
    format and version words, the module count, zero remainder bits, the block lengths and Reed–Solomon checks
    pass, and the result reports the version, the level, the selected mask and the parse of the data bits. -/
theorem render_decodes (vi : VersionInfo) (hmem : vi ∈ versionInfos) (data : List Nat) (color : Scheme)
    (r : QRCode) (mask : Nat) (hr : renderWithMask data vi color = .ok (r, mask))
    (ec : Nat) (lens : List Nat) (hiso : isoBlocks vi.version vi.level = some (ec, lens))
    (hlen : data.length = lens.foldl (· + ·) 0 + lens.length * ec) (h256 : ∀ c ∈ data, c < 256)
    (hL : ((Spec.Qr.deinterleave data.toArray lens ec).zip lens).all
      (fun (p : List Nat × Nat) => p.1.length == p.2 + ec) = true)
    (hRS : (Spec.Qr.deinterleave data.toArray lens ec).all (fun b => Spec.RS.qrField.valid 0 ec b) = true)
    (p : Spec.Qr.Parsed)
    (hparse : Spec.Qr.parseSegments vi.version (decDataBits (Spec.Qr.deinterleave data.toArray lens ec) lens)
      ((decDataBits (Spec.Qr.deinterleave data.toArray lens ec) lens).size / 4 + 2) 0 [] [] = .ok p) :
    mask < 8 ∧ r.dimension = vi.modulWidth ∧
    Spec.Qr.decode vi.modulWidth vi.modulWidth (fun x y => r.get x y) = .ok
      { version := vi.version, level := vi.level, mask := mask, modes := p.modes, numBlocks := lens.length,
        ecPerBlock := ec, dataCodewords := lens.foldl (· + ·) 0, totalCodewords := data.length,
        remainderBits := (dataPos vi).length - 8 * data.length,
        terminatorBits := p.terminatorBits, padCodewords := p.padCodewords, content := p.content } := by
  have g := geo_of_mem hmem
  obtain ⟨hm8, hdimr, hpic⟩ := render_pic vi hmem data color r mask hr
  refine ⟨hm8, hdimr, ?_⟩
  -- the data loop leaves the function modules alone
  have hfn : ∀ X Y, X < vi.modulWidth → Y < vi.modulWidth → (drawnP vi).occ X Y = true →
      r.get X Y = (drawnP vi).res mask X Y := by
    intro X Y hX hY ho
    rw [hpic X Y hX hY, finalPic_fn vi data mask X Y ho]
  obtain ⟨hN1, hN2⟩ := dataPos_length vi hmem ec lens hiso
  rw [← hlen] at hN1 hN2
  have hbits := decBits_eq vi hmem data mask (fun x y => r.get x y) hpic hN1
  obtain ⟨fl, fv, _, flev, fmask⟩ := formatInfos_bch vi.level mask g.lvl (by omega)
  have hsz : (decBits vi.modulWidth vi.version vi.alignmentPatternPlacements (fun x y => r.get x y) mask).size =
      (dataPos vi).length := by
    rw [hbits]
    simp only [List.size_toArray, List.length_append, List.length_replicate,
      BV.Proofs.QrStream.length_flatMap_msbBits8]
    omega
  have hF : ∀ ox oy, (ox = 0 ∧ oy = 0) ∨ (ox = vi.modulWidth - 7 ∧ oy = 0) ∨ (ox = 0 ∧ oy = vi.modulWidth - 7) →
      Spec.Qr.checkFinder vi.modulWidth (fun x y => r.get x y) ox oy = true := by
    intro ox oy hc
    apply checkFinder_intro
    intro dx dy h1 h2 h3 h4 h5 h6 h7 h8
    rw [drawn_finder hmem hm8 hfn ox oy hc dx dy h1 h2 h3 h4 h5 h6 h7 h8, finderModule_eq dx dy h1 h2 h3 h4]
    rfl
  have hfinal := decode_ok vi.modulWidth vi.version (fun x y => r.get x y) vi.alignmentPatternPlacements vi.level mask
    ec lens (bitsToNat (formatInfoOf vi.level mask))
    (match mapGet v_versionInfoBitsByVersion (vi.version : Int) with | some bits => bitsToNat bits | none => 0) p
    g.width g.ver1 g.ver40 (hF _ _ (Or.inl ⟨rfl, rfl⟩)) (hF _ _ (Or.inr (Or.inl ⟨rfl, rfl⟩)))
    (hF _ _ (Or.inr (Or.inr ⟨rfl, rfl⟩))) g.centres ?hA ?hT (drawn_dark hmem hm8 hfn) ?hV ?hFa ?hFb fv flev fmask
    hiso data.length hlen ⟨by rw [hsz]; exact hN1, by rw [hsz]; exact hN2⟩ ?hrem
    (Spec.Qr.deinterleave data.toArray lens ec) (by rw [hbits, decCw_eq data h256]) hL hRS hparse
  · rw [hfinal, hsz]
  case hA =>
    rw [List.all_eq_true]
    intro q hq
    have hr := (aligns_geo g q hq).range
    apply checkAlignment_intro _ _ _ (by omega) (by omega)
    intro a b h1 h2 h3 h4
    rw [drawn_align hmem hm8 hfn q hq a b h1 h2 h3 h4]
    rfl
  case hT => exact timing_intro _ _ (drawn_timing hmem hm8 hfn)
  case hV =>
    intro h7
    obtain ⟨bits, hb, hl, hvalid, hver⟩ := versionInfoBits_bch vi.version h7 g.ver40
    rw [hb]
    have hw := fun j hj => drawn_version hmem hm8 hfn bits hb hl j hj
    rw [← hl] at hw ⊢
    exact ⟨readWord_eq_bitsToNat _ _ bits (fun j hj => by rw [(hw j hj).1, hl]),
      readWord_eq_bitsToNat _ _ bits (fun j hj => by rw [(hw j hj).2, hl]), hvalid, hver⟩
  case hFa =>
    rw [← fl]
    exact readWord_eq_bitsToNat _ _ _ (fun j hj => by rw [(drawn_format hmem hm8 hfn j (fl ▸ hj)).1, fl])
  case hFb =>
    rw [← fl]
    exact readWord_eq_bitsToNat _ _ _ (fun j hj => by rw [(drawn_format hmem hm8 hfn j (fl ▸ hj)).2, fl])
  case hrem =>
    rw [List.all_eq_true]
    intro i hi
    rw [List.mem_range, hsz] at hi
    rw [hbits]
    simp only [Array.getD_eq_getD_getElem?, List.getElem?_toArray]
    rw [List.getElem?_append_right (by rw [BV.Proofs.QrStream.length_flatMap_msbBits8]; omega),
      List.getElem?_replicate]
    split <;> rfl

end BV.Proofs.QrMatrix
