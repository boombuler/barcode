/-
  QR: which inputs the mode encoders accept (`encodeNumeric`, `encodeAlphaNumeric`, `encodeUnicode`,
  `encodeAuto`), for ALL byte strings and levels.
-/
import BV.Proofs.QrStreamA
import BV.Proofs.Ascii
namespace BV.Proofs.QrAccept
open BV BV.Model BV.Model.Qr BV.Gen.Qr BV.Proofs.QrTables BV.Proofs.QrStreamA BV.Proofs.Ascii

def IsDigit (b : UInt8) : Prop := 48 ≤ b.toNat ∧ b.toNat ≤ 57

instance (b : UInt8) : Decidable (IsDigit b) := by unfold IsDigit; infer_instance

theorem numericChunks_isSome (fuel : Nat) (s : Bytes) (hf : s.length ≤ fuel) :
    (numericChunks fuel s).isSome = true ↔ ∀ b ∈ s, IsDigit b := by
  induction fuel generalizing s with
  | zero =>
    have : s = [] := List.eq_nil_of_length_eq_zero (by omega)
    subst this
    simp [numericChunks]
  | succ fuel ih =>
    by_cases hs : s = []
    · subst hs; simp [numericChunks]
    · have hpos : 0 < s.length := List.length_pos_iff.mpr hs
      have hsplit : (∀ b ∈ s, IsDigit b) ↔ (∀ b ∈ s.take 3, IsDigit b) ∧ (∀ b ∈ s.drop 3, IsDigit b) := by
        conv => lhs; rw [← List.take_append_drop 3 s]
        simp only [List.mem_append, or_imp, forall_and]
      rw [numericChunks_step fuel s hs, hsplit, ← ih (s.drop 3) (by rw [List.length_drop]; omega)]
      by_cases hd : ∀ b ∈ s.take 3, 48 ≤ b.toNat ∧ b.toNat ≤ 57
      · rw [if_pos hd, Option.isSome_map]; exact (and_iff_right hd).symm
      · rw [if_neg hd]; exact iff_of_false (by simp) (fun h => hd h.1)

theorem indexRune_ge_neg_one (tbl : Bytes) (r : Nat) : -1 ≤ indexRune tbl r := by
  unfold indexRune
  split
  · rename_i p _
    have : (0 : Int) ≤ (p.1 : Int) := Int.natCast_nonneg _
    omega
  · omega

theorem indexRune_nonneg_iff (tbl : Bytes) (r : Nat) : 0 ≤ indexRune tbl r ↔ r ∈ runeList tbl := by
  unfold indexRune runeList
  cases h : (runes tbl).find? (fun p => decide (p.2 = r)) with
  | none =>
    rw [List.find?_eq_none] at h
    simp only [List.mem_map]
    exact ⟨fun h0 => by omega, fun ⟨p, hp, e⟩ => absurd (by simpa using e) (h p hp)⟩
  | some p =>
    exact ⟨fun _ => List.mem_map.mpr ⟨p, List.mem_of_find?_eq_some h, by simpa using List.find?_some h⟩,
      fun _ => Int.natCast_nonneg _⟩

theorem find?_asciiRunes (s : Bytes) (off : Nat) (b : UInt8) :
    (asciiRunes off s).find? (fun p => decide (p.2 = b.toNat)) =
      if b ∈ s then some (off + s.idxOf b, b.toNat) else none := by
  induction s generalizing off with
  | nil => rfl
  | cons x s ih =>
    rw [asciiRunes, List.find?_cons, List.idxOf_cons]
    by_cases hx : x = b
    · subst hx; simp
    · have hn : ¬ x.toNat = b.toNat := fun e => hx (UInt8.toNat_inj.mp e)
      have hb : (x == b) = false := by simpa using hx
      have hm : b ∈ x :: s ↔ b ∈ s := by
        rw [List.mem_cons]; exact or_iff_right (fun e => hx e.symm)
      simp only [hn, decide_false, ih, hb, cond_false, hm]
      by_cases hs : b ∈ s
      · rw [if_pos hs, if_pos hs, Nat.add_assoc, Nat.add_comm 1]
      · rw [if_neg hs, if_neg hs]

theorem indexRune_ascii {tbl : Bytes} (h : AllAscii tbl) (b : UInt8) :
    indexRune tbl b.toNat = if b ∈ tbl then (tbl.idxOf b : Int) else -1 := by
  unfold indexRune
  rw [runes_ascii tbl h, find?_asciiRunes]
  by_cases hb : b ∈ tbl
  · rw [if_pos hb, if_pos hb, Nat.zero_add]
  · rw [if_neg hb, if_neg hb]

theorem runes_charSet : runes c_charSet = (List.range 45).map (fun i => (i, (c_charSet.getD i 0).toNat)) := by
  rw [runes_ascii_zipIdx c_charSet charSet_ascii]
  apply List.ext_getElem
  · rfl
  · intro i h1 h2
    have hi : i < c_charSet.length := by simpa using h1
    simp [List.getD, hi]

/-- the alphanumeric value of a byte (its offset in `charSet`) -/
def alnumVal (b : UInt8) : Nat := (indexRune c_charSet b.toNat).toNat

theorem indexRune_charSet_of_mem {b : UInt8} (hb : b ∈ c_charSet) :
    indexRune c_charSet b.toNat = (c_charSet.idxOf b : Int) := by
  rw [indexRune_ascii charSet_ascii, if_pos hb]

theorem alnumVal_spec {b : UInt8} (hb : b ∈ c_charSet) :
    alnumVal b < 45 ∧ Spec.Qr.alnumChars.getD (alnumVal b) 0 = b := by
  have hi : c_charSet.idxOf b < c_charSet.length := List.idxOf_lt_length_iff.mpr hb
  unfold alnumVal
  rw [indexRune_charSet_of_mem hb, Int.toNat_natCast, ← charSet_eq]
  refine ⟨hi, ?_⟩
  rw [List.getD_eq_getElem?_getD, List.getElem?_eq_getElem hi, Option.getD_some, List.getElem_idxOf]

theorem go_asciiRunes_append (pre : Bytes) (off : Nat) (tl : List (Nat × Nat)) (h : ∀ b ∈ pre, b ∈ c_charSet) :
    stringToAlphaIdx.go (asciiRunes off pre ++ tl) =
      pre.map (fun b => (alnumVal b : Int)) ++ stringToAlphaIdx.go tl := by
  induction pre generalizing off with
  | nil => rfl
  | cons b pre ih =>
    have hb := h b List.mem_cons_self
    have hv : indexRune c_charSet b.toNat = (alnumVal b : Int) := by
      unfold alnumVal; rw [indexRune_charSet_of_mem hb, Int.toNat_natCast]
    rw [asciiRunes, List.cons_append, stringToAlphaIdx.go, hv, if_neg (by omega),
      ih _ (fun x hx => h x (List.mem_cons_of_mem _ hx))]
    rfl

theorem stringToAlphaIdx_of_mem {content : Bytes} (h : ∀ b ∈ content, b ∈ c_charSet) :
    stringToAlphaIdx content = content.map (fun b => (alnumVal b : Int)) := by
  have := go_asciiRunes_append content 0 [] h
  rw [List.append_nil] at this
  unfold stringToAlphaIdx
  rw [runes_ascii content (fun b hb => charSet_ascii b (h b hb)), this]
  exact List.append_nil _

theorem getD_natCast_nonneg {α} (l : List α) (f : α → Nat) (i : Nat) :
    0 ≤ (l.map (fun a => (f a : Int))).getD i 0 := by
  rw [List.getD_eq_getElem?_getD, List.getElem?_map]
  cases l[i]? <;> simp

/-- producer and consumer together: the `len(content)` receives of `encodeAlphaNumeric` are all non-negative
    iff every byte of the content is one of the 45 characters (a byte ≥ 0x80 starts a rune ≥ 0x80 or U+FFFD, and
    the consumer performs enough receives to see its index -1) -/
theorem alpha_receives_ok (content : Bytes) :
    (∀ i, i < content.length → 0 ≤ (stringToAlphaIdx content).getD i 0) ↔ ∀ b ∈ content, b ∈ c_charSet := by
  constructor
  · intro hrecv
    apply Classical.byContradiction
    intro hbad
    obtain ⟨pre, b, rest, rfl, hpre, hb⟩ :=
      split_first_bad (fun b => decide (b ∈ c_charSet)) content (by simpa using hbad)
    have hpre : ∀ x ∈ pre, x ∈ c_charSet := fun x hx => by simpa using hpre x hx
    have hb : b ∉ c_charSet := by simpa using hb
    obtain ⟨r, tl, hr, hrunes⟩ := runes_first_bad pre rest b (fun x hx => charSet_ascii x (hpre x hx))
    have hneg : indexRune c_charSet r < 0 := by
      have : ¬ 0 ≤ indexRune c_charSet r := by
        rw [indexRune_nonneg_iff, runeList_ascii _ charSet_ascii, List.mem_map]
        rintro ⟨x, hx, e⟩
        rcases hr with rfl | ⟨_, h128⟩
        · exact hb (UInt8.toNat_inj.mp e ▸ hx)
        · have := charSet_ascii x hx; omega
      omega
    have := hrecv pre.length (by simp)
    unfold stringToAlphaIdx at this
    rw [hrunes, go_asciiRunes_append pre 0 _ hpre, stringToAlphaIdx.go, if_pos hneg] at this
    simp [List.getD] at this
    omega
  · intro h i _
    rw [stringToAlphaIdx_of_mem h]
    exact getD_natCast_nonneg content alnumVal i

theorem encodeNumeric_isSome (content : Bytes) (ecl : Nat) :
    (encodeNumeric content ecl).isSome = true ↔
      (∀ b ∈ content, IsDigit b) ∧
      (findSmallestVersionInfo ecl 1 (numericBits content.length)).isSome = true := by
  rw [encodeNumeric_eq, encodeWith_isSome, numericChunks_isSome content.length content (Nat.le_refl _)]

theorem encodeAlphaNumeric_isSome (content : Bytes) (ecl : Nat) :
    (encodeAlphaNumeric content ecl).isSome = true ↔
      (∀ b ∈ content, b ∈ c_charSet) ∧
      (findSmallestVersionInfo ecl 2 (alnumBits content.length)).isSome = true := by
  rw [encodeAlphaNumeric_eq, encodeWith_isSome, alnumSeg_eq, ← alpha_receives_ok]
  by_cases h : ∀ i, i < content.length → 0 ≤ (stringToAlphaIdx content).getD i 0
  · rw [if_pos h]; exact and_congr_left' (iff_of_true rfl h)
  · rw [if_neg h]; exact and_congr_left' (iff_of_false (by simp) h)

theorem encodeUnicode_isSome (content : Bytes) (ecl : Nat) :
    (encodeUnicode content ecl).isSome = true ↔
      (findSmallestVersionInfo ecl 4 (byteBits content.length)).isSome = true := by
  rw [encodeUnicode_eq, encodeWith_isSome]
  simp

end BV.Proofs.QrAccept
