/-
  BV.Proofs.QrMatrixDecode — an introduction rule for the reference decoder `Spec.Qr.decode`: if every check of
  the decoder holds on a picture, `decode` returns the `Info` assembled from the values read on the way.
-/
import BV.Proofs.QrBlocks
namespace BV.Proofs.QrMatrix
open BV BV.Spec.Qr BV.Proofs.QrBlocks

/-- the data module stream that `decode` reads (mask released), as a function of the values read before -/
def decBits (dim v : Nat) (cs : List Nat) (dark : Nat → Nat → Bool) (mask : Nat) : Array Bool :=
  readDataBits dim dark (functionMap dim v (alignmentPositions cs)) mask

/-- the codeword sequence that `decode` cuts out of the data module stream -/
def decCw (bits : Array Bool) (total : Nat) : Array Nat :=
  ((List.range total).map (fun i => bitsToNatAt bits (8 * i) 8)).toArray

/-- the data bit stream that `decode` assembles from the data parts of the blocks -/
def decDataBits (blocks : List (List Nat)) (lens : List Nat) : Array Bool :=
  ((blocks.zip lens).flatMap (fun (b, l) => (b.take l).flatMap (fun c => msbBits c 8))).toArray

theorem bind_ok {α β : Type} {x : Except String α} {a : α} (h : x = .ok a) (k : α → Except String β) :
    (x >>= k) = k a := by
  subst h; rfl

theorem ite_eq_else {α : Type} {c : Prop} [Decidable c] (A B : α) (h : c → A = B) :
    (if c then A else B) = B := by
  by_cases hc : c
  · rw [if_pos hc]; exact h hc
  · rw [if_neg hc]

theorem check_bind {α : Type} {b : Bool} (hb : b = true) (msg : String) (k : Unit → Except String α) :
    (check b msg >>= k) = k () := by
  subst hb; rfl

/-- a successful `isoBlocks` names the row and the entry of Table 9 that `decode` looks up -/
theorem isoBlocks_some {v level ec : Nat} {lens : List Nat} (h : isoBlocks v level = some (ec, lens)) :
    ∃ row e, blockTable.lookup v = some row ∧ row.find? (fun e => e.1 == levelChar level) = some e ∧
      e.2.1 = ec ∧ e.2.2.flatMap (fun g => List.replicate g.1 g.2) = lens := by
  unfold isoBlocks at h
  split at h
  · cases h
  · next row hrow =>
    split at h
    · next e hfind =>
      injection h with h
      injection h with h1 h2
      exact ⟨row, e, hrow, hfind, h1, h2⟩
    · cases h

/-- Introduction rule for the reference decoder.  On a square picture of side `17 + 4v` (`1 ≤ v ≤ 40`) on which
    the three finder patterns, the alignment patterns of the version, the timing patterns and the dark module
    are in place, both copies of the version information (from version 7 on) are the valid word `vw` of `v`,
    both copies of the format information are the word `fw` which is valid after unmasking and names `level`
    and `mask`, the block structure of (`v`, `level`) in Table 9 is `lens` with `ec` check codewords per block,
    the data modules are `8 * total` bits plus fewer than 8 zero remainder bits, the de-interleaved blocks
    have the right lengths and are Reed–Solomon codewords, and the data bit stream parses to `p`:
    `decode` succeeds and returns exactly the values named in the hypotheses. -/
theorem decode_ok (dim v : Nat) (dark : Nat → Nat → Bool) (cs : List Nat) (level mask ec : Nat)
    (lens : List Nat) (fw vw : Nat) (p : Parsed)
    (hdim : dim = 17 + 4 * v) (hv1 : 1 ≤ v) (hv40 : v ≤ 40)
    (hF1 : checkFinder dim dark 0 0 = true)
    (hF2 : checkFinder dim dark (dim - 7) 0 = true)
    (hF3 : checkFinder dim dark 0 (dim - 7) = true)
    (hcs : alignmentCentres.lookup v = some cs)
    (hA : (alignmentPositions cs).all (fun p => checkAlignment dark p.1 p.2) = true)
    (hT : (List.range (dim - 16)).all (fun t => let k := t + 8; dark k 6 == (k % 2 == 0) && dark 6 k == (k % 2 == 0)) = true)
    (hD : dark 8 (dim - 8) = true)
    (hV : 7 ≤ v → readWord dark (versionPosA dim) 18 = vw ∧ readWord dark (versionPosB dim) 18 = vw ∧
            versionWordValid vw = true ∧ vw / 2 ^ 12 = v)
    (hFa : readWord dark formatPosA 15 = fw) (hFb : readWord dark (formatPosB dim) 15 = fw)
    (hfw : formatWordValid (fw ^^^ formatMaskPattern) = true)
    (hlevel : levelOfFormatBits ((fw ^^^ formatMaskPattern) / 2 ^ 13) = level)
    (hmask : ((fw ^^^ formatMaskPattern) / 2 ^ 10) % 8 = mask)
    (hiso : isoBlocks v level = some (ec, lens))
    (total : Nat) (htotal : total = lens.foldl (· + ·) 0 + lens.length * ec)
    (hsize : 8 * total ≤ (decBits dim v cs dark mask).size ∧ (decBits dim v cs dark mask).size < 8 * total + 8)
    (hrem : (List.range ((decBits dim v cs dark mask).size - 8 * total)).all
              (fun i => !(decBits dim v cs dark mask).getD (8 * total + i) false) = true)
    (blocks : List (List Nat)) (hblocks : deinterleave (decCw (decBits dim v cs dark mask) total) lens ec = blocks)
    (hlen : (blocks.zip lens).all (fun (b, l) => b.length == l + ec) = true)
    (hrs : blocks.all (fun b => Spec.RS.qrField.valid 0 ec b) = true)
    (hparse : parseSegments v (decDataBits blocks lens) ((decDataBits blocks lens).size / 4 + 2) 0 [] [] = .ok p) :
    decode dim dim dark = .ok
      { version := v, level := level, mask := mask, modes := p.modes, numBlocks := lens.length, ecPerBlock := ec,
        dataCodewords := lens.foldl (· + ·) 0, totalCodewords := total,
        remainderBits := (decBits dim v cs dark mask).size - 8 * total,
        terminatorBits := p.terminatorBits, padCodewords := p.padCodewords, content := p.content } := by
  have hver : (dim - 17) / 4 = v := by omega
  unfold decode
  rw [check_bind (by simp)]
  dsimp only
  rw [check_bind (by simp; omega), hver, check_bind hF1, check_bind hF2, check_bind hF3, hcs]
  dsimp only
  rw [pure_bind, check_bind hA, check_bind hT, check_bind hD]
  -- version information: present from version 7 on, otherwise the block is skipped
  refine (ite_eq_else _ _ ?_).trans ?_
  · intro h7
    obtain ⟨hva, hvb, hvv, hvq⟩ := hV h7
    rw [hva, hvb, check_bind (by simp [hvv]), check_bind (by simp), check_bind (by simp [hvq])]
  rw [hFa, hFb, check_bind (by simp [hfw]), check_bind (by simp), hlevel, hmask]
  obtain ⟨row, e, hrow, hfind, rfl, rfl⟩ := isoBlocks_some hiso
  rw [hrow]
  dsimp only
  rw [hfind]
  dsimp only
  subst htotal hblocks
  -- the remaining hypotheses speak of `decBits`, `decCw`, `decDataBits` and of pattern lambdas: they are the
  -- terms inside `decode` up to unfolding, which `Eq.trans` sees and `rw` does not
  refine (pure_bind _ _).trans ?_
  refine (check_bind ?_ _ _).trans ?_
  · simp only [Bool.and_eq_true, decide_eq_true_eq]
    exact hsize
  refine (check_bind hrem _ _).trans ?_
  refine (check_bind hlen _ _).trans ?_
  refine (check_bind hrs _ _).trans ?_
  exact (bind_ok hparse _).trans rfl

/-- the content reported by `decode` under the hypotheses of `decode_ok` is the content of the parsed stream
    (and the version, level and mask are the ones read from the picture) -/
example (dim v : Nat) (dark : Nat → Nat → Bool) (cs : List Nat) (level mask ec : Nat)
    (lens : List Nat) (fw vw : Nat) (p : Parsed)
    (hdim : dim = 17 + 4 * v) (hv1 : 1 ≤ v) (hv40 : v ≤ 40)
    (hF1 : checkFinder dim dark 0 0 = true)
    (hF2 : checkFinder dim dark (dim - 7) 0 = true)
    (hF3 : checkFinder dim dark 0 (dim - 7) = true)
    (hcs : alignmentCentres.lookup v = some cs)
    (hA : (alignmentPositions cs).all (fun p => checkAlignment dark p.1 p.2) = true)
    (hT : (List.range (dim - 16)).all (fun t => let k := t + 8; dark k 6 == (k % 2 == 0) && dark 6 k == (k % 2 == 0)) = true)
    (hD : dark 8 (dim - 8) = true)
    (hV : 7 ≤ v → readWord dark (versionPosA dim) 18 = vw ∧ readWord dark (versionPosB dim) 18 = vw ∧
            versionWordValid vw = true ∧ vw / 2 ^ 12 = v)
    (hFa : readWord dark formatPosA 15 = fw) (hFb : readWord dark (formatPosB dim) 15 = fw)
    (hfw : formatWordValid (fw ^^^ formatMaskPattern) = true)
    (hlevel : levelOfFormatBits ((fw ^^^ formatMaskPattern) / 2 ^ 13) = level)
    (hmask : ((fw ^^^ formatMaskPattern) / 2 ^ 10) % 8 = mask)
    (hiso : isoBlocks v level = some (ec, lens))
    (total : Nat) (htotal : total = lens.foldl (· + ·) 0 + lens.length * ec)
    (hsize : 8 * total ≤ (decBits dim v cs dark mask).size ∧ (decBits dim v cs dark mask).size < 8 * total + 8)
    (hrem : (List.range ((decBits dim v cs dark mask).size - 8 * total)).all
              (fun i => !(decBits dim v cs dark mask).getD (8 * total + i) false) = true)
    (blocks : List (List Nat)) (hblocks : deinterleave (decCw (decBits dim v cs dark mask) total) lens ec = blocks)
    (hlen : (blocks.zip lens).all (fun (b, l) => b.length == l + ec) = true)
    (hrs : blocks.all (fun b => Spec.RS.qrField.valid 0 ec b) = true)
    (hparse : parseSegments v (decDataBits blocks lens) ((decDataBits blocks lens).size / 4 + 2) 0 [] [] = .ok p) :
    ∃ i, decode dim dim dark = .ok i ∧ i.content = p.content ∧ i.version = v ∧ i.level = level ∧ i.mask = mask :=
  ⟨_, decode_ok dim v dark cs level mask ec lens fw vw p hdim hv1 hv40 hF1 hF2 hF3 hcs hA hT hD hV hFa hFb hfw
    hlevel hmask hiso total htotal hsize hrem blocks hblocks hlen hrs hparse, rfl, rfl, rfl, rfl⟩

/-- `hlen` of `decode_ok` is written with the pattern lambda of `decode`; the form with projections, which the
    producer side proves, is the same term up to `rfl` -/
example (ec : Nat) : (fun (x : List Nat × Nat) => match x with | (b, l) => b.length == l + ec) =
    (fun x => x.1.length == x.2 + ec) := rfl

end BV.Proofs.QrMatrix
