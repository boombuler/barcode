/-
  QR: every generated table of package qr (`BV.Gen.Qr`) is compared with the tables / formulas of ISO/IEC 18004 as
  written down independently in `BV.Spec.Qr`.  The finite facts are evaluated by the kernel over the whole table;
  each one is lifted to a lemma quantified over all rows / versions / levels / masks.
-/
import BV.Model.Qr
import BV.Spec.Qr
namespace BV.Proofs.QrTables
open BV BV.Model BV.Model.Qr BV.Gen.Qr

theorem lookup_none_of_keys {α} (tbl : List (Int × α)) (k : Int) (h : k ∉ tbl.map (·.1)) :
    tbl.lookup k = none := by
  rw [List.lookup_eq_none_iff]
  intro p hp
  simp only [bne_iff_ne, ne_eq]
  exact fun e => h (List.mem_map.mpr ⟨p, hp, e.symm⟩)

theorem lookup_mem {κ α} [BEq κ] [LawfulBEq κ] (tbl : List (κ × α)) (k : κ) (v : α)
    (h : tbl.lookup k = some v) : (k, v) ∈ tbl := by
  obtain ⟨l₁, l₂, rfl, _⟩ := List.lookup_eq_some_iff.mp h
  exact List.mem_append_right _ List.mem_cons_self

theorem foldl_add_eq_sum (l : List Nat) : ∀ a, l.foldl (· + ·) a = a + l.sum := by
  induction l with
  | nil => intro a; simp
  | cons x l ih => intro a; rw [List.foldl_cons, ih, List.sum_cons]; omega

theorem nodup_map_inj {α β} (f : α → β) :
    ∀ (l : List α), (l.map f).Nodup → ∀ a b, a ∈ l → b ∈ l → f a = f b → a = b := by
  intro l
  induction l with
  | nil => intro _ a b ha; cases ha
  | cons x xs ih =>
    intro hn a b ha hb e
    rw [List.map_cons, List.nodup_cons] at hn
    rcases List.mem_cons.mp ha with rfl | ha' <;> rcases List.mem_cons.mp hb with rfl | hb'
    · rfl
    · exact absurd (e ▸ List.mem_map.mpr ⟨b, hb', rfl⟩) hn.1
    · exact absurd (e ▸ List.mem_map.mpr ⟨a, ha', rfl⟩) hn.1
    · exact ih hn.2 a b ha' hb' e

/-- index of a level letter in the order L, M, Q, H (the Go constants `L, M, Q, H = 0, 1, 2, 3`) -/
def levelIdx (c : Char) : Nat := if c = 'L' then 0 else if c = 'M' then 1 else if c = 'Q' then 2 else 3

/-- one entry of Table 9 as a `VersionInfo` (a missing second group is `0 × 0`) -/
def isoRow (v : Nat) (e : Char × Nat × List (Nat × Nat)) : VersionInfo :=
  { version := v, level := levelIdx e.1, errorCorrectionCodewordsPerBlock := e.2.1,
    numberOfBlocksInGroup1 := (e.2.2.getD 0 (0, 0)).1, dataCodeWordsPerBlockInGroup1 := (e.2.2.getD 0 (0, 0)).2,
    numberOfBlocksInGroup2 := (e.2.2.getD 1 (0, 0)).1, dataCodeWordsPerBlockInGroup2 := (e.2.2.getD 1 (0, 0)).2 }

/-- Table 9 flattened in table order -/
def isoRows : List VersionInfo :=
  Spec.Qr.blockTable.flatMap (fun vr => vr.2.map (isoRow vr.1))

/-- every entry of Table 9 has one or two groups, so `isoRow` drops nothing -/
theorem blockTable_shape :
    Spec.Qr.blockTable.map (·.1) = (List.range 40).map (· + 1) ∧
    (∀ vr ∈ Spec.Qr.blockTable, vr.2.map (·.1) = ['L', 'M', 'Q', 'H']) ∧
    (∀ vr ∈ Spec.Qr.blockTable, ∀ e ∈ vr.2, e.2.2.length = 1 ∨ e.2.2.length = 2) := by
  decide +kernel

/-- the 160 generated rows are exactly Table 9, in table order -/
theorem versionInfos_eq_isoRows : versionInfos = isoRows := by decide +kernel

theorem versionInfos_keys :
    versionInfos.map (fun vi => (vi.version, vi.level)) = (List.range 160).map (fun i => (i / 4 + 1, i % 4)) := by
  decide +kernel

theorem versionInfos_length : versionInfos.length = 160 := by
  simpa using congrArg List.length versionInfos_keys

theorem versionInfos_sorted : versionInfos.Pairwise (fun a b => a.version ≤ b.version) := by
  have : (versionInfos.map (fun vi => (vi.version, vi.level))).Pairwise (fun p q => p.1 ≤ q.1) := by
    rw [versionInfos_keys, List.pairwise_map]
    exact List.pairwise_lt_range.imp (fun {i j} h => by simp only; omega)
  exact List.pairwise_map (R := fun p q : Nat × Nat => p.1 ≤ q.1).mp this

theorem versionInfos_keys_nodup : (versionInfos.map (fun vi => (vi.version, vi.level))).Nodup := by
  rw [versionInfos_keys]
  exact List.pairwise_map.mpr (List.nodup_range.imp (fun {i j} h e => by
    simp only [Prod.mk.injEq] at e; omega))

theorem mem_keys_iff (v l : Nat) :
    (v, l) ∈ versionInfos.map (fun vi => (vi.version, vi.level)) ↔ 1 ≤ v ∧ v ≤ 40 ∧ l ≤ 3 := by
  rw [versionInfos_keys, List.mem_map]
  simp only [List.mem_range, Prod.mk.injEq]
  constructor
  · rintro ⟨i, hi, rfl, rfl⟩; omega
  · intro h; exact ⟨4 * (v - 1) + l, by omega, by omega, by omega⟩

theorem mem_versionInfos_range {vi : VersionInfo} (h : vi ∈ versionInfos) :
    1 ≤ vi.version ∧ vi.version ≤ 40 ∧ vi.level ≤ 3 :=
  (mem_keys_iff vi.version vi.level).mp (List.mem_map.mpr ⟨vi, h, rfl⟩)

/-- what `Spec.Qr.decode` looks up for (version, level): ec codewords per block and the groups -/
def specEntry (v l : Nat) : Option (Nat × List (Nat × Nat)) :=
  match Spec.Qr.blockTable.lookup v with
  | none => none
  | some row =>
    match row.find? (fun e => e.1 == Spec.Qr.levelChar l) with
    | some e => some e.2
    | none => none

/-- block lengths as `Spec.Qr.decode` derives them -/
def specLens (groups : List (Nat × Nat)) : List Nat := groups.flatMap (fun g => List.replicate g.1 g.2)

/-- the block lengths of a table row: group 1 first -/
def rowLens (vi : VersionInfo) : List Nat :=
  List.replicate vi.numberOfBlocksInGroup1 vi.dataCodeWordsPerBlockInGroup1 ++
    List.replicate vi.numberOfBlocksInGroup2 vi.dataCodeWordsPerBlockInGroup2

theorem length_rowLens (vi : VersionInfo) :
    (rowLens vi).length = vi.numberOfBlocksInGroup1 + vi.numberOfBlocksInGroup2 := by
  simp [rowLens]

theorem sum_rowLens (vi : VersionInfo) : (rowLens vi).foldl (· + ·) 0 = vi.totalDataBytes := by
  rw [foldl_add_eq_sum, rowLens, List.sum_append_nat, List.sum_replicate_nat, List.sum_replicate_nat,
    Nat.zero_add]
  rfl

/-- at most two groups give the block lengths of the first followed by those of the second (none = `0 × 0`) -/
theorem specLens_eq (groups : List (Nat × Nat)) (h : groups.length ≤ 2) :
    specLens groups = List.replicate (groups.getD 0 (0, 0)).1 (groups.getD 0 (0, 0)).2 ++
      List.replicate (groups.getD 1 (0, 0)).1 (groups.getD 1 (0, 0)).2 := by
  match groups, h with
  | [], _ => rfl
  | [a], _ => simp [specLens]
  | [a, b], _ => simp [specLens]

/-- everything the proofs need to know about a single row: the reference decoder's lookup gives its number of
    check codewords (7..30) and its groups (compared as groups; `specLens_eq` turns them into block lengths); the
    `byte` addition in `splitToBlocks` does not wrap; and the largest character count that fits
    is below 2^(width of the count field), for each of the three modes -/
def rowOk (vi : VersionInfo) : Bool :=
  (match specEntry vi.version vi.level with
   | some (ec, groups) => ec == vi.errorCorrectionCodewordsPerBlock && decide (groups.length ≤ 2) &&
      groups.getD 0 (0, 0) == (vi.numberOfBlocksInGroup1, vi.dataCodeWordsPerBlockInGroup1) &&
      groups.getD 1 (0, 0) == (vi.numberOfBlocksInGroup2, vi.dataCodeWordsPerBlockInGroup2)
   | none => false) &&
  decide (7 ≤ vi.errorCorrectionCodewordsPerBlock ∧ vi.errorCorrectionCodewordsPerBlock ≤ 30 ∧
    vi.numberOfBlocksInGroup1 + vi.numberOfBlocksInGroup2 < 256 ∧ 1 ≤ vi.totalDataBytes ∧
    3 * (8 * vi.totalDataBytes) < 10 * 2 ^ vi.charCountBits c_numericMode ∧
    2 * (8 * vi.totalDataBytes) < 11 * 2 ^ vi.charCountBits c_alphaNumericMode ∧
    vi.totalDataBytes ≤ 2 ^ vi.charCountBits c_byteMode)

theorem rowOk_cert : versionInfos.all rowOk = true := by decide +kernel

theorem rowOk_of_mem {vi : VersionInfo} (h : vi ∈ versionInfos) :
    (∃ groups, specEntry vi.version vi.level = some (vi.errorCorrectionCodewordsPerBlock, groups) ∧
      specLens groups = rowLens vi) ∧
    7 ≤ vi.errorCorrectionCodewordsPerBlock ∧ vi.errorCorrectionCodewordsPerBlock ≤ 30 ∧
    vi.numberOfBlocksInGroup1 + vi.numberOfBlocksInGroup2 < 256 ∧ 1 ≤ vi.totalDataBytes ∧
    3 * (8 * vi.totalDataBytes) < 10 * 2 ^ vi.charCountBits c_numericMode ∧
    2 * (8 * vi.totalDataBytes) < 11 * 2 ^ vi.charCountBits c_alphaNumericMode ∧
    vi.totalDataBytes ≤ 2 ^ vi.charCountBits c_byteMode := by
  have := List.all_eq_true.mp rowOk_cert vi h
  unfold rowOk at this
  rw [Bool.and_eq_true, decide_eq_true_eq] at this
  refine ⟨?_, this.2⟩
  have hs := this.1
  split at hs
  · rename_i ec groups he
    simp only [Bool.and_eq_true, beq_iff_eq, decide_eq_true_eq] at hs
    obtain ⟨⟨⟨hec, hlen⟩, h0⟩, h1⟩ := hs
    exact ⟨groups, by rw [he, hec], by rw [specLens_eq groups hlen, h0, h1]; rfl⟩
  · cases hs

theorem rowSide_of_mem {vi : VersionInfo} (h : vi ∈ versionInfos) :
    vi.numberOfBlocksInGroup1 + vi.numberOfBlocksInGroup2 < 256 ∧ 1 ≤ vi.totalDataBytes ∧
    3 * (8 * vi.totalDataBytes) < 10 * 2 ^ vi.charCountBits c_numericMode ∧
    2 * (8 * vi.totalDataBytes) < 11 * 2 ^ vi.charCountBits c_alphaNumericMode ∧
    vi.totalDataBytes ≤ 2 ^ vi.charCountBits c_byteMode :=
  (rowOk_of_mem h).2.2.2

/-- the two level bits of the format information (Table 25): L = 01, M = 00, Q = 11, H = 10 -/
def isoLevelBits (l : Nat) : Nat := match l with | 0 => 1 | 1 => 0 | 2 => 3 | _ => 2

theorem formatInfos_cert : ∀ l, l < 4 → ∀ m, m < 8 →
    (formatInfoOf l m).length = 15 ∧
    Spec.Qr.formatWordValid (bitsToNat (formatInfoOf l m) ^^^ Spec.Qr.formatMaskPattern) = true ∧
    (bitsToNat (formatInfoOf l m) ^^^ Spec.Qr.formatMaskPattern) / 2 ^ 10 = isoLevelBits l * 8 + m := by
  decide +kernel

theorem formatInfos_keys :
    v_formatInfos.map (·.1) = [0, 1, 2, 3] ∧
    ∀ e ∈ v_formatInfos, e.2.map (·.1) = [0, 1, 2, 3, 4, 5, 6, 7] := by
  decide +kernel

theorem formatInfoOf_level_undefined (l m : Nat) (h : 4 ≤ l) : formatInfoOf l m = [] := by
  unfold formatInfoOf mapGet
  rw [lookup_none_of_keys]
  rw [formatInfos_keys.1]
  simp only [List.mem_cons, List.not_mem_nil, or_false]
  omega

theorem formatInfoOf_mask_undefined (l m : Nat) (h : 8 ≤ m) : formatInfoOf l m = [] := by
  unfold formatInfoOf mapGet
  split
  · rfl
  · rename_i mp he
    rw [lookup_none_of_keys]
    · rfl
    · rw [formatInfos_keys.2 _ (lookup_mem _ _ _ he)]
      simp only [List.mem_cons, List.not_mem_nil, or_false]
      omega

theorem levelOfFormatBits_isoLevelBits (l : Nat) (h : l ≤ 3) :
    Spec.Qr.levelOfFormatBits (isoLevelBits l) = l := by
  have : ∀ l, l < 4 → Spec.Qr.levelOfFormatBits (isoLevelBits l) = l := by decide
  exact this l (by omega)

/-- For every level `l ≤ 3` and mask `m ≤ 7` the generated word has 15 bits, is (after removing the mask
    pattern 0x5412) a BCH(15,5) word, its five data bits are (ISO level bits of `l`) ‖ `m`, and the reference
    decoder reads back exactly level `l` and mask `m` from it.  (List index 0 is the most significant bit:
    `drawFormatInfo` puts index `i` where `Spec.Qr.formatPosA/B` expect bit `14 - i`.) -/
theorem formatInfos_bch (l m : Nat) (hl : l ≤ 3) (hm : m ≤ 7) :
    (formatInfoOf l m).length = 15 ∧
    Spec.Qr.formatWordValid (bitsToNat (formatInfoOf l m) ^^^ Spec.Qr.formatMaskPattern) = true ∧
    (bitsToNat (formatInfoOf l m) ^^^ Spec.Qr.formatMaskPattern) / 2 ^ 10 = isoLevelBits l * 8 + m ∧
    Spec.Qr.levelOfFormatBits ((bitsToNat (formatInfoOf l m) ^^^ Spec.Qr.formatMaskPattern) / 2 ^ 13) = l ∧
    ((bitsToNat (formatInfoOf l m) ^^^ Spec.Qr.formatMaskPattern) / 2 ^ 10) % 8 = m := by
  obtain ⟨h1, h2, h3⟩ := formatInfos_cert l (by omega) m (by omega)
  refine ⟨h1, h2, h3, ?_, ?_⟩
  · have : (bitsToNat (formatInfoOf l m) ^^^ Spec.Qr.formatMaskPattern) / 2 ^ 13 = isoLevelBits l := by
      have e : (2 : Nat) ^ 13 = 2 ^ 10 * 8 := by decide
      rw [e, ← Nat.div_div_eq_div_mul, h3]
      omega
    rw [this]
    exact levelOfFormatBits_isoLevelBits l hl
  · rw [h3]; omega

def versionWordOk (v : Nat) : Bool :=
  match mapGet v_versionInfoBitsByVersion (v : Int) with
  | none => false
  | some bits =>
    bits.length == 18 && Spec.Qr.versionWordValid (bitsToNat bits) && bitsToNat bits / 2 ^ 12 == v

theorem versionInfoBits_cert : ∀ v : Nat, v < 41 → 7 ≤ v → versionWordOk v = true := by
  decide +kernel

theorem versionInfoBits_keys :
    v_versionInfoBitsByVersion.map (·.1) = (List.range 34).map (fun i => ((i + 7 : Nat) : Int)) := by
  decide +kernel

/-- For 7 ≤ v ≤ 40 the generated word has 18 bits, is a BCH(18,6) word and its six data bits are `v`.
    (List index 0 is the most significant bit: `drawVersionInfo` writes `bits[n-1-i]` at the place where
    `Spec.Qr.versionPosA/B` expect bit `i`.) -/
theorem versionInfoBits_bch (v : Nat) (h7 : 7 ≤ v) (h40 : v ≤ 40) :
    ∃ bits, mapGet v_versionInfoBitsByVersion (v : Int) = some bits ∧ bits.length = 18 ∧
      Spec.Qr.versionWordValid (bitsToNat bits) = true ∧ bitsToNat bits / 2 ^ 12 = v := by
  have := versionInfoBits_cert v (by omega) h7
  unfold versionWordOk at this
  split at this
  · exact absurd this (by decide)
  · rename_i bits he
    simp only [Bool.and_eq_true, beq_iff_eq] at this
    exact ⟨bits, he, this.1.1, this.1.2, this.2⟩

theorem versionInfoBits_none (v : Nat) (h : v < 7 ∨ 40 < v) :
    mapGet v_versionInfoBitsByVersion (v : Int) = none := by
  unfold mapGet
  apply lookup_none_of_keys
  rw [versionInfoBits_keys, List.mem_map]
  rintro ⟨i, hi, e⟩
  rw [List.mem_range] at hi
  omega

/-- the generated `charSet` is the alphanumeric set of the standard (value = index) -/
theorem charSet_eq : c_charSet = Spec.Qr.alnumChars := by decide +kernel

theorem charSet_nodup : c_charSet.Nodup := by decide +kernel

theorem charSet_ascii : ∀ b ∈ c_charSet, b.toNat < 128 := by decide +kernel

/-- `alignmentPatternPlacements` only looks at the version -/
def alignOfVersion (v : Nat) : List Nat :=
  VersionInfo.alignmentPatternPlacements ⟨v, 0, 0, 0, 0, 0, 0⟩

theorem alignmentPatternPlacements_eq (vi : VersionInfo) :
    vi.alignmentPatternPlacements = alignOfVersion vi.version := by
  cases vi; rfl

theorem alignment_cert : ∀ v : Nat, v < 41 → 1 ≤ v →
    Spec.Qr.alignmentCentres.lookup v = some (alignOfVersion v) := by
  decide +kernel

theorem alignmentCentres_keys : Spec.Qr.alignmentCentres.map (·.1) = (List.range 40).map (· + 1) := by
  decide +kernel

/-- for every version 1..40 the computed centres are the row of Annex E -/
theorem alignment_eq_annexE (vi : VersionInfo) (h1 : 1 ≤ vi.version) (h40 : vi.version ≤ 40) :
    Spec.Qr.alignmentCentres.lookup vi.version = some vi.alignmentPatternPlacements := by
  rw [alignmentPatternPlacements_eq]
  exact alignment_cert vi.version (by omega) h1

theorem alignmentCentres_range : ∀ p ∈ Spec.Qr.alignmentCentres,
    (∀ c ∈ p.2, 6 ≤ c ∧ c + 7 ≤ 17 + 4 * p.1) ∧ p.2.Pairwise (· < ·) := by
  decide +kernel

theorem alignment_range_cert : ∀ v : Nat, v < 41 → 1 ≤ v →
    (∀ c ∈ alignOfVersion v, 6 ≤ c ∧ c + 7 ≤ 17 + 4 * v) ∧ (alignOfVersion v).Pairwise (· < ·) :=
  fun v h41 h1 => alignmentCentres_range _ (lookup_mem _ _ _ (alignment_cert v h41 h1))

/-- the character count indicator has the width of Table 3, for every version and for the three modes
    the encoder uses (numeric 1, alphanumeric 2, byte 4; also for every other mode value except kanji 8, which
    the reference decoder does not support) -/
theorem charCountBits_eq (vi : VersionInfo) (m : Nat) (hm : m ≠ 8) :
    vi.charCountBits m = Spec.Qr.countBits vi.version m := by
  unfold VersionInfo.charCountBits Spec.Qr.countBits c_numericMode c_alphaNumericMode c_byteMode c_kanjiMode
  have hm' : m = 1 ∨ m = 2 ∨ m = 4 ∨ (m ≠ 1 ∧ m ≠ 2 ∧ m ≠ 4) := by omega
  by_cases a : vi.version < 10
  · have a' : vi.version ≤ 9 := by omega
    rcases hm' with rfl | rfl | rfl | ⟨h1, h2, h4⟩ <;> simp [*]
  · have a' : ¬ vi.version ≤ 9 := by omega
    by_cases b : vi.version < 27
    · have b' : vi.version ≤ 26 := by omega
      rcases hm' with rfl | rfl | rfl | ⟨h1, h2, h4⟩ <;> simp [*]
    · have b' : ¬ vi.version ≤ 26 := by omega
      rcases hm' with rfl | rfl | rfl | ⟨h1, h2, h4⟩ <;> simp [*]

theorem countBits_pos (v m : Nat) (hm : m = 1 ∨ m = 2 ∨ m = 4) : Spec.Qr.countBits v m ≠ 0 := by
  unfold Spec.Qr.countBits
  by_cases h1 : v ≤ 9
  · rcases hm with rfl | rfl | rfl <;> simp [h1]
  · by_cases h2 : v ≤ 26 <;> rcases hm with rfl | rfl | rfl <;> simp [h1, h2]

theorem modulWidth_eq (vi : VersionInfo) (h1 : 1 ≤ vi.version) : vi.modulWidth = 17 + 4 * vi.version := by
  unfold VersionInfo.modulWidth; omega

end BV.Proofs.QrTables
