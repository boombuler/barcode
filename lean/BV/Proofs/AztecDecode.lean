/-
  BV.Proofs.AztecDecode — the reference decoder `Spec.Aztec.decode` cut into stages (equal to it by `rfl`),
  and for each stage the facts about the symbol that make it succeed.
-/
import BV.Proofs.AztecBits
import BV.Proofs.AztecCheck
namespace BV.Proofs.AztecDecode
open BV BV.Spec.Aztec BV.Proofs.AztecBits

/-- the data part of `decode`: codewords, Reed–Solomon check, un-stuffing, character stream -/
def stageData (w : Nat) (m : Int × Int → Bool) (compact : Bool) (layers dataWords : Nat) : Except String Info := do
  let ws := wordSizeOf layers
  let bits := (dataModules compact layers).map m
  let pad := bits.length % ws
  check ((bits.take pad).all (fun b => !b)) "leading pad bits not zero"
  let words := groups ws (bits.length / ws) (bits.drop pad)
  check (dataWords ≤ words.length) "mode message claims more data words than the symbol holds"
  let checkWords := words.length - dataWords
  let f ← match BV.Spec.RS.aztecField ws with
    | some f => pure f
    | none => .error "no field"
  check (f.valid 1 checkWords words) "data is not a Reed-Solomon codeword"
  let dw := words.take dataWords
  check (dw.all (fun x => x != 0 && x != 2 ^ ws - 1)) "all-zero or all-one data word"
  let stream := dw.flatMap (unstuffWord ws)
  let content ← parse ws (stream.length + 1) .upper none stream.length stream []
  pure { compact := compact, layers := layers, size := w, wordSize := ws, dataWords := dataWords,
         checkWords := checkWords, streamBits := stream.length, content := content }

/-- the mode message and reference grid part of `decode` -/
def stageMode (w : Nat) (m : Int × Int → Bool) (compact : Bool) : Except String Info := do
  let modeBits := (modeModules compact).map m
  let modeWords := groups 4 (modeBits.length / 4) modeBits
  let modeData := if compact then 2 else 4
  let f16 ← match BV.Spec.RS.aztecField 4 with
    | some f => pure f
    | none => .error "no field"
  check (f16.valid 1 (modeWords.length - modeData) modeWords) "mode message is not a Reed-Solomon codeword"
  let v := (modeWords.take modeData).foldl (fun a x => 16 * a + x) 0
  let layers := (if compact then v / 64 else v / 2048) + 1
  let dataWords := (if compact then v % 64 else v % 2048) + 1
  check (symbolSize compact layers = w) "mode message disagrees with the symbol size"
  let hs : Int := halfSize compact layers
  if !compact then
    check ((square hs.toNat).all (fun p =>
        if p.1 % 16 == 0 then m p == (p.2 % 2 == 0)
        else if p.2 % 16 == 0 then m p == (p.1 % 2 == 0)
        else true))
      "reference grid incomplete"
  stageData w m compact layers dataWords

/-- the finder part of `decode` -/
def stageFinder (w : Nat) (m : Int × Int → Bool) : Except String Info := do
  let compact := !(ringWalk 5).all (fun p => !m p)
  let r := modeRing compact
  check ((square (r - 1)).all (fun p => m p == (cheb p % 2 == 0))) "bullseye damaged"
  check (((ringWalk r).filter (isOrientation r)).all (fun p => m p == (orientationDark r).contains p))
    "orientation marks wrong"
  stageMode w m compact

theorem decode_eq (w h : Nat) (dark : Nat → Nat → Bool) :
    decode w h dark = (do
      check (w = h) "symbol is not square"
      let candidates : List (Bool × Nat) :=
        ((List.range 4).map (fun l => (true, l + 1)) ++ (List.range 32).map (fun l => (false, l + 1))).filter
          (fun p => symbolSize p.1 p.2 = w)
      check (!candidates.isEmpty) "size is not an Aztec size"
      stageFinder w (fun p => dark (((w / 2 : Nat) : Int) + p.1).toNat (((w / 2 : Nat) : Int) + p.2).toNat)) := by
  rfl

/-- a check that passes.  The stage lemmas rewrite with this equation down to a syntactic identity; a closing `rfl`
    would unfold the stage functions rather than reduce the `check`. -/
theorem check_true_bind {α : Type} (msg : String) (k : Unit → Except String α) : (check true msg >>= k) = k () := rfl

theorem stageData_ok (w : Nat) (m : Int × Int → Bool) (compact : Bool) (layers : Nat) (ws : Nat)
    (hws : wordSizeOf layers = ws) (p : Nat) (dw ecc : List Nat) (hp : p < ws)
    (hdw : ∀ x ∈ dw, x < 2 ^ ws) (hecc : ∀ x ∈ ecc, x < 2 ^ ws)
    (hbits : (dataModules compact layers).map m =
      List.replicate p false ++ (dw ++ ecc).flatMap (fun x => msbBits x ws))
    (f : BV.Spec.RS.BinField) (hf : BV.Spec.RS.aztecField ws = some f)
    (hvalid : f.valid 1 ecc.length (dw ++ ecc) = true)
    (hnz : ∀ x ∈ dw, x ≠ 0 ∧ x ≠ 2 ^ ws - 1) (data : Bytes)
    (hparse : parse ws ((dw.flatMap (unstuffWord ws)).length + 1) .upper none (dw.flatMap (unstuffWord ws)).length
      (dw.flatMap (unstuffWord ws)) [] = .ok data) :
    stageData w m compact layers dw.length =
      .ok { compact := compact, layers := layers, size := w, wordSize := ws, dataWords := dw.length,
            checkWords := ecc.length, streamBits := (dw.flatMap (unstuffWord ws)).length, content := data } := by
  have hall : ∀ x ∈ dw ++ ecc, x < 2 ^ ws := by
    intro x hx
    rcases List.mem_append.mp hx with h | h
    · exact hdw x h
    · exact hecc x h
  obtain ⟨r1, r2, r3, r4⟩ := BV.Proofs.AztecCheck.read_back p ws (dw ++ ecc) hp hall
  unfold stageData
  simp only [hws, hbits]
  rw [r4, r1, r3, check_true_bind]
  have h1 : decide (dw.length ≤ (dw ++ ecc).length) = true := by simp
  have h2 : (dw ++ ecc).length - dw.length = ecc.length := by simp
  have h3 : (dw ++ ecc).take dw.length = dw := by simp
  have h4 : (dw.all fun x => x != 0 && x != 2 ^ ws - 1) = true := by
    rw [List.all_eq_true]
    intro x hx
    have := hnz x hx
    simp [this.1, this.2]
  simp only [h1, h2, h3, h4, hf, check_true_bind, hparse, pure_bind, hvalid]
  rfl

/-- the mode stage reads `(layers, dataWords) = (L, W)` from a mode message of the form the encoder produces and,
    given a complete reference grid, hands over to the data stage -/
theorem stageMode_ok (w : Nat) (m : Int × Int → Bool) (compact : Bool) (L W : Nat) (hL : 1 ≤ L)
    (hW : 1 ≤ W ∧ W ≤ (if compact then 64 else 2048)) (mm : List Bool)
    (hmm : (modeModules compact).map m = mm)
    (hvalid : (BV.Spec.RS.BinField.mk 0x13 16).valid 1
      ((groups 4 (mm.length / 4) mm).length - (if compact then 2 else 4)) (groups 4 (mm.length / 4) mm) = true)
    (hv : ((groups 4 (mm.length / 4) mm).take (if compact then 2 else 4)).foldl (fun a x => 16 * a + x) 0 =
      (L - 1) * (if compact then 64 else 2048) + (W - 1))
    (hsize : symbolSize compact L = w)
    (hgrid : compact = false → (square (halfSize compact L)).all (fun p =>
        if p.1 % 16 == 0 then m p == (p.2 % 2 == 0)
        else if p.2 % 16 == 0 then m p == (p.1 % 2 == 0) else true) = true) :
    stageMode w m compact = stageData w m compact L W := by
  obtain ⟨e1, e2⟩ := BV.Proofs.AztecCheck.mode_read_back compact L W hL hW
  unfold stageMode
  simp only [hmm, hv, e1, e2]
  have hf : BV.Spec.RS.aztecField 4 = some ⟨0x13, 16⟩ := rfl
  simp only [hf, pure_bind, hvalid, check_true_bind, hsize, decide_true, Int.toNat_natCast]
  cases compact with
  | true => simp only [Bool.not_true, Bool.false_eq_true, if_false]
  | false => simp only [Bool.not_false, if_true, hgrid rfl, check_true_bind]

theorem stageFinder_ok (w : Nat) (m : Int × Int → Bool) (compact : Bool)
    (h5 : (ringWalk 5).all (fun p => !m p) = !compact)
    (hbull : (square (modeRing compact - 1)).all (fun p => m p == (cheb p % 2 == 0)) = true)
    (horient : ((ringWalk (modeRing compact)).filter (isOrientation (modeRing compact))).all
        (fun p => m p == (orientationDark (modeRing compact)).contains p) = true) :
    stageFinder w m = stageMode w m compact := by
  unfold stageFinder
  simp only [h5, Bool.not_not, hbull, horient, check_true_bind]

/-- the size checks of `decode` pass for the 36 shapes -/
theorem decode_ok (w : Nat) (dark : Nat → Nat → Bool) (compact : Bool) (L : Nat) (hs : Shape compact L)
    (hsize : symbolSize compact L = w) :
    decode w w dark =
      stageFinder w (fun p => dark (((w / 2 : Nat) : Int) + p.1).toNat (((w / 2 : Nat) : Int) + p.2).toNat) := by
  have hmem : (compact, L) ∈ (List.range 4).map (fun l => (true, l + 1)) ++
      (List.range 32).map (fun l => (false, l + 1)) := by
    obtain ⟨h1, h2⟩ := hs
    cases compact
    · have h2 : L ≤ 32 := h2
      exact List.mem_append_right _ (List.mem_map.mpr ⟨L - 1, List.mem_range.mpr (by omega),
        by rw [Nat.sub_add_cancel h1]⟩)
    · have h2 : L ≤ 4 := h2
      exact List.mem_append_left _ (List.mem_map.mpr ⟨L - 1, List.mem_range.mpr (by omega),
        by rw [Nat.sub_add_cancel h1]⟩)
  have hne : (List.filter (fun p : Bool × Nat => decide (symbolSize p.1 p.2 = w))
      ((List.range 4).map (fun l => (true, l + 1)) ++ (List.range 32).map (fun l => (false, l + 1)))).isEmpty =
      false :=
    List.isEmpty_eq_false_iff.mpr (List.ne_nil_of_mem (List.mem_filter.mpr ⟨hmem, decide_eq_true hsize⟩))
  rw [decode_eq]
  simp only [hne, decide_true, Bool.not_false, check_true_bind]

end BV.Proofs.AztecDecode
