/-
  BV.Proofs.PdfDecode — the ISO/IEC 15438 reference decoder `Spec.Pdf417.decode` run on an accepted symbol:
  given what the row reader returns for every pixel line (PdfRender), the decoder accepts and reports the
  true rows / columns / level, the Reed–Solomon check passes and the content is the input data.
-/
import BV.Proofs.PdfRender
import BV.Proofs.PdfRS
namespace BV.Proofs.PdfDecode
open BV BV.Model.Pdf417 BV.Gen.Pdf417 BV.Spec.Pdf417
open BV.Proofs.PdfDims BV.Proofs.PdfFrame BV.Proofs.PdfRS BV.Proofs.PdfHigh BV.Proofs.PdfAccept BV.Proofs.PdfRender

theorem forM_ok {α : Type} (f : α → Except String PUnit) (l : List α)
    (h : ∀ x ∈ l, f x = .ok ⟨⟩) : forM l f = .ok ⟨⟩ := by
  induction l with
  | nil => rfl
  | cons a rest ih =>
    rw [List.forM_cons, h a List.mem_cons_self]
    exact ih (fun r hr => h r (List.mem_cons_of_mem _ hr))

theorem getD_map_range {α : Type} (g : Nat → α) (n i : Nat) (h : i < n) (d : α) :
    ((List.range n).map g).getD i d = g i := by
  rw [List.getD_eq_getElem?_getD, List.getElem?_map, List.getElem?_range h]; rfl

theorem ok_bind {α β : Type} (a : α) (f : α → Except String β) : (Except.ok a >>= f) = f a := rfl

theorem getLastD_frame (a b d : Nat) (l : List Nat) : (a :: (l ++ [b])).getLastD d = b := by
  rw [List.getLastD_eq_getLast?, ← List.cons_append, List.getLast?_append]
  rfl

theorem zip_map_self {α : Type} (g : Nat → α) (l : List Nat) : l.zip (l.map g) = l.map (fun r => (r, g r)) := by
  induction l with
  | nil => rfl
  | cons a rest ih => simp [ih]

theorem strip_rows (L R : Nat → Nat) (grid : List (List Nat)) :
    ((List.range grid.length).map (fun r => L r :: (grid.getD r [] ++ [R r]))).flatMap
      (fun row => (row.drop 1).dropLast) = grid.flatten := by
  rw [List.flatMap_def, List.map_map]
  have : ((fun row => (List.drop 1 row).dropLast) ∘ fun r => L r :: (grid.getD r [] ++ [R r])) =
      fun r => grid.getD r [] := by
    funext r
    simp
  rw [this, map_getD_range]

/-- the Spec counts exactly the pad codewords when the data does not end in 900 -/
theorem trailingPads_append (cws : List Nat) (p : Nat) (h : cws.getLast? ≠ some 900) :
    trailingPads (cws ++ List.replicate p 900) = p := by
  unfold trailingPads
  rw [List.reverse_append, List.reverse_replicate]
  have h2 : ∀ (q : Nat) (l : List Nat), l.head? ≠ some 900 →
      ((List.replicate q 900 ++ l).takeWhile (· == 900)).length = q := by
    intro q l hl
    induction q with
    | zero =>
      cases l with
      | nil => rfl
      | cons a rest =>
        have : a ≠ 900 := by intro e; apply hl; simp [e]
        simp [this]
    | succ q ih =>
      rw [List.replicate_succ, List.cons_append, List.takeWhile_cons]
      simp only [beq_self_eq_true, if_true, List.length_cons, ih]
  apply h2
  rw [List.head?_reverse]
  exact h

/-- a picture of `17·(cols+4)+1` by `2·rows` modules passes the decoder's tests of its size -/
theorem size_tests (cols rows : Nat) (hc : 1 ≤ cols ∧ cols ≤ 30) (hr : 2 ≤ rows ∧ rows ≤ 30) :
    ((2 * rows) % 2 != 0) = false ∧
    (decide (17 * (cols + 4) + 1 < 17 * 5 + 1) || (17 * (cols + 4) + 1 - 1) % 17 != 0) = false ∧
    (17 * (cols + 4) + 1 - 1) / 17 - 4 = cols ∧ 2 * rows / 2 = rows ∧ ¬ (cols > 30) ∧
    (decide (rows < 2) || decide (rows > 90)) = false := by
  refine ⟨by simp, by simp; omega, by omega, by omega, by omega, by simp; omega⟩

/-- what the decoder reports for an accepted symbol -/
def infoOf (data : Bytes) (cws : List Nat) (cols rows lvl : Nat) : Info :=
  { rows := rows, cols := cols, level := lvl,
    dataCodewords := cws.length + (getPadding cws.length (2 ^ (lvl + 1)) cols).length + 1,
    padCount := (getPadding cws.length (2 ^ (lvl + 1)) cols).length,
    ecCount := 2 ^ (lvl + 1), content := data }

/-- If the row reader returns, for both pixel lines of every row `r`, the ISO indicators and the `r`-th
    row of the grid of `symbolCodewords`, then `Spec.Pdf417.decode` accepts the picture: declared rows, columns
    and level are the true ones, every indicator is right, the length descriptor is rows·cols − 2^(lvl+1), the
    Reed–Solomon check passes, exactly the pad codewords are stripped and the content is `data`. -/
theorem decode_of_rows (dark : Nat → Nat → Bool) (data : Bytes) (cws : List Nat) (cols rows lvl : Nat)
    (grid : List (List Nat))
    (hc : 2 ≤ cols ∧ cols ≤ 30) (hr : 2 ≤ rows ∧ rows ≤ 30) (hl : lvl ≤ 8)
    (hrows : rows = calculateNumberOfRows cws.length (2 ^ (lvl + 1)) cols)
    (hsmall : cws.length + 1 + 2 ^ (lvl + 1) ≤ 900)
    (hlt : ∀ c ∈ cws, c < 929) (hdec : decodeData cws = .ok data) (hlast : cws.getLast? ≠ some 900)
    (hg1 : grid.length = rows) (hg3 : grid.flatten = symbolCodewords cws cols lvl)
    (hrowdec : ∀ r, r < rows → ∀ y, (y = 2 * r ∨ y = 2 * r + 1) →
      decodeRow cols r ((List.range (17 * (cols + 4) + 1)).map (fun x => dark x y)) =
        .ok (getLeftCodeWord r rows cols lvl :: (grid.getD r [] ++ [getRightCodeWord r rows cols lvl])))
    (hsame : ∀ r, r < rows → (List.range (17 * (cols + 4) + 1)).map (fun x => dark x (2 * r)) =
      (List.range (17 * (cols + 4) + 1)).map (fun x => dark x (2 * r + 1))) :
    decode (17 * (cols + 4) + 1) (2 * rows) dark = .ok (infoOf data cws cols rows lvl) := by
  obtain ⟨c1, c2, e1, e2, c3, c4⟩ := size_tests cols rows ⟨by omega, hc.2⟩ hr
  unfold decode
  simp only [c1, c2, e1, e2, c3, c4, Bool.false_eq_true, if_false]
  rw [Bars.mapM_ok _ (fun r => getLeftCodeWord r rows cols lvl :: (grid.getD r [] ++ [getRightCodeWord r rows cols lvl]))
    _ (by
      intro r hr'
      rw [List.mem_range] at hr'
      rw [hsame r hr', bne_self_eq_false]
      simp only [Bool.false_eq_true, if_false]
      rw [← hsame r hr']
      exact hrowdec r hr' _ (Or.inl rfl))]
  rw [ok_bind]
  have v0 := getD_map_range (fun r => getLeftCodeWord r rows cols lvl ::
    (grid.getD r [] ++ [getRightCodeWord r rows cols lvl])) rows 0 (by omega) []
  have v1 := getD_map_range (fun r => getLeftCodeWord r rows cols lvl ::
    (grid.getD r [] ++ [getRightCodeWord r rows cols lvl])) rows 1 (by omega) []
  obtain ⟨d1, d2, d3⟩ := indicators_declare rows cols lvl (by omega) (by omega) hl
  have c5 : ¬ (lvl > 8) := by omega
  simp only [v0, v1, List.headD_cons, getLastD_frame, d1, d2, d3, c5, bne_self_eq_false, Bool.false_eq_true,
    if_false]
  -- every indicator of every row
  rw [List.forM_eq_forM, forM_ok _ _ (by
    intro x hx
    rw [zip_map_self, List.mem_map] at hx
    obtain ⟨r, _, rfl⟩ := hx
    simp only [List.headD_cons, getLastD_frame, left_eq, right_eq, bne_self_eq_false, Bool.false_eq_true,
      if_false]
    rfl)]
  rw [ok_bind]
  -- the codeword sequence
  have hstrip := strip_rows (fun r => getLeftCodeWord r rows cols lvl) (fun r => getRightCodeWord r rows cols lvl) grid
  rw [hg1] at hstrip
  simp only [hstrip, hg3]
  obtain ⟨hp1, hp2, hp3⟩ := padding_spec cws.length (2 ^ (lvl + 1)) cols (by omega)
  rw [← hrows] at hp2
  have hpad : getPadding cws.length (2 ^ (lvl + 1)) cols =
      List.replicate (getPadding cws.length (2 ^ (lvl + 1)) cols).length 900 :=
    List.eq_replicate_iff.mpr ⟨rfl, hp3⟩
  have hck := checkWords_length lvl hl (dataRegion cws cols lvl)
  have hdl := dataRegion_length cws cols lvl
  have f1 : (symbolCodewords cws cols lvl).length =
      cws.length + (getPadding cws.length (2 ^ (lvl + 1)) cols).length + 1 + 2 ^ (lvl + 1) := by
    rw [symbolCodewords, List.length_append, hck, hdl]
  have f2 : (symbolCodewords cws cols lvl).headD 0 =
      cws.length + (getPadding cws.length (2 ^ (lvl + 1)) cols).length + 1 := rfl
  have c6 : ¬ ((symbolCodewords cws cols lvl).length ≤ 2 ^ (lvl + 1)) := by
    rw [f1]; exact Nat.not_le.mpr (Nat.lt_add_of_pos_left (Nat.succ_pos _))
  have f3 : (symbolCodewords cws cols lvl).length - 2 ^ (lvl + 1) =
      cws.length + (getPadding cws.length (2 ^ (lvl + 1)) cols).length + 1 := by rw [f1, Nat.add_sub_cancel]
  have hdlt : ∀ d ∈ dataRegion cws cols lvl, d < 929 := fun d hd =>
    symbolCodewords_lt cws cols lvl ⟨by omega, hc.2⟩ hlt hsmall d (List.mem_append_left _ hd)
  have f4 : Spec.RS.valid929 (2 ^ (lvl + 1)) (symbolCodewords cws cols lvl) = true :=
    checkWords_valid lvl hl (dataRegion cws cols lvl) hdlt
  have f5 : List.drop 1 (List.take (cws.length + (getPadding cws.length (2 ^ (lvl + 1)) cols).length + 1)
      (symbolCodewords cws cols lvl)) = cws ++ getPadding cws.length (2 ^ (lvl + 1)) cols := by
    rw [symbolCodewords, List.take_left' hdl]
    rfl
  have f6 : trailingPads (cws ++ getPadding cws.length (2 ^ (lvl + 1)) cols) =
      (getPadding cws.length (2 ^ (lvl + 1)) cols).length := by
    rw [hpad, trailingPads_append cws _ hlast, List.length_replicate]
  have f7 : List.take ((cws ++ getPadding cws.length (2 ^ (lvl + 1)) cols).length -
      (getPadding cws.length (2 ^ (lvl + 1)) cols).length)
      (cws ++ getPadding cws.length (2 ^ (lvl + 1)) cols) = cws := by
    rw [List.length_append, Nat.add_sub_cancel, List.take_left' rfl]
  simp only [c6, f2, f3, f4, f5, f6, f7, hdec, if_false, bne_self_eq_false, Bool.false_eq_true, Bool.not_true]
  rfl

/-- the reference decoder accepts the picture of an accepted symbol -/
theorem decode_symbolOf (data : Bytes) (cws : List Nat) (cols rows lvl : Nat) (s : Scheme)
    (hc : 2 ≤ cols ∧ cols ≤ 30) (hr : 2 ≤ rows ∧ rows ≤ 30) (hl : lvl ≤ 8)
    (hrows : rows = calculateNumberOfRows cws.length (2 ^ (lvl + 1)) cols)
    (hsmall : cws.length + 1 + 2 ^ (lvl + 1) ≤ 900)
    (hlt : ∀ c ∈ cws, c < 929) (hdec : decodeData cws = .ok data) (hlast : cws.getLast? ≠ some 900) :
    decode (symbolOf data cws cols rows lvl s).w (symbolOf data cws cols rows lvl s).h
      (symbolOf data cws cols rows lvl s).dark = .ok (infoOf data cws cols rows lvl) := by
  have hlen := symbolCodewords_length cws cols lvl hl (by omega)
  rw [← hrows] at hlen
  have hcwlt := symbolCodewords_lt cws cols lvl ⟨by omega, hc.2⟩ hlt hsmall
  obtain ⟨g1, _, g3⟩ := gridRows_spec cols (by omega) rows ((symbolCodewords cws cols lvl).length + 1)
    (symbolCodewords cws cols lvl) hlen (by omega)
  obtain ⟨hw, hh, hrowsdec⟩ := symbol_rows data cws cols rows lvl s hc hr hl hlen hcwlt
  have hsame := symbol_lines_equal data cws cols rows lvl s (by omega) hlen
  rw [hw] at hrowsdec hsame
  rw [hw, hh]
  exact decode_of_rows _ data cws cols rows lvl _ hc hr hl hrows hsmall hlt hdec hlast g1 g3 hrowsdec hsame

end BV.Proofs.PdfDecode
