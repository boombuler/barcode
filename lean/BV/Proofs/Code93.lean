/-
  BV.Proofs.Code93 — Code 93: table certificates, drawing, check characters C and K, full-ASCII pairs, round trip
  through `Spec.OneD.c93Decode`.
-/
import BV.Model.Code93
import BV.Proofs.Bars
import BV.Proofs.ShiftCode
namespace BV.Proofs.Code93
open BV BV.Model BV.Model.Code93 BV.Spec.OneD BV.Proofs.Utf8 BV.Proofs.Bars BV.Proofs.Pairs BV.Proofs.ShiftCode

/-! ### table certificates -/

theorem cert_widths :
    c93Widths.length = 48 ∧ OneD.distinct (c93Widths.map rowKey) 0 = true ∧ ∀ ws ∈ c93Widths, ∀ w ∈ ws, 0 < w := by
  unfold c93Widths
  rw [digitsOfString_splitOn, String.toList_ofList]
  decide +kernel

/-- certificate (48 entries): every table entry is ASCII or one of U+00F1..U+00F4, its value is below 48, its 9-module
    pattern is the expansion of the reference element widths listed at its value, and the reference maps the value
    back to the character; only `*` has value 47 -/
theorem cert_table : ∀ e ∈ table, (e.1 < 128 ∨ (241 ≤ e.1 ∧ e.1 ≤ 244)) ∧ 0 ≤ e.2.1 ∧ e.2.1 < 48 ∧
    msbBits e.2.2.toNat 9 = expand true (c93Widths.getD e.2.1.toNat []) ∧
    c93Rune e.2.1.toNat = e.1.toNat ∧ (e.2.1 = 47 ↔ e.1 = 42) := by
  unfold c93Widths
  rw [digitsOfString_splitOn, String.toList_ofList]
  decide +kernel

def InTable (r : Nat) : Prop := (mapGet table (r : Int)).isSome = true
def valOf (r : Nat) : Nat := match mapGet table (r : Int) with | some (v, _) => v.toNat | none => 0
def pat9 (r : Nat) : List Bool := match mapGet table (r : Int) with | some (_, p) => msbBits p.toNat 9 | none => []
/-- the 47 data characters: 43 as in Code 39 and the four shift characters U+00F1..U+00F4 -/
def Alpha47 (r : Nat) : Prop := InTable r ∧ r ≠ 42

instance (r : Nat) : Decidable (InTable r) := by unfold InTable; infer_instance
instance (r : Nat) : Decidable (Alpha47 r) := by unfold Alpha47; infer_instance

section
variable {r : Nat} {v p : Int} (h : mapGet table (r : Int) = some (v, p))
include h

theorem valOf_eq : valOf r = v.toNat := by unfold valOf; rw [h]

theorem pat9_eq : pat9 r = msbBits p.toNat 9 := by unfold pat9; rw [h]

theorem val_nonneg : 0 ≤ v := (cert_table _ (mem_of_mapGet h)).2.1

end

/-- what `cert_table` says of a table character, in terms of `valOf` and `pat9` -/
structure TableChar (r : Nat) : Prop where
  range : r < 128 ∨ (241 ≤ r ∧ r ≤ 244)
  val_lt : valOf r < 48
  pat9_widths : pat9 r = expand true (c93Widths.getD (valOf r) [])
  rune_val : c93Rune (valOf r) = r
  val_stop : valOf r = 47 ↔ r = 42

theorem tableChar {r : Nat} (h : InTable r) : TableChar r := by
  obtain ⟨⟨v, p⟩, hb⟩ := Option.isSome_iff_exists.1 h
  have := cert_table _ (mem_of_mapGet hb)
  simp only [Int.toNat_natCast] at this
  obtain ⟨h1, h2, h3, h4, h5, h6⟩ := this
  have hv := valOf_eq hb
  exact ⟨by omega, by omega, by rw [pat9_eq hb, hv]; exact h4, by rw [hv]; exact h5, by omega⟩

theorem length_pat9 {r : Nat} (h : InTable r) : (pat9 r).length = 9 := by
  obtain ⟨⟨v, p⟩, hb⟩ := Option.isSome_iff_exists.1 h
  rw [pat9_eq hb]
  simp [msbBits]

/-! ### drawing -/

theorem draw_go_nil (acc : List Bool) : drawData.go [] acc = some (acc ++ [true]) := by rw [drawData.go]

theorem draw_go_cons (q : Nat × Nat) (rest : List (Nat × Nat)) (acc : List Bool) :
    drawData.go (q :: rest) acc =
      ((mapGet table (q.2 : Int)).map fun e => msbBits e.2.toNat 9).bind fun bs => drawData.go rest (acc ++ bs) := by
  obtain ⟨i, r⟩ := q
  rw [drawData.go]
  cases mapGet table (r : Int) <;> rfl

/-- the module row of a character sequence: 9-module patterns and the termination bar -/
def drawBits (rs : List Nat) : List Bool := rs.flatMap pat9 ++ [true]

theorem drawData_ok (data : Bytes) (h : ∀ r ∈ runeList data, InTable r) :
    drawData data = some (drawBits (runeList data)) := by
  unfold drawData
  rw [OneD.loop_ok draw_go_nil draw_go_cons (fun q => pat9 q.2)]
  · simp [drawBits, runeList, List.flatMap_map]
  · intro q hq
    obtain ⟨⟨v, p⟩, hb⟩ := Option.isSome_iff_exists.1 (h q.2 (List.mem_map.2 ⟨q, hq, rfl⟩))
    rw [hb, pat9_eq hb]; rfl

theorem drawData_fail (data : Bytes) (h : ∃ r ∈ runeList data, ¬ InTable r) : drawData data = none :=
  draw_fail draw_go_cons data h

/-! ### the reference decoder, split into its module-level and its value-level part -/

/-- decoding of one 9-module group, as in `c93Decode` -/
def c93Group (grp : List Bool) : Except String Nat :=
  match widthsFromBar (runLengths grp) with
  | some ws =>
    match c93Widths.findIdx? (· == ws) with
    | some v => pure v
    | none => throw "unknown character pattern"
  | none => throw "character does not start with a bar"

/-- the value-level part of `c93Decode` -/
def c93Tail (withCheck fullASCII : Bool) (vals : List Nat) : Except String C93Info := do
  if vals.length < 2 ∨ vals.head? ≠ some 47 ∨ vals.getLast? ≠ some 47 then throw "start/stop"
  let inner := (vals.drop 1).dropLast
  if inner.any (· == 47) then throw "start/stop character inside the data"
  let data ←
    if withCheck then
      if inner.length < 2 then throw "no check characters"
      else
        let d := inner.take (inner.length - 2)
        let c := inner.getD (inner.length - 2) 0
        let k := inner.getD (inner.length - 1) 0
        if c ≠ c93Check d 20 then throw "wrong check character C"
        if k ≠ c93Check (d ++ [c]) 15 then throw "wrong check character K"
        pure d
    else pure inner
  resolveFull 0xF1 0xF2 0xF3 0xF4 (fun t b => { text := t, basic := b }) fullASCII (data.map c93Rune)

theorem c93Decode_eq (withCheck fullASCII : Bool) (bits : List Bool) :
    c93Decode withCheck fullASCII bits =
      if bits.length < 19 ∨ (bits.length - 1) % 9 ≠ 0 then throw "length is not 9n+1"
      else if bits.getLastD false ≠ true then throw "termination bar"
      else (splitEvery 9 bits.dropLast).mapM c93Group >>= c93Tail withCheck fullASCII := by
  rfl

/-- The pattern of a table character is the drawing of the width entry at its value; the entries are positive, so the
    widths are read back, and pairwise distinct, so the search finds the value. -/
theorem group_pat9 {r : Nat} (h : InTable r) : c93Group (pat9 r) = .ok (valOf r) := by
  obtain ⟨hlen, hnd, hpos⟩ := cert_widths
  have hi : valOf r < c93Widths.length := by rw [hlen]; exact (tableChar h).val_lt
  unfold c93Group
  rw [(tableChar h).pat9_widths, widths_expand _ (hpos _ (OneD.getD_mem hi []))]
  simp only [OneD.findIdx?_getD (OneD.nodup_of_keys rowKey hnd) hi]
  rfl

/-- module level: a row of at least two table characters and the termination bar is read back value by value -/
theorem decode_drawBits (cs full : Bool) (rs : List Nat) (h2 : 2 ≤ rs.length) (h : ∀ r ∈ rs, InTable r) :
    c93Decode cs full (drawBits rs) = c93Tail cs full (rs.map valOf) := by
  have hfl : rs.flatMap pat9 = (rs.map pat9).flatten := List.flatMap_def
  have hlen : (drawBits rs).length = 9 * rs.length + 1 := by
    rw [drawBits, List.length_append, hfl,
      OneD.flatten_length_const 9 _ (List.forall_mem_map.2 fun r hr => length_pat9 (h r hr)), List.length_map]
    rfl
  rw [c93Decode_eq, if_neg (by rw [hlen]; simp; omega), if_neg (by simp [drawBits]), drawBits, List.dropLast_concat, hfl,
    OneD.mapM_splitEvery 9 (by omega) c93Group pat9 valOf rs fun r hr => ⟨length_pat9 (h r hr), group_pat9 (h r hr)⟩]
  rfl


/-! ### check characters C and K -/

/-- the model's weighted sum is the reference weighted sum of the character values -/
theorem checksum_go_eq (mw : Nat) : ∀ (l : List Nat) (w total : Nat), (∀ r ∈ l, InTable r) →
    getChecksum.go (mw : Int) l (w : Int) (total : Int) = some ((c93Check.go mw (l.map valOf) w total : Nat) : Int) := by
  intro l
  induction l with
  | nil => intro w total _; rw [getChecksum.go]; rfl
  | cons r t ih =>
    intro w total h
    obtain ⟨⟨v, p⟩, hb⟩ := Option.isSome_iff_exists.1 (h r (by simp))
    have hv0 := val_nonneg hb
    have hv := valOf_eq hb
    rw [getChecksum.go]
    simp only [hb]
    rw [List.map_cons, c93Check.go]
    have hw : (if (w : Int) + 1 > (mw : Int) then (1 : Int) else (w : Int) + 1) =
        ((if w + 1 > mw then 1 else w + 1 : Nat) : Int) := by
      by_cases h : w + 1 > mw
      · rw [if_pos h, if_pos (by omega)]; rfl
      · rw [if_neg h, if_neg (by omega)]; rfl
    have ht : (total : Int) + v * (w : Int) = ((total + valOf r * w : Nat) : Int) := by
      rw [hv, Int.natCast_add, Int.natCast_mul, Int.toNat_of_nonneg hv0]
    rw [hw, ht]
    exact ih _ _ (fun x hx => h x (by simp [hx]))

/-- certificate (47 values): the check value is mapped back to the data character of that value -/
theorem cert_check : ∀ v < 47, (match runeWithValue ((v : Nat) : Int) with
    | some r => decide (Alpha47 r) && valOf r == v
    | none => false) = true := by decide +kernel

theorem getChecksum_ok (content : Bytes) (mw : Nat) (h : ∀ r ∈ runeList content, InTable r) :
    Alpha47 (getChecksum content (mw : Int)) ∧
    valOf (getChecksum content (mw : Int)) = c93Check ((runeList content).map valOf) mw := by
  unfold getChecksum
  have := checksum_go_eq mw (runeList content).reverse 1 0 (fun r hr => h r (List.mem_reverse.1 hr))
  rw [show ((1 : Nat) : Int) = 1 from rfl, show ((0 : Nat) : Int) = 0 from rfl] at this
  rw [this]
  simp only
  rw [show (47 : Int) = ((47 : Nat) : Int) from rfl, ← Int.ofNat_tmod, List.map_reverse]
  have hc := cert_check (c93Check.go mw ((runeList content).map valOf).reverse 1 0 % 47) (Nat.mod_lt _ (by omega))
  split at hc
  · rename_i r hr
    simp only [Bool.and_eq_true, decide_eq_true_eq, beq_iff_eq] at hc
    rw [hr]
    exact hc
  · exact absurd hc (by simp)


/-! ### value level -/

theorem rune_val_map (rs : List Nat) (hA : ∀ r ∈ rs, InTable r) : (rs.map valOf).map c93Rune = rs :=
  map_map_cancel fun r hr => (tableChar (hA r hr)).rune_val

theorem no_stop (rs : List Nat) (hA : ∀ r ∈ rs, Alpha47 r) : (rs.map valOf).any (· == 47) = false :=
  any_beq_map fun r hr h => (hA r hr).2 ((tableChar (hA r hr).1).val_stop.1 h)

theorem take_two {α} (l : List α) (a b : α) (d : α) :
    (l ++ [a, b]).take ((l ++ [a, b]).length - 2) = l ∧
    (l ++ [a, b]).getD ((l ++ [a, b]).length - 2) d = a ∧
    (l ++ [a, b]).getD ((l ++ [a, b]).length - 1) d = b := by
  have hl : (l ++ [a, b]).length = l.length + 2 := by simp
  refine ⟨?_, ?_, ?_⟩
  · rw [hl]; exact List.take_left' (by omega)
  · rw [hl, List.getD_eq_getElem?_getD, List.getElem?_append_right (by omega)]
    simp
  · rw [hl, List.getD_eq_getElem?_getD, List.getElem?_append_right (by omega)]
    have : l.length + 2 - 1 - l.length = 1 := by omega
    rw [this]; rfl

/-- value level: start, data, the two check characters with the right values (if requested), stop are accepted, and
    what remains is to resolve the shift pairs of the data -/
theorem tail_eval (cs full : Bool) (rs : List Nat) (hA : ∀ r ∈ rs, Alpha47 r) (c k : Nat)
    (hc : Alpha47 c) (hcv : valOf c = c93Check (rs.map valOf) 20)
    (hk : Alpha47 k) (hkv : valOf k = c93Check ((rs ++ [c]).map valOf) 15) :
    c93Tail cs full ((42 :: (rs ++ (if cs then [c, k] else [])) ++ [42]).map valOf) =
      resolveFull 0xF1 0xF2 0xF3 0xF4 (fun t b => { text := t, basic := b }) full rs := by
  have hstar : valOf 42 = 47 := by decide
  have hbody : ∀ r ∈ rs ++ (if cs then [c, k] else []), Alpha47 r := by
    intro r hr
    rcases List.mem_append.1 hr with hr | hr
    · exact hA r hr
    · exact forall_mem_ite cs (by simp [hc, hk]) r hr
  generalize hbd : rs ++ (if cs then [c, k] else []) = body at hbody
  unfold c93Tail
  simp only [List.map_cons, List.map_append, List.map_nil, hstar, List.cons_append]
  obtain ⟨hfr, hinner⟩ := startStop_frame 47 (body.map valOf)
  simp only [bind, Except.bind, pure, Except.pure, throw, throwThe, MonadExceptOf.throw]
  rw [if_neg hfr, hinner, no_stop body hbody]
  simp only [Bool.false_eq_true, if_false]
  cases cs with
  | false =>
    simp only [Bool.false_eq_true, if_false, List.append_nil] at hbd ⊢
    subst hbd
    rw [rune_val_map rs (fun r hr => (hA r hr).1)]
  | true =>
    simp only [if_true] at hbd ⊢
    subst hbd
    rw [List.map_append, List.map_cons, List.map_cons, List.map_nil]
    obtain ⟨t1, t2, t3⟩ := take_two (rs.map valOf) (valOf c) (valOf k) 0
    rw [if_neg (by simp), t1, t2, t3, if_neg (by rw [hcv]; simp), if_neg (by
      rw [hkv, List.map_append]; simp)]
    rw [rune_val_map rs (fun r hr => (hA r hr).1)]


/-! ### the encoder -/

theorem runeWithValue_lt {v : Int} {r : Nat} (h : runeWithValue v = some r) : r < 256 := by
  unfold runeWithValue at h
  split at h
  · rename_i e he
    simp only [Option.some.injEq] at h
    have := (cert_table e (List.mem_of_find?_eq_some he)).1
    omega
  · exact absurd h (by simp)

theorem getChecksum_lt (content : Bytes) (mw : Int) : getChecksum content mw < 256 := by
  unfold getChecksum
  split
  · omega
  · split
    · rename_i r hr; exact runeWithValue_lt hr
    · omega

/-- the check character C and the content extended by it -/
def chkC (content : Bytes) : Nat := getChecksum content 20
def withC (content : Bytes) : Bytes := content ++ encodeRune (chkC content)
def chkK (content : Bytes) : Nat := getChecksum (withC content) 15

/-- the character string that is drawn: start, content, optional check characters, stop -/
def dataOf (content : Bytes) (cs : Bool) : Bytes :=
  [42] ++ (if cs then withC content ++ encodeRune (chkK content) else content) ++ [42]

theorem encodeWithColor_eq (text : Bytes) (cs full : Bool) (s : Scheme) :
    encodeWithColor text cs full s =
      encodeVia prepare (fun content => drawData (dataOf content cs))
        (fun content bits => mk1D (kindStr Gen.Root.c_TypeCode93) content bits none s) text full := by
  rfl

theorem runeList_withC (content : Bytes) : runeList (withC content) = runeList content ++ [chkC content] := by
  have hc : chkC content < 0x800 := by have := getChecksum_lt content 20; unfold chkC; omega
  unfold withC
  have := runeList_encodeRune_append hc []
  rw [List.append_nil] at this
  rw [runeList_append _ _ (by have := cleanStart_encodeRune hc []; rwa [List.append_nil] at this), this]
  rfl

theorem runeList_dataOf (content : Bytes) (cs : Bool) :
    runeList (dataOf content cs) =
      42 :: (runeList content ++ (if cs then [chkC content, chkK content] else [])) ++ [42] := by
  have hc : chkC content < 0x800 := by have := getChecksum_lt content 20; unfold chkC; omega
  have hk : chkK content < 0x800 := by have := getChecksum_lt (withC content) 15; unfold chkK; omega
  have h42 : ((42 : UInt8)).toNat < 128 := by decide
  unfold dataOf
  rw [List.append_assoc, List.cons_append, List.nil_append, runeList_cons_ascii 42 _ h42]
  cases cs with
  | false =>
    simp only [Bool.false_eq_true, if_false, List.append_nil]
    rw [runeList_append _ _ (cleanStart_ascii h42), runeList_cons_ascii 42 _ h42]
    rfl
  | true =>
    simp only [if_true]
    unfold withC
    rw [List.append_assoc, List.append_assoc, runeList_append _ _ (cleanStart_encodeRune hc _),
      runeList_encodeRune_append hc, runeList_encodeRune_append hk, runeList_cons_ascii 42 _ h42]
    simp
    rfl

theorem inTable_42 : InTable 42 := by decide

/-- positive direction: a content of data characters is drawn as start, content, check characters C and K, stop -/
theorem draw_content (content : Bytes) (cs : Bool) (hA : ∀ r ∈ runeList content, Alpha47 r) :
    Alpha47 (chkC content) ∧ valOf (chkC content) = c93Check ((runeList content).map valOf) 20 ∧
    Alpha47 (chkK content) ∧
    valOf (chkK content) = c93Check ((runeList content ++ [chkC content]).map valOf) 15 ∧
    (∀ r ∈ 42 :: (runeList content ++ (if cs then [chkC content, chkK content] else [])) ++ [42], InTable r) ∧
    drawData (dataOf content cs) =
      some (drawBits (42 :: (runeList content ++ (if cs then [chkC content, chkK content] else [])) ++ [42])) := by
  have hC := getChecksum_ok content 20 (fun r hr => (hA r hr).1)
  have hK := getChecksum_ok (withC content) 15 (by
    rw [runeList_withC]
    intro r hr
    rcases List.mem_append.1 hr with hr | hr
    · exact (hA r hr).1
    · simp only [List.mem_cons, List.not_mem_nil, or_false] at hr; subst hr; exact hC.1.1)
  rw [runeList_withC] at hK
  have hin := forall_mem_frame inTable_42 (fun r hr => (hA r hr).1)
    (forall_mem_ite cs (l := [chkC content, chkK content]) (by
      intro r hr
      simp only [List.mem_cons, List.not_mem_nil, or_false] at hr
      rcases hr with rfl | rfl
      · exact hC.1.1
      · exact hK.1.1))
  refine ⟨hC.1, hC.2, hK.1, hK.2, hin, ?_⟩
  rw [drawData_ok, runeList_dataOf]
  rw [runeList_dataOf]; exact hin

/-- negative direction: if the string can be drawn, every rune of the content is a table character -/
theorem drawable_inv (cs : Bool) (content : Bytes) (h : drawData (dataOf content cs) ≠ none) :
    ∀ r ∈ runeList content, InTable r := by
  intro r hr
  apply Classical.byContradiction
  intro hn
  exact h (drawData_fail _ ⟨r, by rw [runeList_dataOf]; simp [hr], hn⟩)


/-! ### full-ASCII expansion (`prepare`) -/

/-- the bytes `prepare` emits for one rune -/
def pieceB (r : Nat) : Bytes := extTable.getD r []

theorem prepare_eq (text : Bytes) :
    prepare text = if ∀ r ∈ runeList text, r ≤ 127 then some ((runeList text).flatMap pieceB) else none :=
  prepare_spec (fun acc => by rw [prepare.go]) (fun q rest acc => by rw [prepare.go]; rfl) text

/-- certificate (128 entries): the expansion of every ASCII character is valid UTF-8 for one or two of the 47 data
    characters, and the reference pair rules of USS-93 resolve it to the character -/
theorem cert_pieces : ∀ r < 128, CleanStart (pieceB r) ∧
    (∀ x ∈ runeList (pieceB r), Alpha47 x) ∧
    goodPiece 0xF1 0xF2 0xF3 0xF4 r (runeList (pieceB r)) = true := by decide +kernel

end BV.Proofs.Code93
