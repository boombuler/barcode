/-
  BV.Proofs.AztecSearch — the search of the Aztec high-level encoder keeps, for every state in its list, the
  invariant "the tokens (plus the pending binary shift) are parsed by the reference parser to the bytes
  processed so far, ending in the state's mode"; `highlevelEncode` therefore round-trips.
-/
import BV.Proofs.AztecStream
namespace BV.Proofs.AztecSearch
open BV BV.Model.Aztec BV.Proofs.Bits BV.Proofs.AztecBits BV.Proofs.AztecStream
open BV.Spec.Aztec (Mode Act parse table codeBits takeBytes byte)

/-- the bits of a token list (most recent token first), oldest token first -/
def tokBits (text : Array UInt8) (toks : List Token) : List Bool := toks.reverse.flatMap (Token.bits text)

theorem tokBits_cons (text : Array UInt8) (t : Token) (toks : List Token) :
    tokBits text (t :: toks) = tokBits text toks ++ t.bits text := by
  simp [tokBits]

theorem tokBits_nil (text : Array UInt8) : tokBits text [] = [] := rfl

theorem bits_simple (text : Array UInt8) (v k : Nat) : Token.bits text (.simple v k) = msbBits v k := by
  simp [Token.bits, addBits_natCast]

/-- the invariant of a search state after `i` bytes (allowing a full pending run of 2078 bytes) -/
structure Inv' (ws : Nat) (data : Bytes) (i : Nat) (st : State) : Prop where
  mode_lt : st.mode < 5
  cnt_le : st.bShiftByteCount ≤ i
  i_le : i ≤ data.length
  /-- The tokens cover the bytes before the pending binary-shift run.  Without a pending run they are empty or end
      in a character code, which is never all ones, so the run is strong (padding may follow); with one they may end in
      a latch, and the run is weak until the binary-shift token is appended. -/
  run : Run ws (st.bShiftByteCount == 0) .upper (tokBits data.toArray st.tokens) (modeOf st.mode)
    (data.take (i - st.bShiftByteCount))
  bmode : 0 < st.bShiftByteCount → BinMode (modeOf st.mode)
  cnt_max : st.bShiftByteCount ≤ 2078
  /-- the dearest byte opens a binary-shift run out of Punct or Digit: a 5-bit latch to Upper, then 18 bits
      (B/S code, 5-bit length, the byte) -/
  bitCount_le : st.bitCount ≤ 23 * i

/-- the invariant of the states in the search list -/
def Inv (ws : Nat) (data : Bytes) (i : Nat) (st : State) : Prop :=
  Inv' ws data i st ∧ st.bShiftByteCount < 2078

theorem take_append_runBytes (data : Bytes) (i n : Nat) (hn : n ≤ i) (hi : i ≤ data.length) :
    data.take (i - n) ++ runBytes data.toArray (i - n) (List.range n) = data.take i := by
  have e : i = (i - n) + n := by omega
  conv => rhs; rw [e, List.take_add]
  congr 1
  apply List.ext_getElem
  · simp; omega
  · intro j h1 h2
    simp only [length_runBytes, List.length_range] at h1
    simp only [runBytes, List.getElem_map, List.getElem_range, List.getElem_take, List.getElem_drop]
    simp [Array.getD, show i - n + j < data.length by omega]

theorem inv_endBinaryShift (ws : Nat) (hws : ws ≤ 18) (data : Bytes) (i : Nat) (st : State)
    (h : Inv' ws data i st) :
    Inv ws data i (st.endBinaryShift i) ∧ (st.endBinaryShift i).bShiftByteCount = 0 ∧
      (st.endBinaryShift i).mode = st.mode ∧ (st.endBinaryShift i).bitCount = st.bitCount := by
  unfold State.endBinaryShift
  split
  · rename_i h0
    have h0 : st.bShiftByteCount = 0 := by simpa using h0
    exact ⟨⟨h, by omega⟩, h0, rfl, rfl⟩
  · rename_i h0
    have h0 : st.bShiftByteCount ≠ 0 := by simpa using h0
    refine ⟨⟨⟨h.mode_lt, by simp, h.i_le, ?_, by simp, by simp, h.bitCount_le⟩, by simp⟩, rfl, rfl, rfl⟩
    simp only [newShiftToken, tokBits_cons, BEq.rfl, Nat.sub_zero]
    have hb := Run.binaryToken ws hws (modeOf st.mode) (h.bmode (by omega)) data.toArray
      (i - st.bShiftByteCount) st.bShiftByteCount (by omega) h.cnt_max
    have := Run.append h.run.weaken hb.1 (fun _ => hb.2)
    rw [take_append_runBytes data i _ h.cnt_le h.i_le] at this
    exact this

/-- tokens and bit count after the latch from the state's mode to `mode`, if one is needed (the first step of
    `latchAndAppend` and of `addBinaryShiftChar`) -/
def latched (s : State) (mode : Nat) : List Token × Nat :=
  if mode != s.mode then
    (newSimpleToken s.tokens (latchTable s.mode mode &&& 0xFFFF) (latchTable s.mode mode >>> 16),
      s.bitCount + (latchTable s.mode mode >>> 16))
  else (s.tokens, s.bitCount)

theorem latchAndAppend_eq (s : State) (mode value : Nat) :
    s.latchAndAppend mode value =
      { mode := mode, tokens := Token.simple value (BitCount mode % 256) :: (latched s mode).1,
        bShiftByteCount := 0, bitCount := (latched s mode).2 + BitCount mode } := rfl

theorem BitCount_mod (mode : Nat) : BitCount mode % 256 = BitCount mode := by
  unfold BitCount; split <;> rfl

theorem BitCount_le (mode : Nat) : BitCount mode ≤ 5 := by
  unfold BitCount; split <;> omega

/-- the latch token (if any) continues the state's run weakly into the new mode, and has at most 14 bits -/
theorem run_latched (ws : Nat) (data : Bytes) (i : Nat) (st : State) (h : Inv' ws data i st)
    (mode : Nat) (hm : mode < 5) :
    Run ws false .upper (tokBits data.toArray (latched st mode).1) (modeOf mode)
      (data.take (i - st.bShiftByteCount)) ∧
    (latched st mode).2 ≤ st.bitCount + 14 := by
  unfold latched
  split
  · rename_i hne
    have hne : st.mode ≠ mode := Ne.symm (by simpa using hne)
    have := Run.append h.run.weaken (latch_run ws st.mode mode h.mode_lt hm hne) (by simp)
    rw [List.append_nil] at this
    exact ⟨by rwa [newSimpleToken, tokBits_cons], by have := (latch_cert st.mode h.mode_lt mode hm hne).2; omega⟩
  · rename_i heq
    rw [show mode = st.mode by simpa using heq]
    exact ⟨h.run.weaken, by omega⟩

/-- `latchAndAppend` with a code of the characters `c` that come next in the input -/
theorem inv_latchAndAppend (ws : Nat) (data : Bytes) (i : Nat) (st : State) (h : Inv ws data i st)
    (h0 : st.bShiftByteCount = 0) (mode value : Nat) (hm : mode < 5) (c : Bytes)
    (hv : value < 2 ^ codeBits (modeOf mode) - 1) (ht : table (modeOf mode) value = .chars c)
    (hc : 1 ≤ c.length) (hlen : i + c.length ≤ data.length) (hd : data.take i ++ c = data.take (i + c.length)) :
    Inv ws data (i + c.length) (st.latchAndAppend mode value) := by
  rw [latchAndAppend_eq]
  obtain ⟨hr, hb⟩ := run_latched ws data i st h.1 mode hm
  rw [h0, Nat.sub_zero] at hr
  have hch := Run.char ws (modeOf mode) value c hv ht
  have hbl := BitCount_le mode
  have hbc := h.1.bitCount_le
  refine ⟨⟨hm, by simp, hlen, ?_, by simp, by simp, by simp only; omega⟩, by simp⟩
  simp only [tokBits_cons, BEq.rfl, Nat.sub_zero, bits_simple, BitCount_mod]
  rw [BitCount_eq mode hm]
  have := Run.append hr hch.1 (fun _ => hch.2)
  rwa [hd] at this

/-- `shiftAndAppend` with a code of the characters `c` that come next in the input -/
theorem inv_shiftAndAppend (ws : Nat) (data : Bytes) (i : Nat) (st : State) (h : Inv ws data i st)
    (h0 : st.bShiftByteCount = 0) (mode value : Nat) (hm : mode < 5)
    (hs : (shiftTableOk st.mode mode).isSome = true) (c : Bytes)
    (hv : value < 2 ^ codeBits (modeOf mode) - 1) (ht : table (modeOf mode) value = .chars c)
    (hc : 1 ≤ c.length) (hlen : i + c.length ≤ data.length) (hd : data.take i ++ c = data.take (i + c.length)) :
    Inv ws data (i + c.length) (st.shiftAndAppend mode value) := by
  unfold State.shiftAndAppend newSimpleToken
  obtain ⟨s1, s2, s3⟩ := shift_spec st.mode mode h.1.mode_lt hm hs
  have hrun := h.1.run
  rw [h0, Nat.sub_zero] at hrun
  have hbc := h.1.bitCount_le
  have hbl := BitCount_le st.mode
  refine ⟨⟨h.1.mode_lt, by simp, hlen, ?_, by simp, by simp, by simp only; omega⟩, by simp⟩
  simp only [tokBits_cons, BEq.rfl, Nat.sub_zero, bits_simple, BitCount_mod, List.append_assoc]
  rw [BitCount_eq st.mode h.1.mode_lt]
  have hsc := Run.shiftChar ws (modeOf st.mode) (modeOf mode) (shiftTable st.mode mode) value c s2 s1 hv ht
  rw [s3] at hsc
  have := Run.append hrun.weaken hsc.1 (fun _ => hsc.2)
  rwa [hd] at this

/-- the mode in which `addBinaryShiftChar` continues: Punct and Digit have no binary-shift code -/
def bsMode (s : State) : Nat := if s.mode == mode_punct || s.mode == mode_digit then mode_upper else s.mode

/-- the state `addBinaryShiftChar` builds before it checks for a full run -/
def bsCharCore (s : State) : State :=
  { mode := bsMode s, tokens := (latched s (bsMode s)).1, bShiftByteCount := s.bShiftByteCount + 1,
    bitCount := (latched s (bsMode s)).2 +
      (if s.bShiftByteCount == 0 || s.bShiftByteCount == 31 then 18
       else if s.bShiftByteCount == 62 then 9 else 8) }

theorem addBinaryShiftChar_eq (s : State) (index : Nat) :
    s.addBinaryShiftChar index =
      if (bsCharCore s).bShiftByteCount == 2047 + 31 then (bsCharCore s).endBinaryShift (index + 1)
      else bsCharCore s := by
  unfold State.addBinaryShiftChar bsCharCore latched bsMode
  by_cases h : (s.mode == mode_punct || s.mode == mode_digit) = true
  · have hne : (mode_upper != s.mode) = true := by
      rcases Bool.or_eq_true .. |>.mp h with e | e <;> rw [beq_iff_eq.mp e] <;> rfl
    simp only [h, hne, if_true]
  · simp only [h, bne_self_eq_false, Bool.false_eq_true, if_false]

theorem inv_bsCharCore (ws : Nat) (data : Bytes) (i : Nat) (st : State) (h : Inv ws data i st)
    (hi : i < data.length) : Inv' ws data (i + 1) (bsCharCore st) := by
  -- the new mode has a binary-shift code; leaving Punct or Digit takes a latch of 5 or 4 bits
  have hmode : bsMode st < 5 ∧ BinMode (modeOf (bsMode st)) ∧
      (latched st (bsMode st)).2 ≤ st.bitCount + 5 := by
    have hm := h.1.mode_lt
    have : st.mode = 0 ∨ st.mode = 1 ∨ st.mode = 2 ∨ st.mode = 3 ∨ st.mode = 4 := by omega
    unfold latched bsMode
    rcases this with e | e | e | e | e <;> rw [e]
    · exact ⟨by decide, Or.inl rfl, Nat.le_add_right ..⟩
    · exact ⟨by decide, Or.inr (Or.inl rfl), Nat.le_add_right ..⟩
    · exact ⟨by decide, Or.inl rfl, Nat.add_le_add_left (show latchTable 2 0 >>> 16 ≤ 5 by decide) _⟩
    · exact ⟨by decide, Or.inr (Or.inr rfl), Nat.le_add_right ..⟩
    · exact ⟨by decide, Or.inl rfl, Nat.add_le_add_left (show latchTable 4 0 >>> 16 ≤ 5 by decide) _⟩
  obtain ⟨hr, _⟩ := run_latched ws data i st h.1 (bsMode st) hmode.1
  have hbc := h.1.bitCount_le
  have hcnt := h.1.cnt_le
  have hdelta : (if st.bShiftByteCount == 0 || st.bShiftByteCount == 31 then 18
       else if st.bShiftByteCount == 62 then 9 else 8) ≤ 18 := by
    repeat' split
    all_goals omega
  refine ⟨hmode.1, by simp only [bsCharCore]; omega, by omega, ?_, fun _ => hmode.2.1,
    by have := h.2; simp only [bsCharCore]; omega, by have := hmode.2.2; simp only [bsCharCore]; omega⟩
  rw [show i - st.bShiftByteCount = i + 1 - (bsCharCore st).bShiftByteCount by simp only [bsCharCore]; omega] at hr
  exact hr

/-- `addBinaryShiftChar` keeps the invariant (a run of 2078 bytes is closed at once) -/
theorem inv_addBinaryShiftChar (ws : Nat) (hws : ws ≤ 18) (data : Bytes) (i : Nat) (st : State)
    (h : Inv ws data i st) (hi : i < data.length) : Inv ws data (i + 1) (st.addBinaryShiftChar i) := by
  rw [addBinaryShiftChar_eq]
  have hc := inv_bsCharCore ws data i st h hi
  split
  · exact (inv_endBinaryShift ws hws data (i + 1) _ hc).1
  · rename_i hne
    have hne : (bsCharCore st).bShiftByteCount ≠ 2047 + 31 := by simpa using hne
    exact ⟨hc, by have := hc.cnt_max; omega⟩

/-! ### the state lists -/

theorem foldl_inv {α β} (P : β → Prop) (f : β → α → β) (l : List α) (init : β) (h0 : P init)
    (hs : ∀ acc x, x ∈ l → P acc → P (f acc x)) : P (l.foldl f init) := by
  induction l generalizing init with
  | nil => exact h0
  | cons x l ih =>
    exact ih _ (hs init x (List.mem_cons_self ..) h0) (fun acc y hy => hs acc y (List.mem_cons_of_mem _ hy))

theorem foldl_ne_nil {α β} (f : List β → α → List β) (l : List α) (x0 : α) (hx : x0 ∈ l)
    (h0 : ∀ acc, f acc x0 ≠ []) (hmono : ∀ acc x, acc ≠ [] → f acc x ≠ []) (init : List β) :
    l.foldl f init ≠ [] := by
  obtain ⟨l1, l2, rfl⟩ := List.append_of_mem hx
  rw [List.foldl_append, List.foldl_cons]
  exact foldl_inv (· ≠ []) _ _ _ (h0 _) (fun acc x _ => hmono acc x)

theorem ite_ind {α} {P : α → Prop} {c : Prop} [Decidable c] {a b : α} (ha : c → P a) (hb : ¬ c → P b) :
    P (if c then a else b) := by
  split
  · exact ha ‹_›
  · exact hb ‹_›

/-- the shape of the Go statement `if c { result = append(result, x) }` -/
theorem forall_mem_ite_append {α} {P : α → Prop} {c : Prop} [Decidable c] {l : List α} {x : α}
    (hl : ∀ s ∈ l, P s) (hx : c → P x) : ∀ s ∈ (if c then l ++ [x] else l), P s := by
  split
  · rename_i hc
    intro s hs
    rcases List.mem_append.mp hs with hs | hs
    · exact hl s hs
    · rw [List.mem_singleton.mp hs]; exact hx hc
  · exact hl

/-- … and it leaves a non-empty list non-empty -/
theorem ite_append_ne_nil {α} {c : Prop} [Decidable c] {l : List α} {x : α} (h : ¬ c → l ≠ []) :
    (if c then l ++ [x] else l) ≠ [] := by
  split
  · exact List.append_ne_nil_of_right_ne_nil _ (List.cons_ne_nil _ _)
  · exact h ‹_›

theorem take_succ_getD (data : Bytes) (i : Nat) (hi : i < data.length) :
    data.take i ++ [data.toArray.getD i 0] = data.take (i + 1) := by
  rw [List.take_succ_eq_append_getElem hi]
  simp [Array.getD, hi]

theorem inv_updateStateForChar (ws : Nat) (hws : ws ≤ 18) (data : Bytes) (i : Nat) (st : State)
    (h : Inv ws data i st) (hi : i < data.length) :
    (∀ s' ∈ updateStateForChar st data.toArray i, Inv ws data (i + 1) s') ∧
      updateStateForChar st data.toArray i ≠ [] := by
  obtain ⟨hnb, hnb0, hnbm, _⟩ := inv_endBinaryShift ws hws data i st h.1
  have htake := take_succ_getD data i hi
  unfold updateStateForChar
  generalize data.toArray.getD i 0 = ch at htake
  simp only [mode_upper, mode_punct, BV.Gen.Aztec.c_mode_upper, BV.Gen.Aztec.c_mode_punct, Nat.zero_add]
  constructor
  · refine forall_mem_ite_append (foldl_inv (fun result : List State => ∀ s' ∈ result, Inv ws data (i + 1) s') _ _ _
      (fun _ h => (nomatch h)) ?_) (fun _ => inv_addBinaryShiftChar ws hws data i st h hi)
    intro result k hk hres
    have hk : k < 5 := List.mem_range.mp hk
    by_cases hpos : charMapAt k ch > 0
    · rw [if_pos hpos]
      have hcm := charMap_spec k hk ch hpos
      refine forall_mem_ite_append (forall_mem_ite_append hres fun _ => ?_) fun hc => ?_
      · exact inv_latchAndAppend ws data i _ hnb hnb0 k _ hk _ hcm.1 hcm.2 (Nat.le_refl 1) hi htake
      · simp only [Bool.and_eq_true] at hc
        exact inv_shiftAndAppend ws data i _ hnb hnb0 k _ hk (by rw [hnbm]; exact hc.2) _ hcm.1 hcm.2
          (Nat.le_refl 1) hi htake
    · rw [if_neg hpos]
      exact hres
  · refine ite_append_ne_nil fun hcond => ?_
    -- no pending run and the character is in the current table: the step for the current mode appends a state
    simp only [Bool.or_eq_true, decide_eq_true_eq, beq_iff_eq, not_or] at hcond
    have hpos : 0 < charMapAt st.mode ch := by omega
    apply foldl_ne_nil _ _ st.mode (List.mem_range.mpr h.1.mode_lt)
    · intro acc
      rw [if_pos hpos]
      exact ite_append_ne_nil fun _ => by simp
    · intro acc x hacc
      split
      · exact ite_append_ne_nil fun _ => ite_append_ne_nil fun _ => hacc
      · exact hacc

theorem latchAndAppend_cnt (s : State) (mode value : Nat) : (s.latchAndAppend mode value).bShiftByteCount = 0 := rfl

theorem inv_updateStateForPair (ws : Nat) (hws : ws ≤ 18) (data : Bytes) (i : Nat) (st : State)
    (h : Inv ws data i st) (hi : i + 1 < data.length) (c n : UInt8)
    (htake1 : data.take i ++ [c] = data.take (i + 1)) (htake2 : data.take (i + 1) ++ [n] = data.take (i + 1 + 1))
    (hpos : 0 < pairCodeOf c n) :
    (∀ s' ∈ updateStateForPair st data.toArray i (pairCodeOf c n), Inv ws data (i + 2) s') ∧
      updateStateForPair st data.toArray i (pairCodeOf c n) ≠ [] := by
  obtain ⟨hp, ht, hdig⟩ := pairCode_table _ _ hpos
  generalize pairCodeOf c n = p at hp ht hdig
  obtain ⟨hnb, hnb0, hnbm, _⟩ := inv_endBinaryShift ws hws data i st h.1
  have htake : data.take i ++ [c, n] = data.take (i + 2) := by
    rw [← htake2, ← htake1, List.append_assoc]; rfl
  have hlen : i + [c, n].length ≤ data.length := hi
  unfold updateStateForPair
  simp only []
  constructor
  · refine forall_mem_ite_append (forall_mem_ite_append (forall_mem_ite_append (fun s' hs' => ?_) fun hne => ?_)
      fun hc => ?_) fun _ => ?_
    · rw [List.mem_singleton.mp hs']
      exact inv_latchAndAppend ws data i _ hnb hnb0 4 p (by omega) _ hp ht (Nat.le_add_left 1 1) hlen htake
    · have hne : st.mode ≠ 4 := by simpa [mode_punct, BV.Gen.Aztec.c_mode_punct] using hne
      have hsome : (shiftTableOk (st.endBinaryShift i).mode 4).isSome = true := by
        rw [hnbm]; exact shift_punct_cert st.mode (by have := h.1.mode_lt; omega)
      exact inv_shiftAndAppend ws data i _ hnb hnb0 4 p (by omega) hsome _ hp ht (Nat.le_add_left 1 1) hlen htake
    · obtain ⟨d1, d2, d3⟩ := hdig hc
      have h1 : Inv ws data (i + 1) ((st.endBinaryShift i).latchAndAppend mode_digit (16 - p)) :=
        inv_latchAndAppend ws data i _ hnb hnb0 2 (16 - p) (by omega) _ d1 d2 (Nat.le_refl 1) (Nat.le_of_lt hi) htake1
      exact inv_latchAndAppend ws data (i + 1) _ h1 (latchAndAppend_cnt _ _ _) 2 1 (by omega) _
        (by decide) d3 (Nat.le_refl 1) hi htake2
    · exact inv_addBinaryShiftChar ws hws data (i + 1) _ (inv_addBinaryShiftChar ws hws data i st h (by omega)) hi
  · exact ite_append_ne_nil fun _ => ite_append_ne_nil fun _ => ite_append_ne_nil fun _ => List.cons_ne_nil _ _

/-! ### `simplifyStates` only removes states, and never all of them -/

/-- the inner loop keeps old states only; when it decides not to add the new state it has kept an old one -/
theorem simplifyStep_spec (ns : State) (result : List State) :
    (∀ s ∈ (simplifyStep ns result).2, s ∈ result) ∧
      ((simplifyStep ns result).1 = false → (simplifyStep ns result).2 ≠ []) := by
  unfold simplifyStep
  simp only [List.mem_reverse, ne_eq, List.reverse_eq_nil_iff]
  refine foldl_inv (fun st : Bool × List State => (∀ s ∈ st.2, s ∈ result) ∧ (st.1 = false → st.2 ≠ [])) _ _ _
    ⟨fun _ h => (nomatch h), fun h => (nomatch h)⟩ ?_
  intro st old hold ⟨h1, h2⟩
  simp only []
  generalize (if (st.1 && old.isBetterThanOrEqualTo ns) = true then false else st.1) = add
  refine ⟨fun s hs => ?_, fun hadd => ?_⟩
  · split at hs
    · rcases List.mem_cons.mp hs with rfl | hs
      · exact hold
      · exact h1 s hs
    · exact h1 s hs
  · simp [hadd]

theorem simplifyStates_subset (l : List State) : ∀ s ∈ simplifyStates l, s ∈ l := by
  unfold simplifyStates
  refine foldl_inv (fun result : List State => ∀ s ∈ result, s ∈ l) _ _ _ (fun _ h => (nomatch h)) ?_
  intro result ns hns h
  simp only []
  exact forall_mem_ite_append (fun s hs => h s ((simplifyStep_spec ns result).1 s hs)) (fun _ => hns)

theorem simplifyStates_ne_nil (l : List State) (h : l ≠ []) : simplifyStates l ≠ [] := by
  obtain ⟨x, l, rfl⟩ := List.exists_cons_of_ne_nil h
  unfold simplifyStates
  rw [List.foldl_cons]
  have step : ∀ (result : List State) (ns : State),
      (if (simplifyStep ns result).1 = true then (simplifyStep ns result).2 ++ [ns]
        else (simplifyStep ns result).2) ≠ [] := by
    intro result ns
    split
    · simp
    · rename_i hadd
      exact (simplifyStep_spec ns result).2 (by simpa using hadd)
  exact foldl_inv (· ≠ []) _ _ _ (step [] x) (fun acc ns _ _ => step acc ns)

/-! ### `minState` picks a member -/

/-- `minState` returns a state of the list, and it returns one when some state has fewer than `2^63 - 1` bits -/
theorem minState_spec (states : List State) :
    (∀ s, minState states = some s → s ∈ states) ∧
    ((∃ s ∈ states, s.bitCount < 2 ^ 63 - 1) → (minState states).isSome = true) := by
  unfold minState
  constructor
  · refine foldl_inv (fun acc : Nat × Option State => ∀ s, acc.2 = some s → s ∈ states) _ _ _
      (fun _ h => (nomatch h)) ?_
    intro acc x hx h s hs
    split at hs
    · rwa [← Option.some.inj hs]
    · exact h s hs
  · intro ⟨s, hs, hlt⟩
    obtain ⟨l1, l2, rfl⟩ := List.append_of_mem hs
    rw [List.foldl_append, List.foldl_cons]
    -- until a state is chosen the bound is the initial one; a chosen state stays chosen
    refine foldl_inv (fun acc : Nat × Option State => acc.2.isSome = true) _ _ _ ?_ ?_
    · have := foldl_inv (fun acc : Nat × Option State => acc.2 = none → acc.1 = 2 ^ 63 - 1)
        (fun acc s => if s.bitCount < acc.1 then (s.bitCount, some s) else acc) l1 (2 ^ 63 - 1, none)
        (fun _ => rfl) (fun acc x _ h => by split <;> simp_all)
      split
      · rfl
      · rename_i hge
        cases h2 : (List.foldl _ (2 ^ 63 - 1, none) l1).2 with
        | some _ => rfl
        | none => exact absurd hlt (by rw [this h2] at hge; exact hge)
    · intro acc x _ h
      split
      · rfl
      · exact h

/-! ### the main loop -/

theorem inv_simplify_flatMap {P Q : State → Prop} (states : List State) (f : State → List State)
    (hne : states ≠ []) (hinv : ∀ s ∈ states, P s) (hf : ∀ s, P s → (∀ s' ∈ f s, Q s') ∧ f s ≠ []) :
    simplifyStates (states.flatMap f) ≠ [] ∧ ∀ s ∈ simplifyStates (states.flatMap f), Q s := by
  constructor
  · obtain ⟨st, l, rfl⟩ := List.exists_cons_of_ne_nil hne
    apply simplifyStates_ne_nil
    rw [List.flatMap_cons]
    exact fun hnil => (hf st (hinv st (List.mem_cons_self ..))).2 (List.append_eq_nil_iff.mp hnil).1
  · intro s hs
    obtain ⟨st, hst, hs⟩ := List.mem_flatMap.mp (simplifyStates_subset _ s hs)
    exact (hf st (hinv st hst)).1 s hs

theorem loop_inv (ws : Nat) (hws : ws ≤ 18) (data : Bytes) : ∀ (fuel index : Nat) (states : List State),
    index ≤ data.length → data.length ≤ index + fuel → states ≠ [] →
    (∀ s ∈ states, Inv ws data index s) →
    highlevelLoop data.toArray fuel index states ≠ [] ∧
      ∀ s ∈ highlevelLoop data.toArray fuel index states, Inv ws data data.length s := by
  intro fuel
  induction fuel with
  | zero =>
    intro index states h1 h2 hne hinv
    have : index = data.length := by omega
    subst this
    exact ⟨hne, hinv⟩
  | succ fuel ih =>
    intro index states h1 h2 hne hinv
    rw [highlevelLoop, show data.toArray.size = data.length from List.size_toArray]
    by_cases hlt : index < data.length
    · rw [if_pos hlt]
      have hchar := inv_simplify_flatMap states _ hne hinv fun st hst =>
        inv_updateStateForChar ws hws data index st hst hlt
      refine ite_ind (P := fun X => X ≠ [] ∧ ∀ s ∈ X, Inv ws data data.length s) (fun hpos => ?_)
        (fun _ => ih (index + 1) _ (by omega) (by omega) hchar.1 hchar.2)
      -- a pair code needs a second byte
      have hnext : index + 1 < data.length := by
        apply Decidable.by_contra
        intro hn
        rw [if_neg hn, pairCodeOf_zero] at hpos
        exact Nat.lt_irrefl 0 hpos
      rw [if_pos hnext] at hpos ⊢
      have := inv_simplify_flatMap states _ hne hinv fun st hst =>
        inv_updateStateForPair ws hws data index st hst hnext _ _ (take_succ_getD data index hlt)
          (take_succ_getD data (index + 1) hnext) hpos
      exact ih (index + 2) _ (by omega) (by omega) this.1 this.2
    · rw [if_neg hlt]
      have : index = data.length := by omega
      subst this
      exact ⟨hne, hinv⟩

theorem inv_initial (ws : Nat) (data : Bytes) : Inv ws data 0 initialState := by
  refine ⟨⟨by decide, Nat.le_refl _, Nat.zero_le _, ?_, fun h => absurd h (by decide), by decide, Nat.le_refl _⟩,
    by decide⟩
  exact Run.nil ws true .upper

/-- **High-level stream round trip.**  For every payload shorter than 2^58 bytes the bit stream
    `highlevelEncode data`, followed by any padding of fewer than `ws` one-bits (`ws ≤ 18`; the word sizes are 6, 8,
    10, 12), is parsed by the reference parser of ISO/IEC 24778 (Upper/Lower/Mixed/Punct/Digit codes, latches,
    shifts, binary shift) to exactly `data`.  The length bound is there because the model's `minState` starts from
    the bit count `2^63 − 1` and returns no state unless one is below it; `bitCount ≤ 23 · length` gives that. -/
theorem highlevel_roundtrip (ws : Nat) (hws : ws ≤ 18) (data : Bytes) (hlen : data.length < 2 ^ 58)
    (pad : List Bool) (hp1 : pad.length < ws) (hp2 : pad.all id = true) :
    parse ws ((highlevelEncode data ++ pad).length + 1) .upper none (highlevelEncode data ++ pad).length
      (highlevelEncode data ++ pad) [] = .ok data := by
  have hsize : data.toArray.size = data.length := by simp
  obtain ⟨hne, hall⟩ := loop_inv ws hws data data.length 0 [initialState] (Nat.zero_le _) (by omega) (by simp)
    (fun s hs => by rw [List.mem_singleton.mp hs]; exact inv_initial ws data)
  obtain ⟨hmem, hsome⟩ := minState_spec (highlevelLoop data.toArray data.length 0 [initialState])
  have hex : ∃ s ∈ highlevelLoop data.toArray data.length 0 [initialState], s.bitCount < 2 ^ 63 - 1 := by
    cases hl : highlevelLoop data.toArray data.length 0 [initialState] with
    | nil => exact absurd hl hne
    | cons s l =>
      refine ⟨s, List.mem_cons_self .., ?_⟩
      have := (hall s (by rw [hl]; exact List.mem_cons_self ..)).1.bitCount_le
      omega
  have hs := hsome hex
  unfold highlevelEncode
  simp only [hsize]
  cases hmin : minState (highlevelLoop data.toArray data.length 0 [initialState]) with
  | none => rw [hmin] at hs; cases hs
  | some st =>
    simp only []
    have hst := hall st (hmem st hmin)
    obtain ⟨hfin, hfin0, _, _⟩ := inv_endBinaryShift ws hws data data.length st hst.1
    have hrun := hfin.1.run
    rw [hfin0] at hrun
    simp only [BEq.rfl, Nat.sub_zero, List.take_length] at hrun
    have hbits : st.toBitList data.toArray = tokBits data.toArray (st.endBinaryShift data.length).tokens := by
      unfold State.toBitList tokBits
      simp only [hsize]
    rw [hbits]
    obtain ⟨f', hf', e⟩ := hrun pad (Or.inl rfl) (pad.length + 1) []
    have a1 : (tokBits data.toArray (st.endBinaryShift data.length).tokens ++ pad).length + 1 =
        pad.length + 1 + (tokBits data.toArray (st.endBinaryShift data.length).tokens).length := by
      simp; omega
    rw [a1, List.length_append, e]
    obtain ⟨f, rfl⟩ : ∃ f, f' = f + 1 := ⟨f' - 1, by omega⟩
    rw [parse, if_pos ⟨hp1, hp2⟩]
    simp

end BV.Proofs.AztecSearch
