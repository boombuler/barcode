/-
  Placement, implementation side ("two-phase" lemma): whenever the symbolic run `DmSym.run` answers `some st`,
  `CodeLayout.setValues` on ANY data of the expected length does not panic, and the matrix it produces is the
  data painted through the tag map of `st` — the positions written do not depend on the data values.
  The stages of the walk are simulated one by one; the run is the one for `data.size` codewords.
-/
import BV.Model.Datamatrix
import BV.Proofs.DmSymL
import BV.Proofs.DmShape
namespace BV.Proofs.DmPlaceM
open BV BV.Model BV.Model.Datamatrix BV.Proofs.DmSym BV.Proofs.DmShape

/-- the module colour a tag stands for: bit `tag % 10` (1 = most significant) of codeword `tag / 10` (1-based);
    tag 1 = fixed dark module, tag 0 = never written = light -/
def paint (data : Array UInt8) (tag : Nat) : Bool :=
  if tag ≥ 10 then bitOf (data.getD (tag / 10 - 1) 0) (tag % 10 - 1) else tag == 1

theorem paint_tag (data : Array UInt8) (idx k : Nat) (d : UInt8) (hk : k ≤ 7) (hd : data[idx]? = some d) :
    paint data (10 * (idx + 1) + (k + 1)) = bitOf d k := by
  unfold paint
  have h1 : 10 * (idx + 1) + (k + 1) ≥ 10 := by omega
  have h2 : (10 * (idx + 1) + (k + 1)) / 10 - 1 = idx := by omega
  have h3 : (10 * (idx + 1) + (k + 1)) % 10 - 1 = k := by omega
  rw [if_pos h1, h2, h3]
  simp [Array.getD_eq_getD_getElem?, hd]

theorem paint_lt (data : Array UInt8) (tag : Nat) (h : ¬ tag ≥ 10) : paint data tag = (tag == 1) := by
  unfold paint; rw [if_neg h]

theorem paint_one (data : Array UInt8) : paint data 1 = bitOf 255 0 := by
  unfold paint; rfl

/-- allocated bits of `NewBitList(n)` -/
def cap (n : Nat) : Nat := 32 * ((n + 31) / 32)

theorem le_cap (n : Nat) : n ≤ cap n := by unfold cap; omega

/-- a layout of the implementation over an `nrow × ncol` mapping matrix stands for a symbolic state: its
    occupancy is the mask, its matrix the data painted through the tag map -/
structure RelM (size : CodeSize) (color : Scheme) (data : Array UInt8) (nrow ncol : Nat) (l : CodeLayout) (st : PS) :
    Prop where
  hsize : l.size = size
  hcolor : l.color = color
  hrows : l.size.matrixRows = (nrow : Int)
  hcols : l.size.matrixColumns = (ncol : Int)
  hocc : ∀ i, l.occupy[i]? = if i < cap (nrow * ncol) then some (st.occ.testBit i) else none
  hmat : ∀ i, l.matrix[i]? = if i < cap (nrow * ncol) then some (paint data (tagAt st.log i)) else none

/-- `occupied` check + the two `SetBit`s of `Set`, on a linear index -/
def setAt (l : CodeLayout) (idx : Int) (val : Bool) : Res CodeLayout := do
  if (← getBit l.occupy idx) then .error .panic
  let occ ← setBit l.occupy idx true
  let mat ← setBit l.matrix idx val
  pure { l with occupy := occ, matrix := mat }

/-- `Set` = wrap, then `setAt` on the linear index -/
theorem set_eq (l : CodeLayout) (nrow ncol : Nat) (hr : l.size.matrixRows = (nrow : Int))
    (hc : l.size.matrixColumns = (ncol : Int)) (row col : Int) (v : UInt8) (k : Nat) :
    l.set row col v k =
      setAt l ((wrap nrow ncol row col).2 + (wrap nrow ncol row col).1 * (ncol : Int)) (bitOf v k) := by
  unfold CodeLayout.set wrap CodeLayout.occupied setAt
  rw [hr, hc]
  have e1 : ((nrow : Int) + 4).tmod 8 = (((nrow + 4) % 8 : Nat) : Int) := by
    rw [Int.tmod_eq_emod_of_nonneg (by omega)]; omega
  have e2 : ((ncol : Int) + 4).tmod 8 = (((ncol + 4) % 8 : Nat) : Int) := by
    rw [Int.tmod_eq_emod_of_nonneg (by omega)]; omega
  rw [e1, e2]

section sim
variable {size : CodeSize} {color : Scheme} {data : Array UInt8} {nrow ncol : Nat}

theorem setAt_sim {l : CodeLayout} {st : PS} (h : RelM size color data nrow ncol l st)
    (i tag : Nat) (val : Bool) (hi : i < nrow * ncol) (hfree : st.occ.testBit i = false) (hp : paint data tag = val) :
    ∃ l', setAt l (i : Int) val = .ok l' ∧
      RelM size color data nrow ncol l' { occ := st.occ ||| (1 <<< i), log := (i, tag) :: st.log } := by
  have hcap : i < cap (nrow * ncol) := Nat.lt_of_lt_of_le hi (le_cap _)
  have ho := h.hocc i
  rw [if_pos hcap, hfree] at ho
  have hso : i < l.occupy.size := (Array.getElem?_eq_some_iff.mp ho).1
  have hm := h.hmat i
  rw [if_pos hcap] at hm
  have hsm : i < l.matrix.size := (Array.getElem?_eq_some_iff.mp hm).1
  refine ⟨{ l with occupy := l.occupy.setIfInBounds i true, matrix := l.matrix.setIfInBounds i val }, ?_, ?_⟩
  · unfold setAt
    rw [getBit_nat _ _ _ ho, setBit_nat _ _ _ hso, setBit_nat _ _ _ hsm]
    rfl
  · refine ⟨h.hsize, h.hcolor, h.hrows, h.hcols, ?_, ?_⟩
    · intro j
      simp only [Array.getElem?_setIfInBounds, testBit_set]
      by_cases hij : i = j
      · subst hij; simp [hso, hcap]
      · simp [hij, h.hocc j]
    · intro j
      simp only [Array.getElem?_setIfInBounds, tagAt]
      by_cases hij : i = j
      · subst hij; simp [hsm, hcap, hp]
      · simp [hij, h.hmat j]

theorem set_sim {l : CodeLayout} {st st' : PS} (h : RelM size color data nrow ncol l st) (row col : Int)
    (v : UInt8) (k tag : Nat) (hp : paint data tag = bitOf v k) (hs : st.set nrow ncol row col tag = some st') :
    ∃ l', l.set row col v k = .ok l' ∧ RelM size color data nrow ncol l' st' := by
  obtain ⟨i, hi, hlt, hfree, rfl⟩ := PS.set_some hs
  rw [set_eq l nrow ncol h.hrows h.hcols, hi]
  exact setAt_sim h i tag _ hlt hfree hp

theorem shape_sim (idx : Nat) (d : UInt8) (hd : data[idx]? = some d) :
    ∀ (ps : List ((Int × Int) × Nat)) (l : CodeLayout) (st st' : PS), (∀ p ∈ ps, p.2 ≤ 7) →
      RelM size color data nrow ncol l st → st.shape nrow ncol ps (idx + 1) = some st' →
      ∃ l', mShape l ps d = .ok l' ∧ RelM size color data nrow ncol l' st' := by
  intro ps
  induction ps with
  | nil =>
    intro l st st' _ h hs
    cases hs
    exact ⟨l, rfl, h⟩
  | cons p ps ih =>
    intro l st st' hk h hs
    obtain ⟨st1, h1, h2⟩ := PS.shape_cons_some hs
    obtain ⟨l1, m1, r1⟩ := set_sim h p.1.1 p.1.2 d p.2 _ (paint_tag data idx p.2 d (hk p (List.mem_cons_self)) hd) h1
    obtain ⟨l', m2, r2⟩ := ih l1 st1 st' (fun q hq => hk q (List.mem_cons_of_mem _ hq)) r1 h2
    refine ⟨l', ?_, r2⟩
    simp only [mShape, List.foldlM_cons, m1, bind, Except.bind]
    exact m2

theorem zipIdx8_le (ps : List (Int × Int)) (h : ps.length = 8) : ∀ p ∈ ps.zipIdx, p.2 ≤ 7 := by
  intro p hp
  have := List.mem_zipIdx hp
  omega

theorem stepIf_sim (guard : Bool) (l : CodeLayout) (st st' : PS) (idx idx' : Nat)
    (ps : List (Int × Int)) (hps : ps.length = 8) (f : CodeLayout → UInt8 → Res CodeLayout)
    (hf : ∀ d, f l d = mShape l ps.zipIdx d) (h : RelM size color data nrow ncol l st)
    (hs : DmSym.stepIf nrow ncol data.size guard (st, idx) ps = some (st', idx')) :
    ∃ l', Datamatrix.stepIf guard data (l, idx) f = .ok (l', idx') ∧ RelM size color data nrow ncol l' st' := by
  unfold Datamatrix.stepIf
  rcases stepIf_some hs with ⟨rfl, e⟩ | ⟨rfl, hidx, h1, e⟩
  · cases e
    exact ⟨l, rfl, h⟩
  · simp only at hidx h1 e
    subst e
    obtain ⟨l', m1, r1⟩ := shape_sim idx data[idx] (Array.getElem?_eq_getElem hidx)
      ps.zipIdx l st st' (zipIdx8_le ps hps) h h1
    refine ⟨l', ?_, r1⟩
    simp only [if_true, withNext, dataAt, Array.getElem?_eq_getElem hidx, hf, m1, bind, Except.bind, pure, Except.pure]

theorem place_sim (inRange : Bool) (l : CodeLayout) (st st' : PS) (idx idx' : Nat) (row col : Int)
    (h : RelM size color data nrow ncol l st)
    (hs : DmSym.place nrow ncol data.size inRange st idx row col = some (st', idx')) :
    ∃ l', placeIfFree data inRange l idx row col = .ok (l', idx') ∧ RelM size color data nrow ncol l' st' := by
  unfold placeIfFree
  rcases place_some hs with ⟨rfl, e⟩ | ⟨rfl, i, hi, hlt, hb⟩
  · cases e
    exact ⟨l, rfl, h⟩
  · have hocc : l.occupied row col = .ok (st.occ.testBit i) := by
      unfold CodeLayout.occupied
      rw [h.hcols, hi]
      apply getBit_nat
      rw [h.hocc i, if_pos (Nat.lt_of_lt_of_le hlt (le_cap _))]
    rw [if_pos rfl, hocc]
    rcases hb with ⟨hb, e⟩ | ⟨hb, hs⟩
    · cases e
      refine ⟨l, ?_, h⟩
      simp [bind, Except.bind, hb, pure, Except.pure]
    · obtain ⟨l', m1, r1⟩ := stepIf_sim true l st st' idx idx' (utahPos row col) rfl
        (fun l d => l.setSimple row col d) (fun d => setSimple_eq l row col d) h hs
      refine ⟨l', ?_, r1⟩
      simp only [Datamatrix.stepIf, if_true] at m1
      simp [bind, Except.bind, hb, m1]

theorem sweep_sim (d : Dir) : ∀ (fuel : Nat) (l : CodeLayout) (st : PS) (idx : Nat) (row col : Int) (r : WS),
    RelM size color data nrow ncol l st →
    sweep nrow ncol data.size d fuel (st, idx, row, col) = some r →
    ∃ l', mSweep data d fuel (l, idx, row, col) = .ok (l', r.2.1, r.2.2.1, r.2.2.2) ∧
      RelM size color data nrow ncol l' r.1 := by
  intro fuel
  induction fuel with
  | zero => intro l st idx row col r _ hs; cases hs
  | succ fuel ih =>
    intro l st idx row col r h hs
    obtain ⟨⟨st1, idx1⟩, hp, hs⟩ := sweep_some hs
    obtain ⟨l1, m1, r1⟩ := place_sim _ l st st1 idx idx1 row col h hp
    rw [mSweep]
    simp only [h.hrows, h.hcols, m1, bind, Except.bind, r1.hrows, r1.hcols]
    split at hs
    · rename_i hcond
      rw [hs, if_pos hcond]
      exact ⟨l1, rfl, r1⟩
    · rename_i hcond
      rw [if_neg hcond]
      exact ih l1 st1 idx1 _ _ r r1 hs

theorem tmod_emod (a : Nat) (b : Int) : (a : Int).tmod b = (a : Int) % b :=
  Int.tmod_eq_emod_of_nonneg (by omega)

theorem mainLoop_sim : ∀ (f1 f2 : Nat) (l : CodeLayout) (st : PS) (idx : Nat) (row col : Int) (r : PS × Nat),
    f1 ≤ f2 → RelM size color data nrow ncol l st →
    DmSym.mainLoop nrow ncol data.size f1 (st, idx, row, col) = some r →
    ∃ l' row' col', setValuesLoop data f2 (l, idx, row, col) = .ok (l', r.2, row', col') ∧
      RelM size color data nrow ncol l' r.1 := by
  intro f1
  induction f1 with
  | zero => intro f2 l st idx row col r _ _ hs; cases hs
  | succ f1 ih =>
    intro f2 l st idx row col r hf h hs
    obtain ⟨f2, rfl⟩ : ∃ k, f2 = k + 1 := ⟨f2 - 1, by omega⟩
    have hs := mainLoop_some hs
    rw [setValuesLoop]
    simp only [h.hrows, h.hcols]
    simp only at hs
    split at hs
    · rename_i hcond
      rw [if_pos hcond]
      obtain ⟨w', hround, hs⟩ := hs
      obtain ⟨s1, s2, s3, s4, ⟨st5, idx5, row5, col5⟩, ⟨st6, idx6, row6, col6⟩, hs1, hs2, hs3, hs4, _, hs5, _, hs6, rfl⟩ :=
        round_some hround
      obtain ⟨l1, m1, r1⟩ := stepIf_sim _ l st s1.1 idx s1.2 _ rfl
        CodeLayout.corner1 (fun d => by rw [corner1_eq, h.hrows, h.hcols]) h hs1
      -- Go's `%` on the non-negative `MatrixColumns()` is the `%` of the run
      have g2 : decide (row = (nrow : Int) - 2 ∧ col = 0 ∧ (ncol : Int).tmod 4 ≠ 0) =
          decide (row = (nrow : Int) - 2 ∧ col = 0 ∧ ncol % 4 ≠ 0) := by
        rw [tmod_emod]; apply decide_eq_decide.mpr; omega
      have g3 : decide (row = (nrow : Int) - 2 ∧ col = 0 ∧ (ncol : Int).tmod 8 = 4) =
          decide (row = (nrow : Int) - 2 ∧ col = 0 ∧ ncol % 8 = 4) := by
        rw [tmod_emod]; apply decide_eq_decide.mpr; omega
      have g4 : decide (row = (nrow : Int) + 4 ∧ col = 2 ∧ (ncol : Int).tmod 8 = 0) =
          decide (row = (nrow : Int) + 4 ∧ col = 2 ∧ ncol % 8 = 0) := by
        rw [tmod_emod]; apply decide_eq_decide.mpr; omega
      obtain ⟨l2, m2, r2⟩ := stepIf_sim _ l1 s1.1 s2.1 s1.2 s2.2 _ rfl
        CodeLayout.corner2 (fun d => by rw [corner2_eq, r1.hrows, r1.hcols]) r1 hs2
      obtain ⟨l3, m3, r3⟩ := stepIf_sim _ l2 s2.1 s3.1 s2.2 s3.2 _ rfl
        CodeLayout.corner3 (fun d => by rw [corner3_eq, r2.hrows, r2.hcols]) r2 hs3
      obtain ⟨l4, m4, r4⟩ := stepIf_sim _ l3 s3.1 s4.1 s3.2 s4.2 _ rfl
        CodeLayout.corner4 (fun d => by rw [corner4_eq, r3.hrows, r3.hcols]) r3 hs4
      obtain ⟨l5, m5, r5⟩ := sweep_sim _ (row.toNat / 2 + 2) l4 s4.1 s4.2 row col _ r4 hs5
      obtain ⟨l6, m6, r6⟩ := sweep_sim _ ((col5 + 3).toNat / 2 + 2) l5 st5 idx5 (row5 + 1) (col5 + 3) _ r5 hs6
      obtain ⟨l', row'', col'', m7, r7⟩ := ih f2 l6 st6 idx6 (row6 + 3) (col6 + 1) r (by omega) r6 hs
      refine ⟨l', row'', col'', ?_, r7⟩
      simp only [g2, g3, g4, m1, m2, m3, m4, mSweep_up, m5, mSweep_down, m6, bind, Except.bind]
      exact m7
    · rename_i hcond
      rw [if_neg hcond, hs]
      exact ⟨l, row, col, rfl, h⟩

theorem relM_init (hr : size.matrixRows = (nrow : Int)) (hc : size.matrixColumns = (ncol : Int)) :
    RelM size color data nrow ncol (newCodeLayout size color) { occ := 0, log := [] } := by
  have e : (size.matrixColumns * size.matrixRows).toNat = nrow * ncol := by
    rw [hr, hc, ← Int.natCast_mul, Int.toNat_natCast, Nat.mul_comm]
  refine ⟨rfl, rfl, hr, hc, ?_, ?_⟩
  · intro i
    simp only [newCodeLayout, newBitList, e, Array.getElem?_replicate, cap, Nat.zero_testBit]
  · intro i
    simp only [newCodeLayout, newBitList, e, Array.getElem?_replicate, cap, tagAt]
    rfl

/-- Two-phase lemma: the positions `SetValues` writes do not depend on the data values, only on their number. -/
theorem setValues_of_run (hr : size.matrixRows = (nrow : Int)) (hc : size.matrixColumns = (ncol : Int))
    {st : PS} (hrun : run nrow ncol data.size = some st) :
    ∃ l, (newCodeLayout size color).setValues data = .ok l ∧ RelM size color data nrow ncol l st := by
  obtain ⟨h2r, h2c, st0, hml, _, hfin⟩ := run_some hrun
  obtain ⟨l0, row', col', m0, r0⟩ := mainLoop_sim (nrow + ncol) (nrow + ncol + 2)
    (newCodeLayout size color) _ 0 4 0 _ (by omega) (relM_init (color := color) (data := data) hr hc) hml
  obtain ⟨e1, e2, hN⟩ := last_index h2r h2c
  have hlast : nrow * ncol - 1 < cap (nrow * ncol) := Nat.lt_of_lt_of_le (by omega) (le_cap _)
  have hocc : l0.occupied ((nrow : Int) - 1) ((ncol : Int) - 1) = .ok (st0.occ.testBit (nrow * ncol - 1)) := by
    unfold CodeLayout.occupied
    rw [r0.hcols, e1]
    apply getBit_nat
    rw [r0.hocc, if_pos hlast]
  unfold CodeLayout.setValues
  simp only [show (newCodeLayout size color).size = size from rfl, hr, hc, Int.toNat_natCast, m0, bind,
    Except.bind, hocc]
  rcases hfin with ⟨hb, _, rfl⟩ | ⟨hb, _, _, _, _, st1, hs1, hs2⟩
  · refine ⟨l0, ?_, r0⟩
    simp [hb, pure, Except.pure]
  · obtain ⟨l1, m1, r1⟩ := set_sim r0 _ _ 255 0 1 (paint_one data) hs1
    obtain ⟨l2, m2, r2⟩ := set_sim r1 _ _ 255 0 1 (paint_one data) hs2
    refine ⟨l2, ?_, r2⟩
    simp [hb, m1, m2]

theorem relM_arrays {l : CodeLayout} {st : PS} (h : RelM size color data nrow ncol l st) :
    l.matrix = Array.ofFn (n := cap (nrow * ncol)) (fun i => paint data (tagAt st.log i)) ∧
    l.occupy = Array.ofFn (n := cap (nrow * ncol)) (fun i => st.occ.testBit i) :=
  ⟨eq_ofFn h.hmat, eq_ofFn h.hocc⟩

end sim
end BV.Proofs.DmPlaceM
