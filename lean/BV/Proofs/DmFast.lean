/-
  A twin of the symbolic placement run (`DmSym.run`) on which the kernel takes far fewer steps, with the proof
  that it answers `true` only where `run` answers `some`.

  It keeps the occupancy mask and the codeword counter only: whether the run succeeds does not depend on the
  log, whose length is eight times the counter (`DmTags.walkInv_step`).  It holds the walking position in `Nat`
  coordinates biased by 2 (`r = row + 2`, `c = col + 2`) and answers `none` should a coordinate fall below −2,
  which the walk over a standard size never does.  Every test is a `match` on `Nat.ble` / `Nat.blt`: the kernel
  computes these on literals directly, whereas an `if` on an `Int` comparison first builds and then takes apart a
  `Decidable` instance.  The eight cells of a Utah shape that lies inside the matrix are marked with one mask
  operation instead of eight `set`s.
-/
import BV.Proofs.DmTags
namespace BV.Proofs.DmFast
open BV.Proofs.DmSym BV.Proofs.DmTags

/-- the linear index of the cell `(r - 2, c - 2)`, if it is inside the matrix -/
def indexF (nrow ncol r c : Nat) : Option Nat :=
  match Nat.ble (2 + 2 * ncol) (c + r * ncol) && Nat.blt (c + r * ncol - (2 + 2 * ncol)) (nrow * ncol) with
  | true => some (c + r * ncol - (2 + 2 * ncol))
  | false => none

/-- the second rule of `wrap` (negative column), then the index -/
def wrapColF (nrow ncol r c : Nat) : Option Nat :=
  match Nat.blt c 2 with
  | false => indexF nrow ncol r c
  | true =>
    match Nat.ble ((ncol + 4) % 8) (r + 4) with
    | true => indexF nrow ncol (r + 4 - (ncol + 4) % 8) (c + ncol)
    | false => none

/-- `wrap`, then the index -/
def cellF (nrow ncol r c : Nat) : Option Nat :=
  match Nat.blt r 2 with
  | false => wrapColF nrow ncol r c
  | true =>
    match Nat.ble ((nrow + 4) % 8) (c + 4) with
    | true => wrapColF nrow ncol (r + nrow) (c + 4 - (nrow + 4) % 8)
    | false => none

def setF (nrow ncol occ r c : Nat) : Option Nat :=
  match cellF nrow ncol r c with
  | none => none
  | some i =>
    match Nat.testBit occ i with
    | true => none
    | false => some (occ ||| 1 <<< i)

def shapeF (nrow ncol : Nat) : List (Nat × Nat) → Nat → Option Nat
  | [], occ => some occ
  | (r, c) :: ps, occ =>
    match setF nrow ncol occ r c with
    | none => none
    | some occ => shapeF nrow ncol ps occ

def utahF (r c : Nat) : List (Nat × Nat) :=
  [(r - 2, c - 2), (r - 2, c - 1), (r - 1, c - 2), (r - 1, c - 1), (r - 1, c), (r, c - 2), (r, c - 1), (r, c)]
def corner1F (n m : Nat) : List (Nat × Nat) :=
  [(n + 1, 2), (n + 1, 3), (n + 1, 4), (2, m), (2, m + 1), (3, m + 1), (4, m + 1), (5, m + 1)]
def corner2F (n m : Nat) : List (Nat × Nat) :=
  [(n - 1, 2), (n, 2), (n + 1, 2), (2, m - 2), (2, m - 1), (2, m), (2, m + 1), (3, m + 1)]
def corner3F (n m : Nat) : List (Nat × Nat) :=
  [(n - 1, 2), (n, 2), (n + 1, 2), (2, m), (2, m + 1), (3, m + 1), (4, m + 1), (5, m + 1)]
def corner4F (n m : Nat) : List (Nat × Nat) :=
  [(n + 1, 2), (n + 1, m + 1), (2, m - 1), (2, m), (2, m + 1), (3, m - 1), (3, m), (3, m + 1)]

/-- the cells of a Utah shape none of whose modules wraps, from the index `k` of its top left module -/
def utahCells (ncol k : Nat) : List Nat :=
  [k, k + 1, k + ncol, k + ncol + 1, k + ncol + 2, k + 2 * ncol, k + 2 * ncol + 1, k + 2 * ncol + 2]

def utahMask (ncol k : Nat) : Nat :=
  1 <<< k ||| 1 <<< (k + 1) ||| 1 <<< (k + ncol) ||| 1 <<< (k + ncol + 1) ||| 1 <<< (k + ncol + 2) |||
  1 <<< (k + 2 * ncol) ||| 1 <<< (k + 2 * ncol + 1) ||| 1 <<< (k + 2 * ncol + 2)

/-- the Utah shape at `(r - 2, c - 2)`: with one mask operation if it lies inside the matrix -/
def utahFast (nrow ncol r c occ : Nat) : Option Nat :=
  match Nat.ble 4 r && Nat.ble 4 c && Nat.ble 3 ncol &&
      Nat.blt (c - 4 + (r - 4) * ncol + 2 * ncol + 2) (nrow * ncol) with
  | false => shapeF nrow ncol (utahF r c) occ
  | true =>
    match occ &&& utahMask ncol (c - 4 + (r - 4) * ncol) with
    | 0 => some (occ ||| utahMask ncol (c - 4 + (r - 4) * ncol))
    | _ + 1 => none

/-- `stepIf`; `mark` marks the eight cells of the shape -/
def stepF (ncw : Nat) (guard : Bool) (occ idx : Nat) (mark : Nat → Option Nat) : Option (Nat × Nat) :=
  match guard with
  | false => some (occ, idx)
  | true =>
    match Nat.blt idx ncw with
    | false => none
    | true =>
      match mark occ with
      | none => none
      | some occ => some (occ, idx + 1)

def placeF (nrow ncol ncw : Nat) (inRange : Bool) (occ idx r c : Nat) : Option (Nat × Nat) :=
  match inRange with
  | false => some (occ, idx)
  | true =>
    match Nat.ble 2 r && Nat.ble 2 c && Nat.blt (c - 2 + (r - 2) * ncol) (nrow * ncol) with
    | false => none
    | true => stepF ncw (!Nat.testBit occ (c - 2 + (r - 2) * ncol)) occ idx (utahFast nrow ncol r c)

/-- a `Dir` on biased coordinates: a step goes from `(r, c)` to `(r + ar - sr, c + ac - sc)` -/
structure DirF where
  sr : Nat
  ar : Nat
  sc : Nat
  ac : Nat
  inR : Nat → Nat → Nat → Nat → Bool
  out : Nat → Nat → Nat → Nat → Bool

def DirF.up : DirF :=
  ⟨2, 0, 0, 2, fun n _ r c => Nat.blt r (n + 2) && Nat.ble 2 c, fun _ m r c => Nat.blt r 2 || Nat.ble (m + 2) c⟩
def DirF.down : DirF :=
  ⟨0, 2, 2, 0, fun _ m r c => Nat.ble 2 r && Nat.blt c (m + 2), fun n _ r c => Nat.ble (n + 2) r || Nat.blt c 2⟩

def sweepF (nrow ncol ncw : Nat) (f : DirF) : Nat → Nat → Nat → Nat → Nat → Option (Nat × Nat × Nat × Nat)
  | 0, _, _, _, _ => none
  | fuel + 1, occ, idx, r, c =>
    match Nat.ble f.sr r && Nat.ble f.sc c with
    | false => none
    | true =>
      match placeF nrow ncol ncw (f.inR nrow ncol r c) occ idx r c with
      | none => none
      | some (occ, idx) =>
        match f.out nrow ncol (r + f.ar - f.sr) (c + f.ac - f.sc) with
        | true => some (occ, idx, r + f.ar - f.sr, c + f.ac - f.sc)
        | false => sweepF nrow ncol ncw f fuel occ idx (r + f.ar - f.sr) (c + f.ac - f.sc)

def roundF (nrow ncol ncw occ idx r c : Nat) : Option (Nat × Nat × Nat × Nat) :=
  (stepF ncw (r == nrow + 2 && c == 2) occ idx (shapeF nrow ncol (corner1F nrow ncol))).bind fun s1 =>
  (stepF ncw (r == nrow && c == 2 && ncol % 4 != 0) s1.1 s1.2 (shapeF nrow ncol (corner2F nrow ncol))).bind fun s2 =>
  (stepF ncw (r == nrow && c == 2 && ncol % 8 == 4) s2.1 s2.2 (shapeF nrow ncol (corner3F nrow ncol))).bind fun s3 =>
  (stepF ncw (r == nrow + 6 && c == 4 && ncol % 8 == 0) s3.1 s3.2 (shapeF nrow ncol (corner4F nrow ncol))).bind fun s4 =>
  match Nat.ble ((r - 2) / 2 + 2) (nrow + ncol) with
  | false => none
  | true =>
  (sweepF nrow ncol ncw .up ((r - 2) / 2 + 2) s4.1 s4.2 r c).bind fun u =>
  match Nat.ble ((u.2.2.2 + 1) / 2 + 2) (nrow + ncol) with
  | false => none
  | true =>
  (sweepF nrow ncol ncw .down ((u.2.2.2 + 1) / 2 + 2) u.1 u.2.1 (u.2.2.1 + 1) (u.2.2.2 + 3)).bind fun d =>
  some (d.1, d.2.1, d.2.2.1 + 3, d.2.2.2 + 1)

def mainLoopF (nrow ncol ncw : Nat) : Nat → Nat → Nat → Nat → Nat → Option (Nat × Nat)
  | 0, _, _, _, _ => none
  | fuel + 1, occ, idx, r, c =>
    match Nat.blt r (nrow + 2) || Nat.blt c (ncol + 2) with
    | false => some (occ, idx)
    | true =>
      match roundF nrow ncol ncw occ idx r c with
      | none => none
      | some (occ, idx, r, c) => mainLoopF nrow ncol ncw fuel occ idx r c

/-- the whole run; the two cells of the fixed pattern are known to be free and inside, so they need not be set -/
def runF (nrow ncol ncw : Nat) : Bool :=
  Nat.ble 2 nrow && Nat.ble 2 ncol &&
  match mainLoopF nrow ncol ncw (nrow + ncol) 0 0 6 2 with
  | none => false
  | some (occ, idx) =>
    idx == ncw &&
    match Nat.testBit occ (nrow * ncol - 1) with
    | true => 8 * idx == nrow * ncol
    | false => 8 * idx + 4 == nrow * ncol && !Nat.testBit occ (nrow * ncol - 1 - 1) &&
        !Nat.testBit occ (nrow * ncol - 1 - ncol) && !Nat.testBit occ (nrow * ncol - 1 - ncol - 1)

/-! Soundness: each stage of the fast run that answers `some` on the mask of a state `st` is matched by the stage
  of the symbolic run on `st` at the position `(r - 2, c - 2)`, with the same counter and a state with the new
  mask. -/

theorem le_of_blt_false {a b : Nat} (h : Nat.blt a b = false) : b ≤ a :=
  Nat.le_of_not_lt (fun hlt => by rw [← Nat.blt_eq, h] at hlt; cases hlt)

section
variable {nrow ncol ncw : Nat}

theorem indexF_sound {r c i : Nat} {row col : Int} (hr : row = (r : Int) - 2) (hc : col = (c : Int) - 2)
    (h : indexF nrow ncol r c = some i) : col + row * (ncol : Int) = (i : Int) ∧ i < nrow * ncol := by
  unfold indexF at h
  split at h
  · rename_i hb
    cases h
    simp only [Bool.and_eq_true, Nat.ble_eq, Nat.blt_eq] at hb
    refine ⟨?_, hb.2⟩
    rw [hr, hc, Int.sub_mul]
    omega
  · cases h

theorem wrapColF_sound {r c i : Nat} {row col : Int} {p : Int × Int} (hr : row = (r : Int) - 2)
    (hc : col = (c : Int) - 2) (h : wrapColF nrow ncol r c = some i)
    (hp : p = if col < 0 then (row + (4 - (((ncol + 4) % 8 : Nat) : Int)), col + ncol) else (row, col)) :
    p.2 + p.1 * (ncol : Int) = (i : Int) ∧ i < nrow * ncol := by
  unfold wrapColF at h
  split at h
  · rename_i hb
    have := le_of_blt_false hb
    rw [if_neg (by omega)] at hp
    exact hp ▸ indexF_sound hr hc h
  · rename_i hb
    simp only [Nat.blt_eq] at hb
    split at h
    · rename_i hk
      simp only [Nat.ble_eq] at hk
      rw [if_pos (by omega)] at hp
      exact hp ▸ indexF_sound (by omega) (by omega) h
    · cases h

theorem cellF_sound {r c i : Nat} {row col : Int} (hr : row = (r : Int) - 2) (hc : col = (c : Int) - 2)
    (h : cellF nrow ncol r c = some i) :
    (wrap nrow ncol row col).2 + (wrap nrow ncol row col).1 * (ncol : Int) = (i : Int) ∧ i < nrow * ncol := by
  unfold cellF at h
  unfold wrap
  split at h
  · rename_i hb
    have := le_of_blt_false hb
    rw [if_neg (by omega)]
    exact wrapColF_sound hr hc h rfl
  · rename_i hb
    simp only [Nat.blt_eq] at hb
    split at h
    · rename_i hk
      simp only [Nat.ble_eq] at hk
      rw [if_pos (by omega)]
      exact wrapColF_sound (by omega) (by omega) h rfl
    · cases h

theorem setF_sound {st : PS} {r c occ' : Nat} {row col : Int} (tag : Nat) (hr : row = (r : Int) - 2)
    (hc : col = (c : Int) - 2) (h : setF nrow ncol st.occ r c = some occ') :
    ∃ st', st.set nrow ncol row col tag = some st' ∧ st'.occ = occ' := by
  unfold setF at h
  split at h
  · cases h
  · rename_i i hi
    obtain ⟨hidx, hlt⟩ := cellF_sound hr hc hi
    split at h
    · cases h
    · rename_i hb
      cases h
      exact ⟨_, PS.set_eq_some hidx hlt hb, rfl⟩

def unbias (p : Nat × Nat) : Int × Int := ((p.1 : Int) - 2, (p.2 : Int) - 2)

theorem shapeF_sound {chr : Nat} : ∀ (ps : List (Nat × Nat)) (n : Nat) (st : PS) (occ' : Nat),
    shapeF nrow ncol ps st.occ = some occ' →
    ∃ st', st.shape nrow ncol ((ps.map unbias).zipIdx n) chr = some st' ∧ st'.occ = occ' := by
  intro ps
  induction ps with
  | nil =>
    intro n st occ' h
    cases h
    exact ⟨st, rfl, rfl⟩
  | cons p ps ih =>
    intro n st occ' h
    obtain ⟨r, c⟩ := p
    unfold shapeF at h
    split at h
    · cases h
    · rename_i occ1 h1
      obtain ⟨st1, hs1, rfl⟩ := setF_sound (10 * chr + (n + 1)) rfl rfl h1
      obtain ⟨st', hs', ho'⟩ := ih (n + 1) st1 occ' h
      refine ⟨st', ?_, ho'⟩
      rw [List.map_cons, List.zipIdx_cons, PS.shape_cons]
      simp only [unbias, hs1]
      exact hs'

/-- marking distinct free cells one after the other, none of them wrapped -/
theorem shape_cells {chr : Nat} : ∀ (L : List ((Int × Int) × Nat)) (cells : List Nat) (st : PS),
    L.length = cells.length →
    (∀ x ∈ L.zip cells, 0 ≤ x.1.1.1 ∧ 0 ≤ x.1.1.2 ∧ x.1.1.2 + x.1.1.1 * (ncol : Int) = (x.2 : Int)) →
    (∀ i ∈ cells, i < nrow * ncol ∧ st.occ.testBit i = false) → cells.Nodup →
    ∃ st', st.shape nrow ncol L chr = some st' ∧ st'.occ = cells.foldl (fun o i => o ||| 1 <<< i) st.occ := by
  intro L
  induction L with
  | nil =>
    intro cells st hlen _ _ _
    cases cells with
    | nil => exact ⟨st, rfl, rfl⟩
    | cons _ _ => cases hlen
  | cons p L ih =>
    intro cells st hlen hidx hfree hnd
    cases cells with
    | nil => cases hlen
    | cons i cells =>
      obtain ⟨hp1, hp2, hpi⟩ := hidx (p, i) List.mem_cons_self
      rw [List.nodup_cons] at hnd
      obtain ⟨st', hs', ho'⟩ := ih cells { occ := st.occ ||| 1 <<< i, log := (i, 10 * chr + (p.2 + 1)) :: st.log }
        (Nat.succ.inj hlen) (fun x hx => hidx x (List.mem_cons_of_mem _ hx))
        (fun j hj => ⟨(hfree j (List.mem_cons_of_mem _ hj)).1, by
          have : ¬ i = j := fun e => hnd.1 (e ▸ hj)
          show (st.occ ||| 1 <<< i).testBit j = false
          rw [testBit_set, (hfree j (List.mem_cons_of_mem _ hj)).2, decide_eq_false this]; rfl⟩) hnd.2
      refine ⟨st', ?_, ho'⟩
      rw [PS.shape_cons, PS.set_eq_some (by rw [wrap_nonneg _ _ _ _ hp1 hp2]; exact hpi)
        (hfree i List.mem_cons_self).1 (hfree i List.mem_cons_self).2]
      exact hs'

theorem free_of_and_eq_zero {occ m i : Nat} (h0 : occ &&& m = 0) (hm : m.testBit i = true) :
    occ.testBit i = false := by
  have := congrArg (·.testBit i) h0
  simpa [Nat.testBit_and, hm] using this

theorem utahFast_sound {st : PS} {r c occ' : Nat} {row col : Int} (chr : Nat) (hr : row = (r : Int) - 2)
    (hc : col = (c : Int) - 2) (h2r : 2 ≤ r) (h2c : 2 ≤ c) (h : utahFast nrow ncol r c st.occ = some occ') :
    ∃ st', st.shape nrow ncol (utahPos row col).zipIdx chr = some st' ∧ st'.occ = occ' := by
  unfold utahFast at h
  split at h
  · have e : utahPos row col = (utahF r c).map unbias := by
      simp only [utahPos, utahF, unbias, List.map_cons, List.map_nil, List.cons.injEq, Prod.mk.injEq, and_true, true_and, hr, hc]
      omega
    rw [e]
    exact shapeF_sound _ 0 st occ' h
  · rename_i hb
    simp only [Bool.and_eq_true, Nat.ble_eq, Nat.blt_eq] at hb
    obtain ⟨⟨⟨h4r, h4c⟩, h3⟩, hlt⟩ := hb
    obtain ⟨R, rfl⟩ : ∃ R, r = R + 4 := ⟨r - 4, by omega⟩
    obtain ⟨C, rfl⟩ : ∃ C, c = C + 4 := ⟨c - 4, by omega⟩
    simp only [Nat.add_sub_cancel] at h hlt
    split at h
    · rename_i h0
      cases h
      -- `occ &&& mask = 0` says that the eight cells of the mask are free; they are pairwise different (`3 ≤ ncol`)
      -- and inside the matrix, no position wraps: so the eight `set`s of the symbolic shape succeed one after the
      -- other (`shape_cells`) and their marks add up to `occ ||| mask`.
      -- the rows of the shape in the linear index:
      have e0 : (row - 2) * (ncol : Int) = (R : Int) * ncol := by rw [hr]; congr 1; omega
      have e1 : (row - 1) * (ncol : Int) = (R : Int) * ncol + ncol := by
        rw [show row - 1 = (R : Int) + 1 by omega, Int.add_mul, Int.one_mul]
      have e2 : row * (ncol : Int) = (R : Int) * ncol + 2 * ncol := by
        rw [show row = (R : Int) + 2 by omega, Int.add_mul]
      obtain ⟨st', hs', ho'⟩ := shape_cells (nrow := nrow) (ncol := ncol) (chr := chr) (utahPos row col).zipIdx
        (utahCells ncol (C + R * ncol)) st rfl
        (by
          simp only [utahPos, utahCells, List.zipIdx_cons, List.zipIdx_nil, List.zip_cons_cons, List.zip_nil_right,
            List.mem_cons, List.not_mem_nil, or_false]
          rintro x (rfl | rfl | rfl | rfl | rfl | rfl | rfl | rfl)
          all_goals
            dsimp only
            refine ⟨by omega, by omega, ?_⟩
            simp only [e0, e1, e2]
            omega)
        (by
          intro i hi
          refine ⟨?_, free_of_and_eq_zero h0 ?_⟩
          · simp only [utahCells, List.mem_cons, List.not_mem_nil, or_false] at hi
            omega
          · revert i
            simp [utahCells, utahMask, Nat.testBit_or, Nat.one_shiftLeft, Nat.testBit_two_pow])
        (by simp only [utahCells, List.nodup_cons, List.mem_cons, List.not_mem_nil, or_false, not_or,
              List.nodup_nil, and_true, not_false_eq_true]; omega)
      refine ⟨st', hs', ?_⟩
      rw [ho']
      simp only [utahCells, List.foldl_cons, List.foldl_nil, utahMask, Nat.or_assoc]
    · cases h

theorem stepF_sound {guard : Bool} {st : PS} {idx : Nat} {mark : Nat → Option Nat} {ps : List (Int × Int)}
    {res : Nat × Nat}
    (hm : ∀ occ', mark st.occ = some occ' → ∃ st', st.shape nrow ncol ps.zipIdx (idx + 1) = some st' ∧ st'.occ = occ')
    (h : stepF ncw guard st.occ idx mark = some res) :
    ∃ st', stepIf nrow ncol ncw guard (st, idx) ps = some (st', res.2) ∧ st'.occ = res.1 := by
  unfold stepF at h
  unfold stepIf
  split at h
  · cases h
    exact ⟨st, rfl, rfl⟩
  · split at h; · cases h
    rename_i hlt
    split at h; · cases h
    rename_i occ1 h1
    cases h
    obtain ⟨st', hs', ho'⟩ := hm occ1 h1
    refine ⟨st', ?_, ho'⟩
    simp only [if_true, Nat.blt_eq.mp hlt, hs', Option.map_some]

theorem placeF_sound {inRange : Bool} {st : PS} {idx r c : Nat} {row col : Int} {res : Nat × Nat}
    (hr : row = (r : Int) - 2) (hc : col = (c : Int) - 2)
    (h : placeF nrow ncol ncw inRange st.occ idx r c = some res) :
    ∃ st', place nrow ncol ncw inRange st idx row col = some (st', res.2) ∧ st'.occ = res.1 := by
  unfold placeF at h
  split at h
  · cases h
    exact ⟨st, rfl, rfl⟩
  · split at h; · cases h
    rename_i hb
    simp only [Bool.and_eq_true, Nat.ble_eq, Nat.blt_eq] at hb
    obtain ⟨⟨h2r, h2c⟩, hlt⟩ := hb
    have hi : col + row * (ncol : Int) = ((c - 2 + (r - 2) * ncol : Nat) : Int) := by
      obtain ⟨R, rfl⟩ : ∃ R, r = R + 2 := ⟨r - 2, by omega⟩
      rw [show row = (R : Int) by omega, Nat.add_sub_cancel]
      omega
    rw [place_eq hi hlt]
    exact stepF_sound (fun _ => utahFast_sound (idx + 1) hr hc h2r h2c) h

/-- `f` is the direction `d` on biased coordinates -/
structure DirF.Is (f : DirF) (d : Dir) : Prop where
  dr : d.dr = (f.ar : Int) - f.sr
  dc : d.dc = (f.ac : Int) - f.sc
  inR : ∀ n m r c : Nat, f.inR n m r c = d.inR n m ((r : Int) - 2) ((c : Int) - 2)
  out : ∀ n m r c : Nat, f.out n m r c = d.out n m ((r : Int) - 2) ((c : Int) - 2)

theorem DirF.up_is : DirF.up.Is .up := by
  refine ⟨rfl, rfl, fun n m r c => ?_, fun n m r c => ?_⟩
  · rw [Bool.eq_iff_iff]
    simp only [DirF.up, Dir.up, decide_eq_true_eq, Bool.and_eq_true, Nat.blt_eq, Nat.ble_eq]
    omega
  · rw [Bool.eq_iff_iff]
    simp only [DirF.up, Dir.up, decide_eq_true_eq, Bool.or_eq_true, Nat.blt_eq, Nat.ble_eq]
    omega

theorem DirF.down_is : DirF.down.Is .down := by
  refine ⟨rfl, rfl, fun n m r c => ?_, fun n m r c => ?_⟩
  · rw [Bool.eq_iff_iff]
    simp only [DirF.down, Dir.down, decide_eq_true_eq, Bool.and_eq_true, Nat.blt_eq, Nat.ble_eq]
    omega
  · rw [Bool.eq_iff_iff]
    simp only [DirF.down, Dir.down, decide_eq_true_eq, Bool.or_eq_true, Nat.blt_eq, Nat.ble_eq]
    omega

theorem sweepF_sound {f : DirF} {d : Dir} (hd : f.Is d) : ∀ (fuel : Nat) (st : PS) (idx r c : Nat) (row col : Int)
    (res : Nat × Nat × Nat × Nat), row = (r : Int) - 2 → col = (c : Int) - 2 →
    sweepF nrow ncol ncw f fuel st.occ idx r c = some res →
    ∃ st', sweep nrow ncol ncw d fuel (st, idx, row, col) =
        some (st', res.2.1, (res.2.2.1 : Int) - 2, (res.2.2.2 : Int) - 2) ∧ st'.occ = res.1 := by
  intro fuel
  induction fuel with
  | zero => intro st idx r c row col res _ _ h; cases h
  | succ fuel ih =>
    intro st idx r c row col res hr hc h
    rw [sweepF] at h
    split at h; · cases h
    rename_i hs
    simp only [Bool.and_eq_true, Nat.ble_eq] at hs
    split at h; · cases h
    rename_i occ1 idx1 hp
    obtain ⟨st1, hp1, rfl⟩ := placeF_sound hr hc hp
    have hr1 : row + d.dr = ((r + f.ar - f.sr : Nat) : Int) - 2 := by rw [hd.dr]; omega
    have hc1 : col + d.dc = ((c + f.ac - f.sc : Nat) : Int) - 2 := by rw [hd.dc]; omega
    rw [sweep, hr, hc, ← hd.inR, ← hr, ← hc, hp1]
    simp only [hr1, hc1, ← hd.out]
    split at h
    · rename_i ho
      cases h
      rw [if_pos ho]
      exact ⟨st1, rfl, rfl⟩
    · rename_i ho
      rw [if_neg (by rw [ho]; exact Bool.false_ne_true)]
      exact ih st1 idx1 _ _ _ _ res rfl rfl h

theorem corner_unbias (h2r : 2 ≤ nrow) (h2c : 2 ≤ ncol) :
    corner1Pos nrow ncol = (corner1F nrow ncol).map unbias ∧ corner2Pos nrow ncol = (corner2F nrow ncol).map unbias ∧
    corner3Pos nrow ncol = (corner3F nrow ncol).map unbias ∧ corner4Pos nrow ncol = (corner4F nrow ncol).map unbias := by
  simp only [corner1Pos, corner2Pos, corner3Pos, corner4Pos, corner1F, corner2F, corner3F, corner4F, unbias,
    List.map_cons, List.map_nil, List.cons.injEq, Prod.mk.injEq, and_true, true_and]
  omega

theorem roundF_sound {st : PS} {idx r c : Nat} {row col : Int} {res : Nat × Nat × Nat × Nat}
    (h2r : 2 ≤ nrow) (h2c : 2 ≤ ncol) (hr : row = (r : Int) - 2) (hc : col = (c : Int) - 2)
    (h : roundF nrow ncol ncw st.occ idx r c = some res) :
    ∃ st', DmSym.round nrow ncol ncw (st, idx, row, col) =
        some (st', res.2.1, (res.2.2.1 : Int) - 2, (res.2.2.2 : Int) - 2) ∧ st'.occ = res.1 := by
  obtain ⟨c1, c2, c3, c4⟩ := corner_unbias h2r h2c
  have g1 : decide (row = (nrow : Int) ∧ col = 0) = (r == nrow + 2 && c == 2) := by
    rw [Bool.eq_iff_iff]; simp only [decide_eq_true_eq, Bool.and_eq_true, beq_iff_eq]; omega
  have g2 : decide (row = (nrow : Int) - 2 ∧ col = 0 ∧ ncol % 4 ≠ 0) = (r == nrow && c == 2 && ncol % 4 != 0) := by
    rw [Bool.eq_iff_iff]; simp only [decide_eq_true_eq, Bool.and_eq_true, beq_iff_eq, bne_iff_ne]; omega
  have g3 : decide (row = (nrow : Int) - 2 ∧ col = 0 ∧ ncol % 8 = 4) = (r == nrow && c == 2 && ncol % 8 == 4) := by
    rw [Bool.eq_iff_iff]; simp only [decide_eq_true_eq, Bool.and_eq_true, beq_iff_eq]; omega
  have g4 : decide (row = (nrow : Int) + 4 ∧ col = 2 ∧ ncol % 8 = 0) = (r == nrow + 6 && c == 4 && ncol % 8 == 0) := by
    rw [Bool.eq_iff_iff]; simp only [decide_eq_true_eq, Bool.and_eq_true, beq_iff_eq]; omega
  unfold roundF at h
  obtain ⟨⟨o1, i1⟩, h1, h⟩ := Option.bind_eq_some_iff.mp h
  obtain ⟨⟨o2, i2⟩, h2, h⟩ := Option.bind_eq_some_iff.mp h
  obtain ⟨⟨o3, i3⟩, h3, h⟩ := Option.bind_eq_some_iff.mp h
  obtain ⟨⟨o4, i4⟩, h4, h⟩ := Option.bind_eq_some_iff.mp h
  split at h; · cases h
  rename_i hfu
  obtain ⟨⟨o5, i5, r5, c5⟩, h5, h⟩ := Option.bind_eq_some_iff.mp h
  split at h; · cases h
  rename_i hfd
  obtain ⟨⟨o6, i6, r6, c6⟩, h6, h⟩ := Option.bind_eq_some_iff.mp h
  cases h
  rw [Nat.ble_eq] at hfu hfd
  obtain ⟨s1, e1, rfl⟩ := stepF_sound (fun _ => shapeF_sound _ 0 st _) h1
  obtain ⟨s2, e2, rfl⟩ := stepF_sound (fun _ => shapeF_sound _ 0 s1 _) h2
  obtain ⟨s3, e3, rfl⟩ := stepF_sound (fun _ => shapeF_sound _ 0 s2 _) h3
  obtain ⟨s4, e4, rfl⟩ := stepF_sound (fun _ => shapeF_sound _ 0 s3 _) h4
  obtain ⟨s5, e5, rfl⟩ := sweepF_sound DirF.up_is _ s4 i4 r c row col _ hr hc h5
  obtain ⟨s6, e6, rfl⟩ := sweepF_sound DirF.down_is _ s5 i5 (r5 + 1) (c5 + 3) ((r5 : Int) - 2 + 1) ((c5 : Int) - 2 + 3) _
    (by omega) (by omega) h6
  have f1 : row.toNat / 2 + 2 = (r - 2) / 2 + 2 := by omega
  have f2 : ((c5 : Int) - 2 + 3).toNat / 2 + 2 = (c5 + 1) / 2 + 2 := by omega
  refine ⟨s6, ?_, rfl⟩
  unfold DmSym.round
  simp only [g1, g2, g3, g4, c1, c2, c3, c4, e1, e2, e3, e4, f1, f2, sweepUp_eq, sweepDown_eq, e5, e6,
    if_neg (Nat.not_lt.mpr hfu), if_neg (Nat.not_lt.mpr hfd), Option.some.injEq, Prod.mk.injEq, true_and]
  omega

theorem mainLoopF_sound (h2r : 2 ≤ nrow) (h2c : 2 ≤ ncol) : ∀ (fuel : Nat) (st : PS) (idx r c : Nat) (row col : Int)
    (res : Nat × Nat), row = (r : Int) - 2 → col = (c : Int) - 2 →
    mainLoopF nrow ncol ncw fuel st.occ idx r c = some res →
    ∃ st', DmSym.mainLoop nrow ncol ncw fuel (st, idx, row, col) = some (st', res.2) ∧ st'.occ = res.1 := by
  intro fuel
  induction fuel with
  | zero => intro st idx r c row col res _ _ h; cases h
  | succ fuel ih =>
    intro st idx r c row col res hr hc h
    rw [mainLoopF] at h
    rw [DmSym.mainLoop]
    split at h
    · rename_i hcond
      rw [Bool.or_eq_false_iff] at hcond
      have := le_of_blt_false hcond.1
      have := le_of_blt_false hcond.2
      cases h
      rw [if_neg (by simp only; omega)]
      exact ⟨st, rfl, rfl⟩
    · rename_i hcond
      simp only [Bool.or_eq_true, Nat.blt_eq] at hcond
      split at h; · cases h
      rename_i o1 i1 r1 c1 h1
      obtain ⟨s1, e1, rfl⟩ := roundF_sound h2r h2c hr hc h1
      rw [if_pos (by simp only; omega), e1]
      exact ih s1 i1 r1 c1 _ _ res rfl rfl h

theorem runF_sound (h : runF nrow ncol ncw = true) : ∃ st, run nrow ncol ncw = some st := by
  unfold runF at h
  simp only [Bool.and_eq_true, Nat.ble_eq] at h
  obtain ⟨⟨h2r, h2c⟩, h⟩ := h
  split at h; · cases h
  rename_i occ idx hml
  obtain ⟨st0, hml0, rfl⟩ := mainLoopF_sound h2r h2c (nrow + ncol) { occ := 0, log := [] } 0 6 2 4 0 _ rfl rfl hml
  have hl : st0.log.length = 8 * idx := by
    have := (mainLoop_inv walkInv_step _ (_, 0, 4, 0) _ ⟨logInv_init (nrow * ncol), rfl⟩ hml0).2
    rw [← List.length_map (f := Prod.snd), this, tagsRev_length]
  simp only [Bool.and_eq_true, beq_iff_eq] at h
  obtain ⟨rfl, h⟩ := h
  obtain ⟨e1, e2, hN⟩ := last_index h2r h2c
  unfold run
  rw [if_neg (by omega), hml0]
  simp only
  rw [if_neg (by omega)]
  split at h
  · rename_i hb
    rw [beq_iff_eq] at h
    rw [if_pos hb, if_pos (by omega)]
    exact ⟨_, rfl⟩
  · rename_i hb
    simp only [Bool.and_eq_true, beq_iff_eq, Bool.not_eq_true'] at h
    obtain ⟨⟨⟨hlen, f2⟩, f3⟩, f4⟩ := h
    rw [if_neg (by rw [hb]; exact Bool.false_ne_true), if_pos ⟨by omega, by simp [f2], by simp [f3], by simp [f4]⟩,
      PS.set_eq_some (by rw [wrap_nonneg _ _ _ _ (by omega) (by omega)]; exact e1) (by omega) hb]
    simp only
    rw [PS.set_eq_some (by rw [wrap_nonneg _ _ _ _ (by omega) (by omega)]; exact e2) (by omega)
      (by rw [testBit_set, f4, decide_eq_false (by omega)]; rfl)]
    exact ⟨_, rfl⟩

end

end BV.Proofs.DmFast
