/-
  `CodeLayout.merge`, for every size whose attributes are consistent.  Every write of `Merge` carries
  the value the expected image (`picture`) has at that module: the four `setLines` write `true` on border modules
  that are dark in the picture, the region loops copy matrix bits into interior modules.  So the order of the
  writes does not matter: the invariant `Drawn` says that every module either shows the picture already or is
  still light and not yet written, and at the end every dark module of the picture has been written.
-/
import BV.Proofs.DmShape
import BV.Proofs.DmSize
namespace BV.Proofs.DmMerge
open BV BV.Model BV.Model.Datamatrix BV.Spec.Datamatrix BV.Proofs.DmShape BV.Proofs.DmSize

theorem mem_strideList {a b st : Nat} (hst : 0 < st) {v : Int} :
    v ∈ strideList a b st ↔ ∃ x : Nat, v = x ∧ a ≤ x ∧ x < b ∧ x % st = a % st := by
  unfold strideList
  by_cases hab : a < b
  · have hc : ¬ ((st : Int) ≤ 0 ∨ (b : Int) ≤ a) := by omega
    have hn : ((b : Int) - a + st - 1) / st = ((b - a + st - 1) / st : Nat) := by
      rw [Int.natCast_ediv]; congr 1; omega
    rw [if_neg hc, hn, Int.toNat_natCast]
    simp only [List.mem_map, List.mem_range]
    constructor
    · rintro ⟨k, hk, rfl⟩
      have h1 : (k + 1) * st ≤ b - a + st - 1 := (Nat.le_div_iff_mul_le hst).mp hk
      rw [Nat.add_mul, Nat.mul_comm] at h1
      exact ⟨a + st * k, by rw [Int.natCast_add, Int.natCast_mul], by omega, by omega,
        Nat.add_mul_mod_self_left a st k⟩
    · rintro ⟨x, rfl, h1, h2, h3⟩
      have h4 : st * ((x - a) / st) = x - a :=
        Nat.mul_div_cancel' (Nat.dvd_of_mod_eq_zero (Nat.sub_mod_eq_zero_of_mod_eq h3))
      refine ⟨(x - a) / st, (Nat.le_div_iff_mul_le hst).mpr ?_, by rw [← Int.natCast_mul, h4]; omega⟩
      rw [Nat.succ_mul, Nat.mul_comm, h4]
      omega
  · have hc : (st : Int) ≤ 0 ∨ (b : Int) ≤ a := by omega
    rw [if_pos hc]
    constructor
    · intro h; cases h
    · rintro ⟨x, _, h1, h2, _⟩; omega

theorem natCast_mem_strideList {a b st : Nat} (hst : 0 < st) {x : Nat} :
    (x : Int) ∈ strideList a b st ↔ a ≤ x ∧ x < b ∧ x % st = a % st := by
  rw [mem_strideList hst]
  constructor
  · rintro ⟨x', e, h⟩
    cases Int.ofNat.inj e
    exact h
  · exact fun h => ⟨x, rfl, h⟩

theorem natCast_mem_strideList_one {b x : Nat} : (x : Int) ∈ strideList 0 b 1 ↔ x < b :=
  (natCast_mem_strideList (a := 0) Nat.one_pos).trans
    ⟨fun h => h.2.1, fun h => ⟨Nat.zero_le _, h, by rw [Nat.mod_one]⟩⟩

/-- module (x, y) of the image `Merge` draws for the symbol `a` from the mapping matrix `mat`.  Every region of
    `regionSize + 2` modules square has the solid L in its left column and bottom row, the clock track in its top
    row and right column, and inside them its part of the matrix. -/
def picture (a : Attr) (mat : Array Bool) (x y : Nat) : Bool :=
  let bs := a.regionSize + 2
  let xr := x % bs
  let yr := y % bs
  if xr = 0 ∨ yr = a.regionSize + 1 then true
  else if yr = 0 then xr % 2 == 0
  else if xr = a.regionSize + 1 then yr % 2 == 1
  else mat.getD ((x / bs * a.regionSize + (xr - 1)) + (y / bs * a.regionSize + (yr - 1)) * a.mapping) false

theorem picture_region (a : Attr) (mat : Array Bool) (h v : Nat) {xr yr : Nat} (hx : xr < a.regionSize + 2)
    (hy : yr < a.regionSize + 2) :
    picture a mat (h * (a.regionSize + 2) + xr) (v * (a.regionSize + 2) + yr) =
      if xr = 0 ∨ yr = a.regionSize + 1 then true
      else if yr = 0 then xr % 2 == 0
      else if xr = a.regionSize + 1 then yr % 2 == 1
      else mat.getD ((h * a.regionSize + (xr - 1)) + (v * a.regionSize + (yr - 1)) * a.mapping) false := by
  have hb : 0 < a.regionSize + 2 := by omega
  simp only [picture, Nat.mul_comm _ (a.regionSize + 2), Nat.mul_add_mod, Nat.mod_eq_of_lt hx, Nat.mod_eq_of_lt hy,
    Nat.mul_add_div hb, Nat.div_eq_of_lt hx, Nat.div_eq_of_lt hy, Nat.add_zero]

/-- the modules `Merge` draws with `setLines` are dark -/
theorem picture_border {a : Attr} (mat : Array Bool) (hev : a.regionSize % 2 = 0) {x y : Nat}
    (h : x % (a.regionSize + 2) = 0 ∨ y % (a.regionSize + 2) = a.regionSize + 1 ∨
      (y % (a.regionSize + 2) = 0 ∧ x % 2 = 0) ∨ (x % (a.regionSize + 2) = a.regionSize + 1 ∧ y % 2 = 1)) :
    picture a mat x y = true := by
  have h2 : 2 ∣ a.regionSize + 2 := Nat.dvd_of_mod_eq_zero (by omega)
  have hx := Nat.mod_mod_of_dvd x h2
  have hy := Nat.mod_mod_of_dvd y h2
  unfold picture
  simp only
  split
  · rfl
  · rename_i h1
    split
    · rename_i h0
      rcases h with h | h | h | h
      · exact absurd (Or.inl h) h1
      · exact absurd (Or.inr h) h1
      · rw [hx, h.2]; rfl
      · rw [h0] at hy; omega
    · rename_i h0
      rcases h with h | h | h | h
      · exact absurd (Or.inl h) h1
      · exact absurd (Or.inr h) h1
      · exact absurd h.1 h0
      · rw [if_pos h.1, hy, h.2]; rfl

/-- the other modules outside the interiors of the regions are light -/
theorem picture_light {a : Attr} (mat : Array Bool) (hev : a.regionSize % 2 = 0) {x y : Nat}
    (n1 : ¬ (y % (a.regionSize + 2) = 0 ∧ x % 2 = 0)) (n2 : y % (a.regionSize + 2) ≠ a.regionSize + 1)
    (n3 : ¬ (x % (a.regionSize + 2) = a.regionSize + 1 ∧ y % 2 = 1)) (n4 : x % (a.regionSize + 2) ≠ 0)
    (n5 : x % (a.regionSize + 2) = a.regionSize + 1 ∨ y % (a.regionSize + 2) = 0) :
    picture a mat x y = false := by
  have h2 : 2 ∣ a.regionSize + 2 := Nat.dvd_of_mod_eq_zero (by omega)
  have hx := Nat.mod_mod_of_dvd x h2
  have hy := Nat.mod_mod_of_dvd y h2
  unfold picture
  simp only
  rw [if_neg (by omega)]
  by_cases h0 : y % (a.regionSize + 2) = 0
  · rw [if_pos h0, beq_eq_false_iff_ne]
    omega
  · rw [if_neg h0, if_pos (by omega), beq_eq_false_iff_ne]
    omega

theorem region_offset (bs x : Nat) : x / bs * bs + x % bs = x := by
  rw [Nat.mul_comm]; exact Nat.div_add_mod x bs

theorem region_lt {n bs h r : Nat} (hh : h < n) (hr : r < bs) : h * bs + r < n * bs := by
  have : (h + 1) * bs ≤ n * bs := Nat.mul_le_mul_right _ hh
  rw [Nat.add_mul] at this
  omega

/-! the coordinates of `Merge`, which computes in `int`, as natural numbers -/

theorem coord_cast (rs h x : Nat) : (2 + (rs : Int)) * h + x + 1 = ((h * (rs + 2) + (x + 1) : Nat) : Int) := by
  rw [Int.natCast_add, Int.natCast_mul, Int.mul_comm, Int.add_comm 2]
  rfl

theorem index_cast (rs m h v x y : Nat) :
    (rs : Int) * h + x + ((rs : Int) * v + y) * m = ((h * rs + x + (v * rs + y) * m : Nat) : Int) := by
  push_cast
  rw [Int.mul_comm (h : Int), Int.mul_comm (v : Int)]

/-- what the argument needs: a table row `s` that agrees with consistent attributes `a` of even region size -/
structure Fits (s : CodeSize) (a : Attr) : Prop extends Agrees s a where
  size_eq : a.regionsPerSide * (a.regionSize + 2) = a.size
  mapping_eq : a.regionsPerSide * a.regionSize = a.mapping
  even : a.regionSize % 2 = 0

theorem index_inj {n x y x' y' : Nat} (hy : y < n) (hy' : y' < n) (h : x * n + y = x' * n + y') :
    x = x' ∧ y = y' := by
  have hx : x = x' := by
    have h1 := congrArg (· / n) h
    simpa [Nat.mul_comm _ n, Nat.mul_add_div (by omega : 0 < n), Nat.div_eq_of_lt hy, Nat.div_eq_of_lt hy'] using h1
  subst hx
  exact ⟨rfl, by omega⟩

/-- inside the symbol every module either shows the `picture` already, or it is still light and not among the
    modules `K` written so far -/
structure Drawn (s : CodeSize) (color : Scheme) (a : Attr) (mat : Array Bool) (K : Nat → Nat → Prop)
    (c : DatamatrixCode) : Prop where
  hsize : c.size = s
  hcolor : c.color = color
  hcontent : c.content = []
  hbits : ∀ x y, x < a.size → y < a.size →
    c.bits[x * a.size + y]? = some (picture a mat x y) ∨ (c.bits[x * a.size + y]? = some false ∧ ¬ K x y)

section drawn
variable {s : CodeSize} {color : Scheme} {a : Attr} {mat : Array Bool}

theorem Drawn.mono {K K' : Nat → Nat → Prop} {c : DatamatrixCode} (h : Drawn s color a mat K c)
    (hk : ∀ x y, x < a.size → y < a.size → K' x y → K x y) : Drawn s color a mat K' c :=
  ⟨h.hsize, h.hcolor, h.hcontent,
    fun x y hx hy => (h.hbits x y hx hy).imp_right fun ⟨hb, hn⟩ => ⟨hb, fun k => hn (hk x y hx hy k)⟩⟩

theorem drawn_new (hf : Fits s a) :
    Drawn s color a mat (fun _ _ => False) (newDataMatrixCodeWithColor s color) := by
  refine ⟨rfl, rfl, rfl, fun x y hx hy => Or.inr ⟨?_, not_false⟩⟩
  have hlt := region_lt hx hy
  simp only [newDataMatrixCodeWithColor, newBitList, hf.rows, hf.columns, ← Int.natCast_mul, Int.toNat_natCast,
    Array.getElem?_replicate]
  rw [if_pos (by omega)]

theorem set_drawn (hf : Fits s a) {K : Nat → Nat → Prop} {c : DatamatrixCode} (h : Drawn s color a mat K c)
    {px py : Int} {x0 y0 : Nat} (ex : px = x0) (ey : py = y0) (hx0 : x0 < a.size) (hy0 : y0 < a.size) :
    ∃ c', c.set px py (picture a mat x0 y0) = .ok c' ∧
      Drawn s color a mat (fun x y => K x y ∨ ((x : Int) = px ∧ (y : Int) = py)) c' := by
  subst ex ey
  have hlt : x0 * a.size + y0 < c.bits.size := by
    rcases Nat.lt_or_ge (x0 * a.size + y0) c.bits.size with h1 | h1
    · exact h1
    · have := h.hbits x0 y0 hx0 hy0
      rw [Array.getElem?_eq_none h1] at this
      simp at this
  refine ⟨{ c with bits := c.bits.setIfInBounds (x0 * a.size + y0) (picture a mat x0 y0) }, ?_,
    h.hsize, h.hcolor, h.hcontent, ?_⟩
  · unfold DatamatrixCode.set
    rw [h.hsize, hf.rows, ← Int.natCast_mul, ← Int.natCast_add, setBit_nat _ _ _ hlt]
    rfl
  · intro x y hx hy
    show (c.bits.setIfInBounds _ _)[x * a.size + y]? = _ ∨ _
    rw [Array.getElem?_setIfInBounds]
    by_cases hxy : x = x0 ∧ y = y0
    · obtain ⟨rfl, rfl⟩ := hxy
      exact Or.inl (by rw [if_pos rfl, if_pos hlt])
    · rw [if_neg (fun e => hxy (index_inj hy hy0 e.symm))]
      refine (h.hbits x y hx hy).imp_right fun ⟨hb, hn⟩ => ⟨hb, ?_⟩
      rintro (hk | ⟨e1, e2⟩)
      · exact hn hk
      · exact hxy ⟨Int.ofNat.inj e1, Int.ofNat.inj e2⟩

/-- a loop whose every round writes picture values: the written modules accumulate -/
theorem foldlM_drawn {γ : Type} {f : DatamatrixCode → γ → Res DatamatrixCode} {W : γ → Nat → Nat → Prop} :
    ∀ {xs : List γ} {K : Nat → Nat → Prop} {c : DatamatrixCode},
    (∀ p ∈ xs, ∀ (K : Nat → Nat → Prop) c, Drawn s color a mat K c →
      ∃ c', f c p = .ok c' ∧ Drawn s color a mat (fun x y => K x y ∨ W p x y) c') →
    Drawn s color a mat K c →
    ∃ c', xs.foldlM f c = .ok c' ∧ Drawn s color a mat (fun x y => K x y ∨ ∃ p ∈ xs, W p x y) c' := by
  intro xs
  induction xs with
  | nil =>
    intro K c _ h
    exact ⟨c, rfl, h.mono fun x y _ _ hk => hk.elim id fun ⟨_, hp, _⟩ => (List.not_mem_nil hp).elim⟩
  | cons p xs ih =>
    intro K c hf h
    obtain ⟨c1, e1, h1⟩ := hf p List.mem_cons_self K c h
    obtain ⟨c', e', h'⟩ := ih (fun q hq => hf q (List.mem_cons_of_mem _ hq)) h1
    refine ⟨c', ?_, h'.mono ?_⟩
    · simp only [List.foldlM_cons, e1, bind, Except.bind]
      exact e'
    · rintro x y _ _ (hk | ⟨q, hq, hw⟩)
      · exact Or.inl (Or.inl hk)
      · rcases List.mem_cons.mp hq with rfl | hq
        · exact Or.inl (Or.inr hw)
        · exact Or.inr ⟨q, hq, hw⟩

/-- `setLines` over two loop ranges inside the symbol, on modules that are dark in the picture -/
theorem setLines_drawn (hf : Fits s a) (swap : Bool) {ao so ai si : Nat} (hso : 0 < so) (hsi : 0 < si)
    (hV : ∀ o i, ao ≤ o → o % so = ao % so → ai ≤ i → i % si = ai % si →
      picture a mat (if swap then o else i) (if swap then i else o) = true)
    {K : Nat → Nat → Prop} {c : DatamatrixCode} (h : Drawn s color a mat K c) :
    ∃ c', c.setLines swap (strideList ao a.size so) (strideList ai a.size si) = .ok c' ∧
      Drawn s color a mat (fun x y => K x y ∨
        if swap then (ao ≤ x ∧ x % so = ao % so) ∧ (ai ≤ y ∧ y % si = ai % si)
        else (ao ≤ y ∧ y % so = ao % so) ∧ (ai ≤ x ∧ x % si = ai % si)) c' := by
  unfold DatamatrixCode.setLines
  refine (foldlM_drawn (W := fun o x y => ∃ i ∈ strideList ai a.size si,
    if swap then (x : Int) = o ∧ (y : Int) = i else (x : Int) = i ∧ (y : Int) = o) ?_ h).imp
      fun c' ⟨e, h'⟩ => ⟨e, h'.mono ?_⟩
  · intro o ho K c h
    refine foldlM_drawn (W := fun i x y =>
      if swap then (x : Int) = o ∧ (y : Int) = i else (x : Int) = i ∧ (y : Int) = o) ?_ h
    intro i hi K c h
    obtain ⟨o0, rfl, ho1, ho2, ho3⟩ := (mem_strideList hso).mp ho
    obtain ⟨i0, rfl, hi1, hi2, hi3⟩ := (mem_strideList hsi).mp hi
    have hv := hV o0 i0 ho1 ho3 hi1 hi3
    cases swap
    · simp only [Bool.false_eq_true, if_false] at hv ⊢
      rw [← hv]
      exact set_drawn hf h rfl rfl hi2 ho2
    · simp only [if_true] at hv ⊢
      rw [← hv]
      exact set_drawn hf h rfl rfl ho2 hi2
  · rintro x y hx hy (hk | hw)
    · exact Or.inl hk
    · right
      cases swap
      · simp only [Bool.false_eq_true, if_false] at hw ⊢
        exact ⟨y, (natCast_mem_strideList hso).mpr ⟨hw.1.1, hy, hw.1.2⟩,
          x, (natCast_mem_strideList hsi).mpr ⟨hw.2.1, hx, hw.2.2⟩, rfl, rfl⟩
      · simp only [if_true] at hw ⊢
        exact ⟨x, (natCast_mem_strideList hso).mpr ⟨hw.1.1, hx, hw.1.2⟩,
          y, (natCast_mem_strideList hsi).mpr ⟨hw.2.1, hy, hw.2.2⟩, rfl, rfl⟩

theorem merge_picture (hf : Fits s a) (l : CodeLayout) (hl : l.size = s)
    (hm : a.mapping * a.mapping ≤ l.matrix.size) :
    ∃ c, l.merge = .ok c ∧ c.size = s ∧ c.color = l.color ∧ c.content = [] ∧
      ∀ x y, x < a.size → y < a.size → c.bits[x * a.size + y]? = some (picture a l.matrix x y) := by
  subst hl
  have hbs : 0 < a.regionSize + 2 := by omega
  have hrs1 : (a.regionSize + 1) % (a.regionSize + 2) = a.regionSize + 1 := Nat.mod_eq_of_lt (by omega)
  unfold CodeLayout.merge
  simp only [hf.rows, hf.columns, hf.regionsH, hf.regionsV, hf.regionRows, hf.regionColumns, hf.matrixColumns]
  refine exists_ok_bind (setLines_drawn hf false (ao := 0) (so := a.regionSize + 2) (ai := 0) (si := 2) hbs
    (by omega) (fun o i _ ho _ hi => picture_border l.matrix hf.even (Or.inr (Or.inr (Or.inl ⟨ho, hi⟩))))
    (drawn_new hf)) fun c1 h1 => ?_
  refine exists_ok_bind (setLines_drawn hf false (ao := a.regionSize + 1) (so := a.regionSize + 2) (ai := 0) (si := 1)
    hbs (by omega) (fun o i _ ho _ _ => picture_border l.matrix hf.even (Or.inr (Or.inl (ho.trans hrs1)))) h1)
    fun c2 h2 => ?_
  refine exists_ok_bind (setLines_drawn hf true (ao := a.regionSize + 1) (so := a.regionSize + 2) (ai := 1) (si := 2)
    hbs (by omega)
    (fun o i _ ho _ hi => picture_border l.matrix hf.even (Or.inr (Or.inr (Or.inr ⟨ho.trans hrs1, hi⟩)))) h2)
    fun c3 h3 => ?_
  refine exists_ok_bind (setLines_drawn hf true (ao := 0) (so := a.regionSize + 2) (ai := 0) (si := 1)
    hbs (by omega) (fun o i _ ho _ _ => picture_border l.matrix hf.even (Or.inl ho)) h3)
    fun c4 h4 => ?_
  refine (foldlM_drawn (W := fun hR x y => ∃ vR ∈ strideList 0 a.regionsPerSide 1,
    ∃ xx ∈ strideList 0 a.regionSize 1, ∃ yy ∈ strideList 0 a.regionSize 1,
      (x : Int) = (2 + a.regionSize) * hR + xx + 1 ∧ (y : Int) = (2 + a.regionSize) * vR + yy + 1) ?_ h4).imp
    fun c ⟨e, h5⟩ => ⟨e, h5.hsize, h5.hcolor, h5.hcontent, fun x y hx hy => ?_⟩
  · intro hR hhR K c h
    refine foldlM_drawn ?_ h
    intro vR hvR K c h
    refine foldlM_drawn ?_ h
    intro xx hxx K c h
    refine foldlM_drawn ?_ h
    intro yy hyy K c h
    obtain ⟨h0, rfl, -, hh0, -⟩ := (mem_strideList (a := 0) Nat.one_pos).mp hhR
    obtain ⟨v0, rfl, -, hv0, -⟩ := (mem_strideList (a := 0) Nat.one_pos).mp hvR
    obtain ⟨x0, rfl, -, hx0, -⟩ := (mem_strideList (a := 0) Nat.one_pos).mp hxx
    obtain ⟨y0, rfl, -, hy0, -⟩ := (mem_strideList (a := 0) Nat.one_pos).mp hyy
    have hcol : h0 * a.regionSize + x0 < a.mapping := by rw [← hf.mapping_eq]; exact region_lt hh0 hx0
    have hrow : v0 * a.regionSize + y0 < a.mapping := by rw [← hf.mapping_eq]; exact region_lt hv0 hy0
    have hidx : h0 * a.regionSize + x0 + (v0 * a.regionSize + y0) * a.mapping < l.matrix.size := by
      have := region_lt hrow hcol
      omega
    have hget : l.matrix[h0 * a.regionSize + x0 + (v0 * a.regionSize + y0) * a.mapping]? =
        some (l.matrix.getD (h0 * a.regionSize + x0 + (v0 * a.regionSize + y0) * a.mapping) false) := by
      rw [Array.getD_eq_getD_getElem?, Array.getElem?_eq_getElem hidx]; rfl
    have hpic : picture a l.matrix (h0 * (a.regionSize + 2) + (x0 + 1)) (v0 * (a.regionSize + 2) + (y0 + 1)) =
        l.matrix.getD (h0 * a.regionSize + x0 + (v0 * a.regionSize + y0) * a.mapping) false := by
      rw [picture_region a _ h0 v0 (by omega) (by omega), if_neg (by omega), if_neg (by omega), if_neg (by omega)]
      rfl
    rw [index_cast, getBit_nat _ _ _ hget, ← hpic]
    exact set_drawn hf h (coord_cast _ _ _) (coord_cast _ _ _)
      (by rw [← hf.size_eq]; exact region_lt hh0 (by omega)) (by rw [← hf.size_eq]; exact region_lt hv0 (by omega))
  · rcases h5.hbits x y hx hy with hb | ⟨hb, hK⟩
    · exact hb
    · -- still light and not written by any of the five loops: then it is light in the picture
      simp only [not_or, Bool.false_eq_true, if_false, if_true, Nat.zero_mod, Nat.mod_one, and_true, hrs1] at hK
      obtain ⟨⟨⟨⟨⟨-, n1⟩, n2⟩, n3⟩, n4⟩, n5⟩ := hK
      rw [hb, picture_light l.matrix hf.even (fun h => n1 ⟨⟨Nat.zero_le _, h.1⟩, Nat.zero_le _, h.2⟩)
        (fun h => n2 ⟨⟨h ▸ Nat.mod_le y _, h⟩, Nat.zero_le _⟩)
        (fun h => n3 ⟨⟨h.1 ▸ Nat.mod_le x _, h.1⟩, Nat.pos_of_ne_zero fun e => absurd (e ▸ h.2) (by decide), h.2⟩)
        (fun h => n4 ⟨⟨Nat.zero_le _, h⟩, Nat.zero_le _⟩)]
      have hxr := Nat.mod_lt x hbs
      have hyr := Nat.mod_lt y hbs
      have ex := region_offset (a.regionSize + 2) x
      have ey := region_offset (a.regionSize + 2) y
      refine Decidable.byContradiction fun hin => n5 ?_
      have hxq : x / (a.regionSize + 2) < a.regionsPerSide := (Nat.div_lt_iff_lt_mul hbs).mpr (hf.size_eq ▸ hx)
      have hyq : y / (a.regionSize + 2) < a.regionsPerSide := (Nat.div_lt_iff_lt_mul hbs).mpr (hf.size_eq ▸ hy)
      refine ⟨(x / (a.regionSize + 2) : Nat), natCast_mem_strideList_one.mpr hxq,
        (y / (a.regionSize + 2) : Nat), natCast_mem_strideList_one.mpr hyq,
        (x % (a.regionSize + 2) - 1 : Nat), natCast_mem_strideList_one.mpr (by omega),
        (y % (a.regionSize + 2) - 1 : Nat), natCast_mem_strideList_one.mpr (by omega), ?_, ?_⟩
      · rw [coord_cast]; congr 1; omega
      · rw [coord_cast]; congr 1; omega

end drawn

end BV.Proofs.DmMerge
