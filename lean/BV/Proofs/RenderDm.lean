/-
  RenderDm — C11 for DataMatrix.  One relational pass over the layout and merge stages: two runs that start
  from layouts with the same bits and the same size `sz` (colours `c`, `c'` arbitrary) fail alike or yield
  results with the same bits, size `sz` and colours `c`, `c'`.  This gives both scheme independence and the
  fact that the size chosen from the table is the size of the symbol.
-/
import BV.Proofs.Render
import BV.Proofs.DmShape
import BV.Proofs.DmSize
namespace BV.Proofs.RenderDm
open BV BV.Model BV.Model.Datamatrix BV.Proofs.Render BV.Proofs.DmShape
open BV.Proofs.DmSym (utahPos corner1Pos corner2Pos corner3Pos corner4Pos)

/-- both fail with the same error, or both succeed with related values -/
def Rel {α β} (R : α → β → Prop) : Res α → Res β → Prop
  | .ok a, .ok b => R a b
  | .error e, .error e' => e = e'
  | _, _ => False

theorem Rel.bind {α β γ δ} {R : α → β → Prop} {S : γ → δ → Prop} {x : Res α} {y : Res β}
    {f : α → Res γ} {g : β → Res δ} (h : Rel R x y) (hfg : ∀ a b, R a b → Rel S (f a) (g b)) :
    Rel S (x >>= f) (y >>= g) := by
  cases x <;> cases y <;> simp only [Rel] at h
  · subst h; rfl
  · exact hfg _ _ h

theorem Rel.pure {α β} {R : α → β → Prop} {a : α} {b : β} (h : R a b) :
    Rel R (Pure.pure a : Res α) (Pure.pure b : Res β) := h

theorem Rel.ok {α β} {R : α → β → Prop} {a : α} {b : β} (h : R a b) :
    Rel R (.ok a : Res α) (.ok b : Res β) := h

theorem Rel.error {α β} {R : α → β → Prop} (e : Err) : Rel R (.error e : Res α) (.error e : Res β) := rfl

theorem Rel.bind_eq {α γ δ} {S : γ → δ → Prop} (x : Res α) {f : α → Res γ} {g : α → Res δ}
    (h : ∀ a, Rel S (f a) (g a)) : Rel S (x >>= f) (x >>= g) := by
  cases x
  · rfl
  · exact h _

theorem Rel.ite {α β} {R : α → β → Prop} {p : Prop} [Decidable p] {a a' : Res α} {b b' : Res β}
    (h1 : p → Rel R a b) (h2 : ¬p → Rel R a' b') : Rel R (if p then a else a') (if p then b else b') := by
  by_cases hp : p
  · rw [if_pos hp, if_pos hp]; exact h1 hp
  · rw [if_neg hp, if_neg hp]; exact h2 hp

theorem Rel.foldlM {α β ι} {R : α → β → Prop} {f : α → ι → Res α} {g : β → ι → Res β}
    (h : ∀ a b i, R a b → Rel R (f a i) (g b i)) : ∀ (l : List ι) (a : α) (b : β), R a b →
    Rel R (l.foldlM f a) (l.foldlM g b) := by
  intro l
  induction l with
  | nil => intro a b hab; exact hab
  | cons i l ih =>
    intro a b hab
    rw [List.foldlM_cons, List.foldlM_cons]
    exact Rel.bind (h a b i hab) ih

/-- same bits, both of size `sz`, colours `c` and `c'` -/
structure RL (sz : CodeSize) (c c' : Scheme) (l l' : CodeLayout) : Prop where
  matrix : l'.matrix = l.matrix
  occupy : l'.occupy = l.occupy
  size : l.size = sz
  size' : l'.size = sz
  color : l.color = c
  color' : l'.color = c'

variable {sz : CodeSize} {c c' : Scheme}

theorem set_rel {l l' : CodeLayout} (h : RL sz c c' l l') (row col : Int) (v : UInt8) (b : Nat) :
    Rel (RL sz c c') (l.set row col v b) (l'.set row col v b) := by
  unfold CodeLayout.set CodeLayout.occupied
  simp only [h.size, h.size', h.matrix, h.occupy]
  generalize (if row < 0 then (row + sz.matrixRows, col + (4 - (sz.matrixRows + 4).tmod 8)) else (row, col)) = p
  obtain ⟨r1, c1⟩ := p
  simp only []
  generalize (if c1 < 0 then (r1 + (4 - (sz.matrixColumns + 4).tmod 8), c1 + sz.matrixColumns) else (r1, c1)) = p
  obtain ⟨r2, c2⟩ := p
  simp only []
  refine Rel.bind_eq _ (fun o => ?_)
  refine Rel.ite (fun _ => ?_) (fun _ => ?_)
  · exact Rel.error _
  · refine Rel.bind_eq _ (fun o => ?_)
    refine Rel.bind_eq _ (fun m => ?_)
    exact Rel.pure ⟨rfl, rfl, rfl, rfl, h.color, h.color'⟩

/-- `SetSimple` and `CornerN`: a function that is `mShape` on positions that depend on the size only -/
theorem mShape_rel {f : CodeLayout → UInt8 → Res CodeLayout} (ps : CodeSize → List ((Int × Int) × Nat))
    (hf : ∀ l v, f l v = mShape l (ps l.size) v) (l l' : CodeLayout) (v : UInt8) (h : RL sz c c' l l') :
    Rel (RL sz c c') (f l v) (f l' v) := by
  rw [hf, hf, h.size, h.size']
  exact Rel.foldlM (fun _ _ p h => set_rel h p.1.1 p.1.2 v p.2) _ _ _ h

def RP {β} (sz : CodeSize) (c c' : Scheme) (p p' : CodeLayout × β) : Prop := RL sz c c' p.1 p'.1 ∧ p.2 = p'.2

theorem withNext_rel (data : Array UInt8) {l l' : CodeLayout} (h : RL sz c c' l l') (idx : Nat)
    (f : CodeLayout → UInt8 → Res CodeLayout)
    (hf : ∀ l l' d, RL sz c c' l l' → Rel (RL sz c c') (f l d) (f l' d)) :
    Rel (RP sz c c') (withNext data l idx f) (withNext data l' idx f) := by
  unfold withNext
  refine Rel.bind_eq _ (fun d => ?_)
  refine Rel.bind (hf _ _ _ h) (fun a b hab => ?_)
  exact Rel.pure ⟨hab, rfl⟩

theorem stepIf_rel (guard : Bool) (data : Array UInt8) {st st' : CodeLayout × Nat} (h : RP sz c c' st st')
    (f : CodeLayout → UInt8 → Res CodeLayout)
    (hf : ∀ l l' d, RL sz c c' l l' → Rel (RL sz c c') (f l d) (f l' d)) :
    Rel (RP sz c c') (stepIf guard data st f) (stepIf guard data st' f) := by
  unfold stepIf
  refine Rel.ite (fun _ => ?_) (fun _ => Rel.pure h)
  rw [← h.2]
  exact withNext_rel data h.1 _ f hf

theorem occupied_eq {l l' : CodeLayout} (h : RL sz c c' l l') (row col : Int) :
    l'.occupied row col = l.occupied row col := by
  unfold CodeLayout.occupied
  rw [h.size, h.size', h.occupy]

theorem placeIfFree_rel (data : Array UInt8) (inRange : Bool) {l l' : CodeLayout} (h : RL sz c c' l l')
    (idx : Nat) (row col : Int) :
    Rel (RP sz c c') (placeIfFree data inRange l idx row col) (placeIfFree data inRange l' idx row col) := by
  unfold placeIfFree
  refine Rel.ite (fun _ => ?_) (fun _ => Rel.pure ⟨h, rfl⟩)
  rw [occupied_eq h]
  refine Rel.bind_eq _ (fun o => ?_)
  refine Rel.ite (fun _ => Rel.pure ⟨h, rfl⟩) (fun _ => ?_)
  exact withNext_rel data h _ _ (mShape_rel (fun _ => (utahPos row col).zipIdx) (fun l v => setSimple_eq l row col v))

theorem mSweep_rel (data : Array UInt8) (d : DmSym.Dir) : ∀ (fuel : Nat) (l l' : CodeLayout) (idx : Nat) (row col : Int),
    RL sz c c' l l' →
    Rel (RP sz c c') (mSweep data d fuel (l, idx, row, col)) (mSweep data d fuel (l', idx, row, col)) := by
  intro fuel
  induction fuel with
  | zero => intro _ _ _ _ _ _; exact Rel.error _
  | succ fuel ih =>
    intro l l' idx row col hl
    unfold mSweep
    simp only [hl.size, hl.size']
    refine Rel.bind (placeIfFree_rel data _ hl _ _ _) (fun ⟨l1, i1⟩ ⟨l1', i1'⟩ ⟨hl1, he⟩ => ?_)
    cases he
    replace hl1 : RL sz c c' l1 l1' := hl1
    simp only [hl1.size, hl1.size']
    exact Rel.ite (fun _ => Rel.pure ⟨hl1, rfl⟩) (fun _ => ih _ _ _ _ _ hl1)

theorem setValuesLoop_rel (data : Array UInt8) : ∀ (fuel : Nat) (l l' : CodeLayout) (idx : Nat) (row col : Int),
    RL sz c c' l l' →
    Rel (RP sz c c') (setValuesLoop data fuel (l, idx, row, col)) (setValuesLoop data fuel (l', idx, row, col)) := by
  intro fuel
  induction fuel with
  | zero => intro _ _ _ _ _ _; exact Rel.error _
  | succ fuel ih =>
    intro l l' idx row col hl
    unfold setValuesLoop
    simp only [hl.size, hl.size', mSweep_up, mSweep_down]
    refine Rel.ite (fun _ => ?_) (fun _ => Rel.pure ⟨hl, rfl⟩)
    refine Rel.bind (stepIf_rel _ data (st := (l, idx)) (st' := (l', idx)) ⟨hl, rfl⟩ _
      (mShape_rel (fun s => (corner1Pos s.matrixRows s.matrixColumns).zipIdx) corner1_eq)) (fun p p' hp => ?_)
    refine Rel.bind (stepIf_rel _ data hp _
      (mShape_rel (fun s => (corner2Pos s.matrixRows s.matrixColumns).zipIdx) corner2_eq)) (fun p p' hp => ?_)
    refine Rel.bind (stepIf_rel _ data hp _
      (mShape_rel (fun s => (corner3Pos s.matrixRows s.matrixColumns).zipIdx) corner3_eq)) (fun p p' hp => ?_)
    refine Rel.bind (stepIf_rel _ data hp _
      (mShape_rel (fun s => (corner4Pos s.matrixRows s.matrixColumns).zipIdx) corner4_eq)) (fun p p' hp => ?_)
    obtain ⟨hp1, hp2⟩ := hp
    rw [← hp2]
    refine Rel.bind (mSweep_rel data _ _ _ _ _ _ _ hp1) (fun ⟨l1, t1⟩ ⟨l1', t1'⟩ ⟨hl1, he⟩ => ?_)
    cases he
    refine Rel.bind (mSweep_rel data _ _ _ _ _ _ _ hl1) (fun ⟨l2, t2⟩ ⟨l2', t2'⟩ ⟨hl2, he⟩ => ?_)
    cases he
    exact ih _ _ _ _ _ hl2

theorem setValues_rel {l l' : CodeLayout} (h : RL sz c c' l l') (data : Array UInt8) :
    Rel (RL sz c c') (l.setValues data) (l'.setValues data) := by
  unfold CodeLayout.setValues
  simp only [h.size, h.size']
  refine Rel.bind (setValuesLoop_rel data _ _ _ _ _ _ h) (fun ⟨l2, i2, r2, c2⟩ ⟨l2', _, _, _⟩ ⟨hl2, _⟩ => ?_)
  replace hl2 : RL sz c c' l2 l2' := hl2
  simp only []
  rw [occupied_eq hl2]
  refine Rel.bind_eq _ (fun o => ?_)
  refine Rel.ite (fun _ => ?_) (fun _ => Rel.pure hl2)
  refine Rel.bind (set_rel hl2 _ _ _ _) (fun _ _ h => ?_)
  exact set_rel h _ _ _ _

/-- same bits and content, both of size `sz`, colours `c` and `c'` -/
structure RD (sz : CodeSize) (c c' : Scheme) (a a' : DatamatrixCode) : Prop where
  bits : a'.bits = a.bits
  size : a.size = sz
  size' : a'.size = sz
  content : a'.content = a.content
  color : a.color = c
  color' : a'.color = c'

theorem dset_rel {a a' : DatamatrixCode} (h : RD sz c c' a a') (x y : Int) (v : Bool) :
    Rel (RD sz c c') (a.set x y v) (a'.set x y v) := by
  unfold DatamatrixCode.set
  simp only [h.size, h.size', h.bits]
  refine Rel.bind_eq _ (fun b => ?_)
  exact Rel.pure ⟨rfl, rfl, rfl, h.content, h.color, h.color'⟩

theorem setLines_rel {a a' : DatamatrixCode} (h : RD sz c c' a a') (swap : Bool) (outer inner : List Int) :
    Rel (RD sz c c') (a.setLines swap outer inner) (a'.setLines swap outer inner) := by
  unfold DatamatrixCode.setLines
  refine Rel.foldlM (fun a b o hab => ?_) _ _ _ h
  refine Rel.foldlM (fun a b i hab => ?_) _ _ _ hab
  refine Rel.ite (fun _ => dset_rel hab _ _ _) (fun _ => dset_rel hab _ _ _)

theorem merge_rel {l l' : CodeLayout} (h : RL sz c c' l l') : Rel (RD sz c c') l.merge l'.merge := by
  unfold CodeLayout.merge
  simp only [h.size, h.size', h.color, h.color', h.matrix]
  have h0 : RD sz c c' (newDataMatrixCodeWithColor sz c) (newDataMatrixCodeWithColor sz c') :=
    ⟨rfl, rfl, rfl, rfl, rfl, rfl⟩
  refine Rel.bind (setLines_rel h0 _ _ _) (fun _ _ h0 => ?_)
  refine Rel.bind (setLines_rel h0 _ _ _) (fun _ _ h0 => ?_)
  refine Rel.bind (setLines_rel h0 _ _ _) (fun _ _ h0 => ?_)
  refine Rel.bind (setLines_rel h0 _ _ _) (fun _ _ h0 => ?_)
  refine Rel.foldlM (fun _ _ _ h0 => ?_) _ _ _ h0
  refine Rel.foldlM (fun _ _ _ h0 => ?_) _ _ _ h0
  refine Rel.foldlM (fun _ _ _ h0 => ?_) _ _ _ h0
  refine Rel.foldlM (fun _ _ _ h0 => ?_) _ _ _ h0
  refine Rel.bind_eq _ (fun b => ?_)
  exact dset_rel h0 _ _ _

theorem render_rel (data : Bytes) (sz : CodeSize) (c c' : Scheme) :
    Rel (RD sz c c') (render data sz c) (render data sz c') := by
  unfold render
  have h0 : RL sz c c' (newCodeLayout sz c) (newCodeLayout sz c') := ⟨rfl, rfl, rfl, rfl, rfl, rfl⟩
  refine Rel.bind (setValues_rel h0 _) (fun _ _ h => ?_)
  exact merge_rel h

/-- the colours are stored and never read: another scheme gives the same symbol in the other colours, or the
    same error -/
theorem render_recolor (data : Bytes) (sz : CodeSize) (c c' : Scheme) :
    render data sz c' = (render data sz c).map (fun code => { code with color := c' }) := by
  have hr := render_rel data sz c c'
  generalize render data sz c = x at hr
  generalize render data sz c' = y at hr
  cases x <;> cases y <;> simp only [Rel] at hr
  · subst hr; rfl
  · rename_i a b
    obtain ⟨bits, size, content, color⟩ := b
    obtain ⟨h1, h2, h3, h4, _, h6⟩ := hr
    simp only at h1 h3 h4 h6
    subst h1 h3 h4 h6
    simp only [Except.map, h2]

theorem render_ok {data : Bytes} {sz : CodeSize} {c : Scheme} {code : DatamatrixCode}
    (h : render data sz c = .ok code) : code.size = sz ∧ code.color = c := by
  have hr := render_rel data sz c c
  rw [h] at hr
  exact ⟨RD.size hr, RD.color hr⟩

/-- the sides of the DataMatrix symbols (ECC 200 square sizes) -/
def sides : List Nat := [10, 12, 14, 16, 18, 20, 22, 24, 26, 32, 36, 40, 44, 48, 52, 64, 72, 80, 88, 96, 104, 120, 132, 144]

/-- certificate: the rows of the generated size table are exactly the 24 square sizes, in this order -/
theorem codeSizes_sides : codeSizes.map (fun s => (s.rows, s.columns)) = sides.map (fun (n : Nat) => ((n : Int), (n : Int))) := by
  decide

theorem codeSizes_mem (sz : CodeSize) (h : sz ∈ codeSizes) :
    sz.columns.toNat = sz.rows.toNat ∧ sz.rows.toNat ∈ sides := by
  have h1 : (sz.rows, sz.columns) ∈ codeSizes.map (fun s => (s.rows, s.columns)) := List.mem_map_of_mem h
  rw [codeSizes_sides] at h1
  obtain ⟨n, hn, he⟩ := List.mem_map.1 h1
  simp only [Prod.mk.injEq] at he
  rw [← he.1, ← he.2]
  exact ⟨rfl, by simpa using hn⟩

theorem dm_map (content : Bytes) (s : Scheme) :
    encodeWithColor content s = (encode content).map (Barcode.recolor s) := by
  unfold encode encodeWithColor
  simp only []
  split
  · rfl
  · rename_i size _
    simp only [bind, Except.bind]
    cases calcECC (addPadding (encodeText content) size.dataCodewords) size with
    | error e => rfl
    | ok data =>
      simp only []
      rw [render_recolor data size scheme16 s]
      cases render data size scheme16 <;> rfl

theorem dm_ok (content : Bytes) (s : Scheme) (b : Barcode) (h : encodeWithColor content s = .ok b) :
    b.kind = "DataMatrix" ∧ b.dims = 2 ∧ b.content = content ∧ b.checksum = none ∧ b.scheme = s ∧
    ∃ sz, DmSize.chooseSize (encodeText content).length = some sz ∧ sz ∈ codeSizes ∧ b.w = sz.columns.toNat ∧ b.h = sz.rows.toNat := by
  unfold encodeWithColor at h
  simp only [] at h
  split at h
  · cases h
  · rename_i size hfind
    simp only [bind, Except.bind] at h
    split at h
    · cases h
    · rename_i data _
      split at h
      · cases h
      · rename_i code hr
        obtain ⟨h1, h2⟩ := render_ok hr
        cases h
        refine ⟨kind_dm, rfl, rfl, rfl, h2, size, hfind, List.mem_of_find?_eq_some hfind, ?_, ?_⟩
        · show code.size.columns.toNat = _; rw [h1]
        · show code.size.rows.toNat = _; rw [h1]

end BV.Proofs.RenderDm
