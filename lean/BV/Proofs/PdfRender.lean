/-
  BV.Proofs.PdfRender — the picture of an accepted PDF417 symbol, read back row by row (C04): the module
  sequence `renderBarcode` produces in list form, the pixel lines of `symbolOf`, and the fact that the Spec's
  row reader `decodeRow` returns, on both pixel lines of every row, the left indicator, the data codewords of
  that row of the grid and the right indicator.
-/
import BV.Proofs.PdfAccept
namespace BV.Proofs.PdfRender
open BV BV.Model.Pdf417 BV.Gen.Pdf417 BV.Spec.Pdf417 BV.Proofs.PdfAccept BV.Proofs.PdfFrame

/-- the modules the inner loop of `renderBarcode` appends for the words `l`, the first of which has index `i`:
    18 modules for the word with index `lastIdx`, 17 for every other word -/
def goBits (lastIdx : Nat) : List Nat → Nat → List Bool
  | [], _ => []
  | col :: rest, i => msbBits col (if i == lastIdx then 18 else 17) ++ goBits lastIdx rest (i + 1)

theorem render_go_eq (lastIdx : Nat) : ∀ (l : List Nat) (i : Nat) (bl : Array Bool),
    renderBarcode.go lastIdx l i bl = bl ++ (goBits lastIdx l i).toArray := by
  intro l
  induction l with
  | nil => intro i bl; simp [renderBarcode.go, goBits]
  | cons col rest ih =>
    intro i bl
    rw [renderBarcode.go, ih, goBits]
    simp [Array.append_assoc]

/-- the modules of one row of words: 17 per word, 18 for the last word -/
def rowBits (row : List Nat) : List Bool := goBits (row.length - 1) row 0

theorem render_foldl : ∀ (codes : List (List Nat)) (bl : Array Bool),
    codes.foldl (fun bl row => renderBarcode.go (row.length - 1) row 0 bl) bl =
      bl ++ (codes.flatMap rowBits).toArray := by
  intro codes
  induction codes with
  | nil => intro bl; simp
  | cons row rest ih =>
    intro bl
    rw [List.foldl_cons, ih, render_go_eq, List.flatMap_cons]
    simp [rowBits, Array.append_assoc]

theorem renderBarcode_eq (codes : List (List Nat)) :
    renderBarcode codes = ((codes.map rowBits).flatten).toArray := by
  unfold renderBarcode
  rw [render_foldl]
  simp [List.flatMap_def]

/-- before the last word every word contributes 17 modules -/
theorem goBits_short (lastIdx : Nat) : ∀ (l : List Nat) (i : Nat), i + l.length ≤ lastIdx →
    goBits lastIdx l i = l.flatMap (fun w => msbBits w 17) := by
  intro l
  induction l with
  | nil => intro i _; rfl
  | cons col rest ih =>
    intro i h
    simp only [List.length_cons] at h
    have hne : (i == lastIdx) = false := by simp; omega
    rw [goBits, hne, ih (i + 1) (by omega), List.flatMap_cons]
    rfl

theorem goBits_snoc (lastIdx : Nat) : ∀ (l : List Nat) (x : Nat) (i : Nat), i + l.length = lastIdx →
    goBits lastIdx (l ++ [x]) i = l.flatMap (fun w => msbBits w 17) ++ msbBits x 18 := by
  intro l
  induction l with
  | nil =>
    intro x i h
    simp only [List.length_nil, Nat.add_zero] at h
    subst h
    simp [goBits]
  | cons col rest ih =>
    intro x i h
    simp only [List.length_cons] at h
    have hne : (i == lastIdx) = false := by simp; omega
    rw [List.cons_append, goBits, hne, ih x (i + 1) (by omega), List.flatMap_cons]
    simp

theorem rowBits_snoc (l : List Nat) (x : Nat) :
    rowBits (l ++ [x]) = l.flatMap (fun w => msbBits w 17) ++ msbBits x 18 := by
  unfold rowBits
  rw [goBits_snoc _ l x 0 (by simp)]

theorem window_eq (l : List Bool) (k W : Nat) (h : k + W ≤ l.length) :
    (List.range W).map (fun x => l.toArray.getD (k + x) false) = (l.drop k).take W := by
  apply List.ext_getElem
  · simp; omega
  · intro i h1 h2
    simp only [List.length_map, List.length_range] at h1
    simp only [List.getElem_map, List.getElem_range, List.getElem_take, List.getElem_drop]
    rw [Array.getD_eq_getD_getElem?, List.getElem?_toArray, List.getElem?_eq_getElem (by omega)]
    rfl

theorem flatten_length_of_const (W : Nat) : ∀ (blocks : List (List Bool)), (∀ b ∈ blocks, b.length = W) →
    blocks.flatten.length = blocks.length * W := by
  intro blocks
  induction blocks with
  | nil => intro _; simp
  | cons b rest ih =>
    intro h
    rw [List.flatten_cons, List.length_append, ih (fun x hx => h x (List.mem_cons_of_mem _ hx)),
      h b List.mem_cons_self, List.length_cons, Nat.succ_mul]
    omega

/-- blocks of equal length `W`, followed by anything: the `r`-th window of width `W` is the `r`-th block -/
theorem flatten_window (W : Nat) (post : List Bool) : ∀ (blocks : List (List Bool)) (r : Nat),
    (∀ b ∈ blocks, b.length = W) → r < blocks.length →
    ((blocks.flatten ++ post).drop (r * W)).take W = blocks.getD r [] := by
  intro blocks
  induction blocks with
  | nil => intro r _ hr; simp at hr
  | cons b rest ih =>
    intro r h hr
    have hb := h b List.mem_cons_self
    cases r with
    | zero =>
      simp only [Nat.zero_mul, List.drop_zero, List.flatten_cons, List.getD_cons_zero, List.append_assoc]
      rw [List.take_append_of_le_length (by omega), List.take_of_length_le (by omega)]
    | succ r =>
      simp only [List.length_cons] at hr
      rw [List.flatten_cons, List.getD_cons_succ, ← ih r (fun x hx => h x (List.mem_cons_of_mem _ hx)) (by omega),
        Nat.succ_mul, Nat.add_comm (r * W) W, ← List.drop_drop, List.append_assoc]
      have hd : (b ++ (rest.flatten ++ post)).drop W = rest.flatten ++ post := by rw [← hb]; exact List.drop_left
      rw [hd]

/-- the codewords the reader has to find in row `r`: left indicator, data, right indicator -/
def rowWords (rows cols lvl r : Nat) (row : List Nat) : List Nat :=
  getLeftCodeWord r rows cols lvl :: (row ++ [getRightCodeWord r rows cols lvl])

/-- the module line of row `r`: start pattern, the symbol characters of `rowWords`, stop pattern -/
def lineOf (rows cols lvl r : Nat) (row : List Nat) : List Bool :=
  msbBits c_start_word 17 ++ (rowWords rows cols lvl r row).flatMap (fun w => msbBits (pat (r % 3) w) 17) ++
    msbBits c_stop_word 18

theorem rowCodeList_eq (rows cols lvl r : Nat) (row : List Nat) :
    rowCodeList rows cols lvl r row =
      (c_start_word :: (rowWords rows cols lvl r row).map (pat (r % 3))) ++ [c_stop_word] := by
  simp [rowCodeList, rowWords]

theorem rowBits_rowCodeList (rows cols lvl r : Nat) (row : List Nat) :
    rowBits (rowCodeList rows cols lvl r row) = lineOf rows cols lvl r row := by
  rw [rowCodeList_eq, rowBits_snoc, List.flatMap_cons, List.flatMap_map, lineOf]

theorem flatMap_length_of_const (W : Nat) (g : Nat → List Bool) (hg : ∀ w, (g w).length = W) (ws : List Nat) :
    (ws.flatMap g).length = W * ws.length := by
  rw [List.flatMap_def, flatten_length_of_const W _ (by simp [hg]), List.length_map, Nat.mul_comm]

theorem flatMap_window (W : Nat) (g : Nat → List Bool) (hg : ∀ w, (g w).length = W) (ws : List Nat) (k : Nat)
    (post : List Bool) (h : k < ws.length) : ((ws.flatMap g ++ post).drop (W * k)).take W = g ws[k] := by
  rw [List.flatMap_def, Nat.mul_comm, flatten_window W post _ k (by simp [hg]) (by simpa using h)]
  simp [h]

theorem map_getD_range {α : Type} (l : List α) (d : α) : (List.range l.length).map (fun r => l.getD r d) = l := by
  apply List.ext_getElem
  · simp
  · intro i h1 h2
    simp only [List.getElem_map, List.getElem_range]
    rw [List.getD_eq_getElem?_getD, List.getElem?_eq_getElem h2]; rfl

theorem lineOf_length (rows cols lvl r : Nat) (row : List Nat) (h : row.length = cols) :
    (lineOf rows cols lvl r row).length = 17 * (cols + 4) + 1 := by
  rw [lineOf, List.length_append, List.length_append, Bits.length_msbBits, Bits.length_msbBits,
    flatMap_length_of_const 17 _ (fun w => Bits.length_msbBits _ _)]
  simp only [rowWords, List.length_cons, List.length_append, List.length_nil, h]
  omega

theorem codesFrom_lines (rows cols lvl : Nat) : ∀ (grid : List (List Nat)) (r0 : Nat),
    (codesFrom rows cols lvl r0 grid).map rowBits =
      (List.range grid.length).map (fun r => lineOf rows cols lvl (r0 + r) (grid.getD r [])) := by
  intro grid
  induction grid with
  | nil => intro r0; rfl
  | cons row rest ih =>
    intro r0
    rw [codesFrom, List.map_cons, ih, rowBits_rowCodeList, List.length_cons, List.range_succ_eq_map,
      List.map_cons, List.map_map]
    congr 1
    apply List.map_congr_left
    intro r _
    simp only [Function.comp, List.getD_cons_succ]
    rw [Nat.add_assoc, Nat.add_comm 1 r]

/-- the Spec's row reader, applied to the module line of row `r`, returns the left indicator, the data
    codewords and the right indicator of that row -/
theorem decodeRow_lineOf (rows cols lvl r : Nat) (row : List Nat) (hlen : row.length = cols)
    (hr : r < rows) (hrows : rows ≤ 30) (hcols : cols ≤ 30) (hl : lvl ≤ 8) (hrow : ∀ w ∈ row, w < 929) :
    decodeRow cols r (lineOf rows cols lvl r row) = .ok (rowWords rows cols lvl r row) := by
  have hci : r % 3 < 3 := Nat.mod_lt _ (by omega)
  obtain ⟨hL, hR⟩ := indicators_lt r rows cols lvl hr hrows hcols hl
  have hws : ∀ w ∈ rowWords rows cols lvl r row, w < 929 := by
    intro w hw
    simp only [rowWords, List.mem_cons, List.mem_append, List.not_mem_nil, or_false] at hw
    rcases hw with rfl | hw | rfl
    · exact hL
    · exact hrow w hw
    · exact hR
  have hwl : (rowWords rows cols lvl r row).length = cols + 2 := by simp [rowWords, hlen]
  generalize hwsdef : rowWords rows cols lvl r row = ws at *
  have hg : ∀ w, (msbBits (pat (r % 3) w) 17).length = 17 := fun w => Bits.length_msbBits _ _
  have hflen := flatMap_length_of_const 17 _ hg ws
  have hstart : (lineOf rows cols lvl r row).take 17 = startPattern := by
    rw [lineOf, hwsdef, List.append_assoc, List.take_append_of_le_length (by simp),
      List.take_of_length_le (by simp), start_word]
  have hstop : (lineOf rows cols lvl r row).drop (17 * (cols + 3)) = stopPattern := by
    have : 17 * (cols + 3) =
        (msbBits c_start_word 17 ++ ws.flatMap (fun w => msbBits (pat (r % 3) w) 17)).length := by
      rw [List.length_append, Bits.length_msbBits, hflen, hwl]; omega
    rw [lineOf, hwsdef, this, List.drop_left, stop_word]
  have hseg : ∀ k, k < cols + 2 →
      symbolValue (r % 3) (((lineOf rows cols lvl r row).drop (17 * (k + 1))).take 17) = .ok (ws.getD k 0) := by
    intro k hk
    have hk' : k < ws.length := by omega
    have hd : (lineOf rows cols lvl r row).drop (17 * (k + 1)) =
        (ws.flatMap (fun w => msbBits (pat (r % 3) w) 17) ++ msbBits c_stop_word 18).drop (17 * k) := by
      have e : (msbBits c_start_word 17).length = 17 := Bits.length_msbBits _ _
      rw [lineOf, hwsdef, List.append_assoc, Nat.mul_succ, Nat.add_comm (17 * k) 17, ← List.drop_drop]
      rw [List.drop_left' e]
    rw [hd, flatMap_window 17 _ hg ws k _ hk', List.getD_eq_getElem?_getD, List.getElem?_eq_getElem hk']
    exact (symbolValue_pat (r % 3) ws[k] hci (hws _ (List.getElem_mem hk'))).2
  unfold decodeRow
  simp only []
  rw [if_neg (by rw [hstart]; simp), if_neg (by rw [hstop]; simp),
    Bars.mapM_ok _ (fun k => ws.getD k 0) _ (fun k hk => hseg k (List.mem_range.mp hk)), ← hwl, map_getD_range]

/-- a picture drawn from `blocks` of `W` modules each: it is `W` wide, two pixel lines per block high, and
    both pixel lines of block `r` are that block -/
theorem mkBarcode_blocks (data : Bytes) (W : Nat) (hW : 0 < W) (blocks : List (List Bool))
    (hall : ∀ b ∈ blocks, b.length = W) (s : Scheme) :
    (mkBarcode data W blocks.flatten.toArray s).h = 2 * blocks.length ∧
    ∀ r, r < blocks.length → ∀ y, (y = 2 * r ∨ y = 2 * r + 1) →
      (List.range W).map (fun x => (mkBarcode data W blocks.flatten.toArray s).dark x y) = blocks.getD r [] := by
  have hfl := flatten_length_of_const _ blocks hall
  constructor
  · show blocks.flatten.toArray.size / W * c_moduleHeight = 2 * blocks.length
    rw [List.size_toArray, hfl, Nat.mul_div_cancel _ hW, c_moduleHeight, Nat.mul_comm]
  · intro r hr y hy
    have hy2 : y / c_moduleHeight = r := by rw [c_moduleHeight]; omega
    show (List.range W).map (fun x => blocks.flatten.toArray.getD (y / c_moduleHeight * W + x) false) = _
    rw [hy2, window_eq _ _ _ (by
        rw [hfl, ← Nat.succ_mul]
        exact Nat.mul_le_mul_right _ hr),
      ← blocks.flatten.append_nil, flatten_window _ [] blocks r hall hr]

/-- geometry of the accepted symbol and its pixel lines: width `17·(cols+4)+1`, height `2·rows`, and both
    pixel lines of row `r` are the module line `lineOf` of the `r`-th row of the grid -/
theorem symbol_lines (data : Bytes) (cws : List Nat) (cols rows lvl : Nat) (s : Scheme) (hc : 0 < cols)
    (hlen : (symbolCodewords cws cols lvl).length = rows * cols) :
    (symbolOf data cws cols rows lvl s).w = 17 * (cols + 4) + 1 ∧
    (symbolOf data cws cols rows lvl s).h = 2 * rows ∧
    ∀ r, r < rows → ∀ y, (y = 2 * r ∨ y = 2 * r + 1) →
      (List.range (symbolOf data cws cols rows lvl s).w).map
          (fun x => (symbolOf data cws cols rows lvl s).dark x y) =
        lineOf rows cols lvl r
          ((gridRows ((symbolCodewords cws cols lvl).length + 1) (symbolCodewords cws cols lvl) cols).getD r []) := by
  obtain ⟨g1, g2, _⟩ := gridRows_spec cols hc rows ((symbolCodewords cws cols lvl).length + 1)
    (symbolCodewords cws cols lvl) hlen (by omega)
  generalize hgrid : gridRows ((symbolCodewords cws cols lvl).length + 1) (symbolCodewords cws cols lvl) cols = grid
    at *
  have hsym : symbolOf data cws cols rows lvl s =
      mkBarcode data (17 * (cols + 4) + 1)
        (((List.range grid.length).map (fun r => lineOf rows cols lvl r (grid.getD r []))).flatten).toArray s := by
    unfold symbolOf
    simp only []
    rw [hgrid, renderBarcode_eq, codesFrom_lines, Nat.mul_comm (cols + 4) 17]
    simp only [Nat.zero_add]
  have hall : ∀ b ∈ (List.range grid.length).map (fun r => lineOf rows cols lvl r (grid.getD r [])),
      b.length = 17 * (cols + 4) + 1 := by
    intro b hb
    obtain ⟨r, hr, rfl⟩ := List.mem_map.mp hb
    have hr' : r < grid.length := List.mem_range.mp hr
    apply lineOf_length
    apply g2
    rw [List.getD_eq_getElem?_getD, List.getElem?_eq_getElem hr']
    exact List.getElem_mem hr'
  obtain ⟨hh, hlines⟩ := mkBarcode_blocks data (17 * (cols + 4) + 1) (Nat.succ_pos _) _ hall s
  rw [List.length_map, List.length_range] at hh hlines
  subst g1
  rw [hsym]
  refine ⟨rfl, hh, fun r hr y hy => ?_⟩
  rw [show (mkBarcode data (17 * (cols + 4) + 1) _ s).w = 17 * (cols + 4) + 1 from rfl, hlines r hr y hy,
    List.getD_eq_getElem?_getD, List.getElem?_map, List.getElem?_range (by omega)]
  rfl

/-- the two pixel lines of every row of the accepted symbol are identical (the Spec's "two pixel lines
    identical" test passes) -/
theorem symbol_lines_equal (data : Bytes) (cws : List Nat) (cols rows lvl : Nat) (s : Scheme) (hc : 0 < cols)
    (hlen : (symbolCodewords cws cols lvl).length = rows * cols) (r : Nat) (hr : r < rows) :
    (List.range (symbolOf data cws cols rows lvl s).w).map
        (fun x => (symbolOf data cws cols rows lvl s).dark x (2 * r)) =
      (List.range (symbolOf data cws cols rows lvl s).w).map
        (fun x => (symbolOf data cws cols rows lvl s).dark x (2 * r + 1)) := by
  obtain ⟨_, _, h⟩ := symbol_lines data cws cols rows lvl s hc hlen
  rw [h r hr (2 * r) (Or.inl rfl), h r hr (2 * r + 1) (Or.inr rfl)]

/-- geometry and rows of the accepted symbol: width `17·(cols+4)+1`, height `2·rows`, and the Spec's row
    reader, applied to either pixel line of row `r`, returns the left indicator, the `r`-th row of the
    codeword grid and the right indicator -/
theorem symbol_rows (data : Bytes) (cws : List Nat) (cols rows lvl : Nat) (s : Scheme)
    (hc : 2 ≤ cols ∧ cols ≤ 30) (hr : 2 ≤ rows ∧ rows ≤ 30) (hl : lvl ≤ 8)
    (hlen : (symbolCodewords cws cols lvl).length = rows * cols)
    (hlt : ∀ c ∈ symbolCodewords cws cols lvl, c < 929) :
    (symbolOf data cws cols rows lvl s).w = 17 * (cols + 4) + 1 ∧
    (symbolOf data cws cols rows lvl s).h = 2 * rows ∧
    ∀ r, r < rows → ∀ y, (y = 2 * r ∨ y = 2 * r + 1) →
      decodeRow cols r ((List.range (symbolOf data cws cols rows lvl s).w).map
          (fun x => (symbolOf data cws cols rows lvl s).dark x y)) =
        .ok (getLeftCodeWord r rows cols lvl ::
              ((gridRows ((symbolCodewords cws cols lvl).length + 1) (symbolCodewords cws cols lvl) cols).getD r []
                ++ [getRightCodeWord r rows cols lvl])) := by
  obtain ⟨h1, h2, h3⟩ := symbol_lines data cws cols rows lvl s (by omega) hlen
  refine ⟨h1, h2, ?_⟩
  intro r hrr y hy
  obtain ⟨g1, g2, g3⟩ := gridRows_spec cols (by omega) rows ((symbolCodewords cws cols lvl).length + 1)
    (symbolCodewords cws cols lvl) hlen (by omega)
  rw [h3 r hrr y hy]
  generalize hgrid : gridRows ((symbolCodewords cws cols lvl).length + 1) (symbolCodewords cws cols lvl) cols = grid
    at *
  have hr' : r < grid.length := by omega
  have hmem : grid.getD r [] ∈ grid := by
    rw [List.getD_eq_getElem?_getD, List.getElem?_eq_getElem hr']
    exact List.getElem_mem hr'
  exact decodeRow_lineOf rows cols lvl r (grid.getD r []) (g2 _ hmem) hrr hr.2 hc.2 hl
    (fun w hw => hlt w (by rw [← g3]; exact List.mem_flatten.mpr ⟨_, hmem, hw⟩))

/-- the hypotheses of `symbol_rows` are satisfiable: data codewords 1 2 3 at level 0 in 2 columns give the
    six codewords 4 1 2 3 322 687, i.e. 3 rows -/
example : (symbolCodewords [1, 2, 3] 2 0).length = 3 * 2 ∧ ∀ c ∈ symbolCodewords [1, 2, 3] 2 0, c < 929 := by
  decide

end BV.Proofs.PdfRender
