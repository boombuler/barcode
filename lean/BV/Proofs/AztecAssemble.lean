/-
  BV.Proofs.AztecAssemble — from the parts (stream round trip, stuffing, layer choice, check words, mode message,
  geometry of the drawing) to: the reference decoder accepts what `EncodeWithColor` returns and reads the payload.
-/
import BV.Proofs.AztecSearch
import BV.Proofs.AztecStuff
import BV.Proofs.AztecLayers
import BV.Proofs.AztecCheck
import BV.Proofs.AztecDecode
import BV.Proofs.AztecGeom
namespace BV.Proofs.AztecAssemble
open BV BV.Model.Aztec BV.Proofs.AztecBits BV.Proofs.AztecDecode

theorem highlevelEncode_ne_nil (data : Bytes) (hne : data ≠ []) (hlen : data.length < 2 ^ 58) :
    highlevelEncode data ≠ [] := by
  intro h
  have := BV.Proofs.AztecSearch.highlevel_roundtrip 6 (by omega) data hlen [] (by simp) (by simp)
  rw [h] at this
  simp [Spec.Aztec.parse] at this
  exact hne this

/-- the reader of `Spec.Aztec.decode` on the barcode of a drawn code is `modAt` -/
theorem reader_eq (code : AztecCode) :
    (fun (p : Int × Int) => code.toBarcode.dark (((code.toBarcode.w / 2 : Nat) : Int) + p.1).toNat
      (((code.toBarcode.w / 2 : Nat) : Int) + p.2).toNat) = modAt code := rfl

/-- **From an accepted layout to a decodable symbol.**  Given a payload (possibly empty), `pct ≥ 0`, an accepted
    layout, and the results of `generateCheckWords` and `generateModeMessage`, the reference decoder reads from the
    rendered symbol the payload, the shape, and the word counts. -/
theorem decode_of_layout (data : Bytes) (hlen : data.length < 2 ^ 58)
    (pct : Int) (hpct : 0 ≤ pct) (lay : Layout)
    (ok : LayoutOK (highlevelEncode data)
      (Int.tdiv (((highlevelEncode data).length : Int) * pct) 100 + 11) lay)
    (messageBits modeMessage : List Bool)
    (hmsg : generateCheckWords lay.stuffedBits lay.totalBitsInLayer lay.wordSize = .ok messageBits)
    (hmode : generateModeMessage lay.compact lay.layers (lay.stuffedBits.length / lay.wordSize) = .ok modeMessage)
    (color : Scheme) :
    let bc := (render lay.compact lay.layers messageBits modeMessage data color).toBarcode
    ∃ info, Spec.Aztec.decode bc.w bc.h bc.dark = .ok info ∧ info.content = data ∧
      info.compact = lay.compact ∧ info.layers = lay.layers ∧ info.size = bc.w ∧
      bc.w = Spec.Aztec.symbolSize lay.compact lay.layers ∧ bc.content = data ∧
      info.wordSize = lay.wordSize ∧ info.dataWords = lay.stuffedBits.length / lay.wordSize ∧
      info.checkWords = lay.totalBitsInLayer / lay.wordSize - lay.stuffedBits.length / lay.wordSize := by
  intro bc
  generalize hbits : highlevelEncode data = bits at ok
  have hw := ok.wordSize_facts.1
  have hw4 : lay.wordSize ∈ [4, 6, 8, 10, 12] := List.mem_cons_of_mem _ hw
  simp only [List.mem_cons, List.not_mem_nil, or_false] at hw
  have hw2 : 2 ≤ lay.wordSize := by omega
  obtain ⟨hwords, ⟨pad, hpad1, hpad2, hunstuff⟩, _⟩ := BV.Proofs.AztecStuff.stuffBits_words bits lay.wordSize hw2
  rw [← ok.stuffed] at hwords hunstuff
  obtain ⟨_, hk1, hkn⟩ := ok.checkWords hpct
  have hW := ok.dataWords_range hk1
  -- the message is the start padding, the data words and the check words; the mode message spells the shape
  have hmsglen : messageBits.length = totalBitsInLayer lay.layers lay.compact := by
    rw [BV.Proofs.AztecCheck.generateCheckWords_length lay.wordSize hw4 lay.stuffedBits lay.totalBitsInLayer hk1
      (Nat.le_trans (Nat.le_add_left _ _) hkn) hmsg, ok.total]
  obtain ⟨pp, n, eccw, _, hfield, _, _, hgen, hdwlen, hecclen, hdwlt, heccllt, hvalid⟩ :=
    BV.Proofs.AztecCheck.generateCheckWords_spec lay.wordSize hw4 lay.stuffedBits lay.totalBitsInLayer hk1
      (Nat.le_trans (Nat.le_add_left _ _) hkn)
  rw [hgen] at hmsg
  have hmsg : messageBits = _ := (Except.ok.inj hmsg).symm
  obtain ⟨mm, hmm, hmmlen, hmmvalid, hmmv⟩ :=
    BV.Proofs.AztecCheck.generateModeMessage_spec lay.compact lay.layers _ ok.shape hW
  rw [hmm] at hmode
  obtain rfl : mm = modeMessage := Except.ok.inj hmode
  obtain ⟨g1, g2, g3, g4, g5, g6, g7, g8, g9, g10⟩ :=
    BV.Proofs.AztecGeom.geometry lay.compact lay.layers messageBits mm hmsglen hmmlen data color
  -- the decoder, stage by stage, on the modules the geometry gives
  have hdec : Spec.Aztec.decode bc.w bc.h bc.dark =
      stageFinder bc.w (modAt (render lay.compact lay.layers messageBits mm data color)) := by
    have h1 : bc.h = bc.w := rfl
    rw [h1, decode_ok bc.w bc.dark lay.compact lay.layers ok.shape (by rw [← g1]; rfl)]
    rfl
  have hparse := BV.Proofs.AztecSearch.highlevel_roundtrip lay.wordSize (by omega) data hlen pad hpad1 hpad2
  rw [hbits, ← hunstuff] at hparse
  have hdata := stageData_ok bc.w (modAt (render lay.compact lay.layers messageBits mm data color)) lay.compact
    lay.layers lay.wordSize ok.wordSizeOf (lay.totalBitsInLayer % lay.wordSize)
    (Spec.Aztec.groups lay.wordSize (lay.stuffedBits.length / lay.wordSize) lay.stuffedBits) eccw
    (Nat.mod_lt _ (by omega)) hdwlt heccllt (by rw [g5, hmsg]) ⟨pp, n⟩ hfield (by rw [hecclen]; exact hvalid)
    (fun x hx => (hwords x hx).2) data hparse
  rw [hdwlen] at hdata
  have hmodeok := stageMode_ok bc.w (modAt (render lay.compact lay.layers messageBits mm data color)) lay.compact
    lay.layers (lay.stuffedBits.length / lay.wordSize) ok.shape.1 hW mm g6 hmmvalid hmmv (by rw [← g1]; rfl) g10
  have hfinder := stageFinder_ok bc.w (modAt (render lay.compact lay.layers messageBits mm data color)) lay.compact
    g7 g8 g9
  rw [hdec, hfinder, hmodeok, hdata]
  exact ⟨_, rfl, rfl, rfl, rfl, rfl, by rw [← g1]; rfl, g4, rfl, rfl, hecclen⟩

/-- the layer selection of `EncodeWithColor` -/
def selectLayers (bits : List Bool) (pct req : Int) : Res Layout :=
  if req != Int.ofNat BV.Gen.Aztec.c_DEFAULT_LAYERS then
    explicitLayers bits (Int.tdiv ((bits.length : Int) * pct) 100 + 11) req
  else autoLayers bits (Int.tdiv ((bits.length : Int) * pct) 100 + 11)
    (bits.length + (Int.tdiv ((bits.length : Int) * pct) 100 + 11)) (BV.Gen.Aztec.c_max_nb_bits + 2) 0 0 []

theorem selectLayers_explicit (bits : List Bool) (pct req : Int) (h : req ≠ 0) :
    selectLayers bits pct req = explicitLayers bits (Int.tdiv ((bits.length : Int) * pct) 100 + 11) req := by
  unfold selectLayers
  rw [if_pos]
  simpa [BV.Gen.Aztec.c_DEFAULT_LAYERS] using h

theorem selectLayers_auto (bits : List Bool) (pct : Int) :
    selectLayers bits pct 0 = autoLayers bits (Int.tdiv ((bits.length : Int) * pct) 100 + 11)
      (bits.length + (Int.tdiv ((bits.length : Int) * pct) 100 + 11)) 34 0 0 [] := by
  unfold selectLayers
  rw [if_neg (by simp [BV.Gen.Aztec.c_DEFAULT_LAYERS])]
  rfl

theorem ecc_ge (n : Nat) (pct : Int) (hpct : 0 ≤ pct) : 11 ≤ Int.tdiv ((n : Int) * pct) 100 + 11 := by
  have : 0 ≤ Int.tdiv ((n : Int) * pct) 100 := Int.tdiv_nonneg (Int.mul_nonneg (by omega) hpct) (by omega)
  omega

theorem selectLayers_ok {bits : List Bool} {pct req : Int} {lay : Layout} (h : selectLayers bits pct req = .ok lay) :
    LayoutOK bits (Int.tdiv ((bits.length : Int) * pct) 100 + 11) lay := by
  by_cases h0 : req = 0
  · subst h0
    rw [selectLayers_auto] at h
    exact (BV.Proofs.AztecLayers.autoLayers_ok h).1
  · rw [selectLayers_explicit _ _ _ h0] at h
    exact (BV.Proofs.AztecLayers.explicitLayers_ok h h0).2.2.2

theorem selectLayers_ne_panic (bits : List Bool) (pct req : Int) : selectLayers bits pct req ≠ .error .panic := by
  by_cases h0 : req = 0
  · subst h0
    rw [selectLayers_auto]
    exact BV.Proofs.AztecLayers.autoLayers_ne_panic _ _
  · rw [selectLayers_explicit _ _ _ h0]
    exact BV.Proofs.AztecLayers.explicitLayers_ne_panic _ _ _

/-- `EncodeWithColor` in terms of `selectLayers` -/
theorem encode_eq (data : Bytes) (pct req : Int) (color : Scheme) :
    encodeWithColor data pct req color =
      (selectLayers (highlevelEncode data) pct req >>= fun lay =>
       generateCheckWords lay.stuffedBits lay.totalBitsInLayer lay.wordSize >>= fun messageBits =>
       generateModeMessage lay.compact lay.layers (lay.stuffedBits.length / lay.wordSize) >>= fun modeMessage =>
       pure (render lay.compact lay.layers messageBits modeMessage data color).toBarcode) :=
  encodeWithColor_eq data pct req color

/-- what the layer selection rejects, `EncodeWithColor` rejects -/
theorem encode_rejected {data : Bytes} {pct req : Int} (color : Scheme)
    (h : selectLayers (highlevelEncode data) pct req = .error .rejected) :
    encodeWithColor data pct req color = .error .rejected := by
  rw [encode_eq, h]
  rfl

/-- `EncodeWithColor`, for `pct ≥ 0`: either the layer selection rejects, or it accepts a layout, check words and
    mode message are computed without panic, and the result is the rendered symbol -/
theorem encode_cases (data : Bytes) (pct req : Int) (hpct : 0 ≤ pct) (color : Scheme) :
    (selectLayers (highlevelEncode data) pct req = .error .rejected ∧
      encodeWithColor data pct req color = .error .rejected) ∨
    (∃ lay messageBits modeMessage, selectLayers (highlevelEncode data) pct req = .ok lay ∧
      LayoutOK (highlevelEncode data) (Int.tdiv (((highlevelEncode data).length : Int) * pct) 100 + 11) lay ∧
      generateCheckWords lay.stuffedBits lay.totalBitsInLayer lay.wordSize = .ok messageBits ∧
      generateModeMessage lay.compact lay.layers (lay.stuffedBits.length / lay.wordSize) = .ok modeMessage ∧
      encodeWithColor data pct req color =
        .ok (render lay.compact lay.layers messageBits modeMessage data color).toBarcode) := by
  cases hsel : selectLayers (highlevelEncode data) pct req with
  | error e =>
    cases e with
    | rejected => exact Or.inl ⟨rfl, encode_rejected color hsel⟩
    | panic => exact absurd hsel (selectLayers_ne_panic _ _ _)
  | ok lay =>
    have ok := selectLayers_ok hsel
    obtain ⟨_, hk1, _⟩ := ok.checkWords hpct
    obtain ⟨mb, hmb⟩ := BV.Proofs.AztecCheck.generateCheckWords_no_panic lay.wordSize
      (List.mem_cons_of_mem _ ok.wordSize_facts.1) lay.stuffedBits lay.totalBitsInLayer (by omega)
    obtain ⟨mm, hmm⟩ := BV.Proofs.AztecCheck.generateModeMessage_no_panic lay.compact lay.layers
      (lay.stuffedBits.length / lay.wordSize)
    refine Or.inr ⟨lay, mb, mm, rfl, ok, hmb, hmm, ?_⟩
    rw [encode_eq, hsel]
    show (generateCheckWords lay.stuffedBits lay.totalBitsInLayer lay.wordSize >>= _) = _
    rw [hmb]
    show (generateModeMessage lay.compact lay.layers (lay.stuffedBits.length / lay.wordSize) >>= _) = _
    rw [hmm]
    rfl

/-- a returned barcode is the rendered symbol of an accepted layout -/
theorem encode_ok_inv {data : Bytes} {pct req : Int} {color : Scheme} {bc : Barcode}
    (h : encodeWithColor data pct req color = .ok bc) :
    ∃ lay messageBits modeMessage, selectLayers (highlevelEncode data) pct req = .ok lay ∧
      LayoutOK (highlevelEncode data) (Int.tdiv (((highlevelEncode data).length : Int) * pct) 100 + 11) lay ∧
      generateCheckWords lay.stuffedBits lay.totalBitsInLayer lay.wordSize = .ok messageBits ∧
      generateModeMessage lay.compact lay.layers (lay.stuffedBits.length / lay.wordSize) = .ok modeMessage ∧
      bc = (render lay.compact lay.layers messageBits modeMessage data color).toBarcode := by
  obtain ⟨lay, mb, mm, hsel, hmb, hmm, hbc⟩ := encodeWithColor_ok h
  exact ⟨lay, mb, mm, hsel, selectLayers_ok hsel, hmb, hmm, hbc⟩

/-- a returned barcode is the square of the selected layout's side length and carries the payload, whatever the
    percentage -/
theorem encode_size {data : Bytes} {pct req : Int} {color : Scheme} {bc : Barcode}
    (h : encodeWithColor data pct req color = .ok bc) :
    ∃ lay, selectLayers (highlevelEncode data) pct req = .ok lay ∧
      LayoutOK (highlevelEncode data) (Int.tdiv (((highlevelEncode data).length : Int) * pct) 100 + 11) lay ∧
      bc.w = Spec.Aztec.symbolSize lay.compact lay.layers ∧ bc.h = bc.w ∧ bc.content = data := by
  obtain ⟨lay, mb, mm, hsel, ok, _, _, rfl⟩ := encode_ok_inv h
  exact ⟨lay, hsel, ok, BV.Proofs.AztecLayers.render_size lay.compact lay.layers mb mm data color, rfl,
    (render_fields lay.compact lay.layers mb mm data color).2.1⟩

end BV.Proofs.AztecAssemble
