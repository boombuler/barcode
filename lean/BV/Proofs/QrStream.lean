/-
  BV.Proofs.QrStream — the reference parser `Spec.Qr.parseSegments` on the data bit stream of a QR symbol
  (property C01, bit-stream level): a stream made of one segment and the padding of
  `addPaddingAndTerminator` (`QrStreamA.padded`) is read back as that segment with a conformant terminator and
  pad codewords; the byte and the numeric segment bodies.
-/
import BV.Proofs.QrStreamA
namespace BV.Proofs.QrStream
open BV BV.Model.Qr BV.Spec.Qr BV.Proofs.Bits BV.Proofs.QrStreamA
open BV.Gen.Qr

theorem bitsToNatAt_eq (bits : Array Bool) (p n : Nat) : bitsToNatAt bits p n = readAt bits p n := rfl

theorem readAt_flatMap (cw : List Nat) : ∀ (pre post : List Bool) (i : Nat), i < cw.length →
    (∀ c ∈ cw, c < 256) →
    readAt (pre ++ (cw.flatMap (fun c => msbBits c 8) ++ post)).toArray (pre.length + 8 * i) 8 =
      cw.getD i 0 := by
  induction cw with
  | nil => intro _ _ i hi; simp at hi
  | cons c cw ih =>
    intro pre post i hi hc
    cases i with
    | zero =>
      rw [List.flatMap_cons, List.append_assoc]
      exact readAt_msbBits pre _ c 8 (hc c (List.mem_cons_self ..))
    | succ i =>
      have := ih (pre ++ msbBits c 8) post i (by simpa using hi)
        (fun c h => hc c (List.mem_cons_of_mem _ h))
      rw [List.flatMap_cons]
      simp only [List.length_append, length_msbBits, List.append_assoc] at this
      have e : pre.length + 8 * (i + 1) = pre.length + 8 + 8 * i := by omega
      rw [e, List.append_assoc, this]
      simp

theorem length_flatMap_msbBits8 (cw : List Nat) : (cw.flatMap (fun c => msbBits c 8)).length = 8 * cw.length :=
  length_flatMap_of_const _ _ 8 (fun _ => length_msbBits _ _)

/-- `parseTail` succeeds when its three checks hold (`t` terminator bits, `a` bits up to the codeword boundary,
    `npad` pad codewords) -/
theorem parseTail_of_checks (bits : Array Bool) (p t a npad : Nat)
    (ht : min 4 (bits.size - p) = t) (hq : (p + t + 7) / 8 * 8 = p + t + a)
    (hn : (bits.size - (p + t + a)) / 8 = npad)
    (c1 : bitsToNatAt bits p t = 0)
    (c2 : ∀ i, i < a → bits.getD (p + t + i) false = false)
    (c3 : ∀ i, i < npad → bitsToNatAt bits (p + t + a + 8 * i) 8 = (if i % 2 == 0 then 0xEC else 0x11)) :
    parseTail bits p = .ok (t, npad) := by
  unfold parseTail
  simp only []
  rw [ht, hq, Nat.add_sub_cancel_left, hn]
  have e1 : (bitsToNatAt bits p t == 0) = true := by rw [c1]; rfl
  have e2 : ((List.range a).all (fun i => !bits.getD (p + t + i) false)) = true := by
    rw [List.all_eq_true]; intro i hi; rw [c2 i (List.mem_range.mp hi)]; rfl
  have e3 : ((List.range npad).all (fun i =>
      bitsToNatAt bits (p + t + a + 8 * i) 8 == (if i % 2 == 0 then 0xEC else 0x11))) = true := by
    rw [List.all_eq_true]; intro i hi; rw [c3 i (List.mem_range.mp hi)]; simp
  rw [e1, e2, e3]
  rfl

theorem padSeq_eq (n i : Nat) :
    padSeq n i = ((List.range n).map (fun j => if (i + j) % 2 == 0 then 236 else 17)).flatMap
      (fun c => msbBits c 8) := by
  rw [List.flatMap_map]; rfl

/-- the reference tail parser accepts what `addPaddingAndTerminator` appends after `bl` and reports the
    terminator length and the number of pad codewords -/
theorem parseTail_padded (bl : List Bool) (T : Nat) (h : bl.length ≤ 8 * T) :
    parseTail (padded bl (8 * T)).toArray bl.length =
      .ok (min 4 (8 * T - bl.length), (8 * T - (bl.length + min 4 (8 * T - bl.length))) / 8) := by
  have hsz : (padded bl (8 * T)).toArray.size = 8 * T := by simp [length_padded bl T h]
  obtain ⟨t, ht⟩ : ∃ t, min 4 (8 * T - bl.length) = t := ⟨_, rfl⟩
  have hq := add_alignLen (bl.length + t)
  have hn := div_sub_alignLen T (bl.length + t)
  obtain ⟨a, ha⟩ : ∃ a, alignLen (bl.length + t) = a := ⟨_, rfl⟩
  obtain ⟨P, hP⟩ : ∃ P, (8 * T - (bl.length + t)) / 8 = P := ⟨_, rfl⟩
  rw [ha] at hq hn
  rw [hP] at hn
  have hL : padded bl (8 * T) =
      bl ++ (List.replicate t false ++ (List.replicate a false ++ padSeq P 0)) := by
    simp only [padded, termLen, ht, ha, hn]
  rw [hL] at hsz ⊢
  rw [ht, hP]
  apply parseTail_of_checks _ _ t a
  · rw [hsz, ht]
  · exact hq.symm
  · rw [hsz]; exact hn
  · have := readAt_mid bl (List.replicate t false) (List.replicate a false ++ padSeq P 0)
    rwa [List.length_replicate, bitsToNat_replicate_false] at this
  · intro i hi
    rw [← List.append_assoc, Array.getD_eq_getD_getElem?, List.getElem?_toArray,
      List.getElem?_append_right (by simp), List.getElem?_append_left (by simpa using by omega)]
    simp only [List.length_append, List.length_replicate]
    rw [List.getElem?_replicate, if_pos (by omega)]
    rfl
  · intro i hi
    have := readAt_flatMap ((List.range P).map (fun j => if (0 + j) % 2 == 0 then 236 else 17))
      (bl ++ (List.replicate t false ++ List.replicate a false)) [] i (by simpa using hi)
      (fun c hc => by
        obtain ⟨j, _, rfl⟩ := List.mem_map.mp hc
        split <;> omega)
    rw [← padSeq_eq, List.append_nil] at this
    simp only [List.length_append, List.length_replicate, List.append_assoc] at this
    rw [bitsToNatAt_eq, show bl.length + t + a + 8 * i = bl.length + (t + a) + 8 * i by omega, this]
    simp [List.getD, hi]

theorem parseSegments_finish (version : Nat) (bits : Array Bool) (fuel p : Nat) (modes : List Nat)
    (acc : List Bytes) (t npad : Nat)
    (h : bits.size - p < 4 ∨ bitsToNatAt bits p 4 = 0)
    (ht : parseTail bits p = .ok (t, npad)) :
    parseSegments version bits (fuel + 1) p modes acc =
      .ok { modes := modes.reverse, content := acc.reverse.flatten, terminatorBits := t, padCodewords := npad } := by
  rw [parseSegments]
  simp only [ht]
  by_cases h1 : bits.size - p < 4
  · rw [if_pos h1]; rfl
  · rw [if_neg h1]
    have h2 : bitsToNatAt bits p 4 = 0 := by
      rcases h with h | h
      · exact absurd h h1
      · exact h
    rw [h2]
    rfl

/-- the segment body parser selected by the mode indicator -/
def parseBody (bits : Array Bool) (m n body : Nat) : Except String (Bytes × Nat) :=
  if m == 1 then parseNumeric bits (n + 1) n body
  else if m == 2 then parseAlnum bits (n + 1) n body
  else parseBytes bits n body

theorem parseSegments_step (version : Nat) (bits : Array Bool) (fuel p : Nat) (modes : List Nat)
    (acc : List Bytes) (m cb n : Nat) (seg : Bytes) (p' : Nat)
    (h1 : 4 ≤ bits.size - p) (hm : bitsToNatAt bits p 4 = m) (hm0 : m ≠ 0)
    (hcb : countBits version m = cb) (hcb0 : cb ≠ 0) (h2 : p + 4 + cb ≤ bits.size)
    (hn : bitsToNatAt bits (p + 4) cb = n)
    (hb : parseBody bits m n (p + 4 + cb) = .ok (seg, p')) :
    parseSegments version bits (fuel + 1) p modes acc =
      parseSegments version bits fuel p' (m :: modes) (seg :: acc) := by
  rw [parseSegments]
  simp only []
  rw [if_neg (by omega), hm, hcb, hn]
  have e1 : (m == 0) = false := by simpa using hm0
  have e2 : (cb == 0) = false := by simpa using hcb0
  simp only [e1, e2, Bool.false_eq_true, if_false]
  rw [if_neg (by omega)]
  unfold parseBody at hb
  rw [hb]

/-- a stream made of one segment (mode `m`, count `n` in `cb` bits, `body`) padded to `8·T` bits is parsed as
    that segment, a terminator of four zero bits (fewer only if the capacity is reached) and pad codewords filling
    the rest, provided the body parser reads `body` back as `seg` wherever it stands -/
theorem single_segment (version m cb n : Nat) (body : List Bool) (seg : Bytes) (T fuel : Nat)
    (hm0 : m ≠ 0) (hm16 : m < 16)
    (hcb : countBits version m = cb) (hcb0 : cb ≠ 0) (hn : n < 2 ^ cb)
    (hbody : ∀ pre post : List Bool, parseBody (pre ++ (body ++ post)).toArray m n pre.length =
      .ok (seg, pre.length + body.length))
    (hcap : 4 + cb + body.length ≤ 8 * T) :
    parseSegments version (padded (msbBits m 4 ++ (msbBits n cb ++ body)) (8 * T)).toArray (fuel + 2) 0 [] [] =
      .ok { modes := [m], content := seg, terminatorBits := min 4 (8 * T - (4 + cb + body.length)),
            padCodewords := (8 * T - (4 + cb + body.length + min 4 (8 * T - (4 + cb + body.length)))) / 8 } := by
  have hlen : (msbBits m 4 ++ (msbBits n cb ++ body)).length = 4 + cb + body.length := by
    simp; omega
  have hsz : (padded (msbBits m 4 ++ (msbBits n cb ++ body)) (8 * T)).toArray.size = 8 * T := by
    simp [length_padded _ T (by rw [hlen]; omega)]
  have htail := parseTail_padded (msbBits m 4 ++ (msbBits n cb ++ body)) T (by omega)
  rw [hlen] at htail
  obtain ⟨tail, hL, h0⟩ := padded_tail (msbBits m 4 ++ (msbBits n cb ++ body)) (8 * T)
  rw [hlen] at h0
  rw [List.append_assoc, List.append_assoc] at hL
  rw [hL] at hsz htail ⊢
  rw [parseSegments_step version (msbBits m 4 ++ (msbBits n cb ++ (body ++ tail))).toArray (fuel + 1) 0 [] []
    m cb n seg (4 + cb + body.length) (by omega)
    (readAt_msbBits [] _ m 4 (by simpa using hm16)) hm0 hcb hcb0 (by omega)
    (by
      have := readAt_msbBits (msbBits m 4) (body ++ tail) n cb hn
      rwa [length_msbBits] at this)
    (by
      have := hbody (msbBits m 4 ++ msbBits n cb) tail
      simpa only [List.length_append, length_msbBits, List.append_assoc] using this)]
  rw [parseSegments_finish version _ fuel (4 + cb + body.length) [m] [seg] _ _ ?_ htail]
  · simp
  · rw [hsz]
    by_cases h4 : 8 * T - (4 + cb + body.length) < 4
    · exact Or.inl h4
    · obtain ⟨tail', rfl⟩ := h0 (by omega)
      have := readAt_mid (msbBits m 4 ++ (msbBits n cb ++ body)) (List.replicate 4 false) tail'
      rw [hlen, List.length_replicate, bitsToNat_replicate_false] at this
      right
      rw [bitsToNatAt_eq]
      simpa only [List.append_assoc] using this

theorem parseBytes_body (content : Bytes) (pre post : List Bool) :
    parseBytes (pre ++ (content.flatMap (fun b => msbBits b.toNat 8) ++ post)).toArray content.length
      pre.length = .ok (content, pre.length + byteBits content.length) := by
  have e : content.flatMap (fun b => msbBits b.toNat 8) =
      (content.map (·.toNat)).flatMap (fun c => msbBits c 8) := by
    rw [List.flatMap_map]
  have hl := length_byteBits content
  unfold parseBytes byteBits
  rw [if_neg (by simp [hl])]
  congr 2
  apply List.ext_getElem
  · simp
  · intro i h1 h2
    have hlt : ∀ c ∈ content.map (·.toNat), c < 256 := by
      intro c hc
      obtain ⟨b, _, rfl⟩ := List.mem_map.mp hc
      exact b.toNat_lt
    have := readAt_flatMap (content.map (·.toNat)) pre post i (by simpa using h2) hlt
    rw [← e] at this
    simp only [List.getElem_map, List.getElem_range, bitsToNatAt_eq, this]
    simp [List.getD, h2]

/-- decimal value of a digit string -/
def decVal (s : Bytes) : Nat := s.foldl (fun a b => a * 10 + (b.toNat - 48)) 0

theorem decVal_concat (c : Bytes) (d : UInt8) : decVal (c ++ [d]) = decVal c * 10 + (d.toNat - 48) := by
  simp [decVal, List.foldl_append]

theorem digitsOf_concat (v e w : Nat) (he : e < 10) :
    digitsOf (v * 10 + e) (w + 1) = digitsOf v w ++ [UInt8.ofNat (48 + e)] := by
  simp only [digitsOf, List.range_succ, List.map_append, List.map_cons, List.map_nil]
  congr 1
  · apply List.map_congr_left
    intro i hi
    have hi := List.mem_range.mp hi
    rw [show w + 1 - 1 - i = (w - 1 - i) + 1 by omega, Nat.pow_succ', ← Nat.div_div_eq_div_mul,
      show (v * 10 + e) / 10 = v by omega]
  · rw [show w + 1 - 1 - w = 0 by omega, Nat.pow_zero, Nat.div_one, show (v * 10 + e) % 10 = e by omega]

/-- a string of ASCII digits is the decimal expansion, in as many digits, of its value -/
theorem digits_spec (c : Bytes) (hd : ∀ b ∈ c, 48 ≤ b.toNat ∧ b.toNat ≤ 57) :
    decVal c < 10 ^ c.length ∧ digitsOf (decVal c) c.length = c := by
  suffices h : ∀ r : Bytes, (∀ b ∈ r, 48 ≤ b.toNat ∧ b.toNat ≤ 57) →
      decVal r.reverse < 10 ^ r.length ∧ digitsOf (decVal r.reverse) r.length = r.reverse by
    simpa using h c.reverse (by simpa using hd)
  intro r hr
  induction r with
  | nil => exact ⟨Nat.one_pos, rfl⟩
  | cons d r ih =>
    obtain ⟨h1, h2⟩ := ih (fun b hb => hr b (List.mem_cons_of_mem _ hb))
    have hd := hr d List.mem_cons_self
    rw [List.reverse_cons, decVal_concat, List.length_cons, digitsOf_concat _ _ _ (by omega), h2, Nat.pow_succ,
      Nat.add_sub_cancel' hd.1, UInt8.ofNat_toNat]
    exact ⟨by omega, rfl⟩

theorem parseNumeric_zero (bits : Array Bool) (fuel p : Nat) : parseNumeric bits fuel 0 p = .ok ([], p) := by
  cases fuel <;> simp [parseNumeric]

theorem parseNumeric_step (bits : Array Bool) (fuel n p : Nat) (hn : n ≠ 0)
    (hfit : p + numericBits (min 3 n) ≤ bits.size)
    (hv : bitsToNatAt bits p (numericBits (min 3 n)) < 10 ^ min 3 n) (rest : Bytes) (p' : Nat)
    (hrec : parseNumeric bits fuel (n - 3) (p + numericBits (min 3 n)) = .ok (rest, p')) :
    parseNumeric bits (fuel + 1) n p =
      .ok (digitsOf (bitsToNatAt bits p (numericBits (min 3 n))) (min 3 n) ++ rest, p') := by
  have hsel : (if n ≥ 3 then (3, 10, 1000) else if n == 2 then (2, 7, 100) else (1, 4, 10)) =
      (min 3 n, numericBits (min 3 n), 10 ^ min 3 n) := by
    rcases (by omega : 3 ≤ n ∨ n = 2 ∨ n = 1) with h | rfl | rfl
    · rw [if_pos h, Nat.min_eq_left h]; rfl
    · rfl
    · rfl
  have hsub : n - min 3 n = n - 3 := by omega
  rw [parseNumeric]
  have e : (n == 0) = false := by simpa using hn
  simp only [e, Bool.false_eq_true, if_false]
  rw [hsel]
  simp only []
  rw [if_neg (by omega), if_neg (by omega), hsub, hrec]
  rfl

/-- the chunks of `encodeNumeric` are read back by `parseNumeric` as the digits, wherever they stand -/
theorem parseNumeric_chunks : ∀ (fuel : Nat) (s : Bytes) (chunks : List Bool), s.length ≤ fuel →
    numericChunks fuel s = some chunks →
    ∀ (pfuel : Nat) (pre post : List Bool), s.length < pfuel →
      parseNumeric (pre ++ (chunks ++ post)).toArray pfuel s.length pre.length =
        .ok (s, pre.length + chunks.length) := by
  intro fuel
  induction fuel with
  | zero =>
    intro s chunks hl h pfuel pre post _
    have : s = [] := List.eq_nil_of_length_eq_zero (by omega)
    subst this
    cases h
    exact parseNumeric_zero _ _ _
  | succ fuel ih =>
    intro s chunks hl h pfuel pre post hp
    by_cases hs : s = []
    · subst hs; cases h; exact parseNumeric_zero _ _ _
    · rw [numericChunks_step fuel s hs] at h
      split at h
      · rename_i hd
        obtain ⟨rest, hr, rfl⟩ := Option.map_eq_some_iff.mp h
        obtain ⟨pf, rfl⟩ : ∃ pf, pfuel = pf + 1 := ⟨pfuel - 1, by omega⟩
        have hpos : 0 < s.length := List.length_pos_iff.mpr hs
        have hk : (s.take 3).length = min 3 s.length := List.length_take
        obtain ⟨hlt, hdig⟩ := digits_spec (s.take 3) hd
        rw [hk] at hlt hdig
        change parseNumeric (pre ++ ((msbBits (decVal (s.take 3)) (numericBits (s.take 3).length) ++ rest) ++
          post)).toArray _ _ _ = Except.ok (s, pre.length + (msbBits (decVal (s.take 3)) _ ++ rest).length)
        rw [hk]
        have hread := readAt_msbBits pre (rest ++ post) (decVal (s.take 3)) (numericBits (min 3 s.length))
          (Nat.lt_of_lt_of_le hlt (by
            rcases (by omega : min 3 s.length = 1 ∨ min 3 s.length = 2 ∨ min 3 s.length = 3) with e | e | e <;>
              rw [e] <;> decide))
        have hrec := ih (s.drop 3) rest (by rw [List.length_drop]; omega) hr pf
          (pre ++ msbBits (decVal (s.take 3)) (numericBits (min 3 s.length))) post
          (by rw [List.length_drop]; omega)
        simp only [List.length_append, length_msbBits, List.append_assoc, List.length_drop] at hrec
        rw [List.append_assoc, parseNumeric_step _ pf s.length pre.length (by omega) (by simp)
          (by rw [bitsToNatAt_eq, hread]; exact hlt) _ _ hrec, bitsToNatAt_eq, hread, hdig,
          List.take_append_drop, List.length_append, length_msbBits, Nat.add_assoc]
      · cases h

end BV.Proofs.QrStream
