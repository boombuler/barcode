/-
  BV.Proofs.Bars — `expand`, the module row of an element-width list, in the form in which the Code 128, Code 39 and
  Code 93 statements spell it; `expand_eq` is the bridge to `OneD.drawW`, where the theory of such rows lives.  Also the
  key by which the rows of a width table are told apart, the evaluable form of the reference width tables, and the
  projections of `mk1D`.
-/
import BV.Proofs.OneD
import BV.Proofs.SplitOn
namespace BV.Proofs.Bars
open BV BV.Spec.OneD

/-- alternating bar/space expansion of an element-width list, starting with colour `b` -/
def expand : Bool → List Nat → List Bool
  | _, [] => []
  | b, w :: ws => List.replicate w b ++ expand (!b) ws

/-- the bridge: `expand true ws = OneD.drawW ws`; everything else about such rows is proved on the `OneD` side -/
theorem expand_eq (b : Bool) (ws : List Nat) : expand b ws = OneD.expand (OneD.barsFrom b ws) := by
  induction ws generalizing b with
  | nil => rfl
  | cons w ws ih => rw [expand, ih, OneD.barsFrom, OneD.expand]

theorem widths_expand (ws : List Nat) (hpos : ∀ w ∈ ws, 0 < w) :
    widthsFromBar (runLengths (expand true ws)) = some ws := by
  rw [expand_eq]; exact OneD.widths_drawW ws hpos

theorem length_expand (b : Bool) (ws : List Nat) : (expand b ws).length = ws.sum := by
  induction ws generalizing b with
  | nil => rfl
  | cons w ws ih => rw [expand, List.length_append, List.length_replicate, ih, List.sum_cons]

/-- a row of one-digit widths read as a decimal number: the key by which `OneD.nodup_of_keys` tells the rows of a
    width table apart -/
def rowKey (ws : List Nat) : Nat := ws.foldl (fun a w => 10 * a + w) 0

/-- The reference width tables are one string literal of blank-separated digit groups.  `String.splitOn` is not
    evaluated by `decide`/`rfl`; the right-hand side is (a plain recursion over the characters), so a table is compared
    with the implementation's after `rw [digitsOfString_splitOn, String.toList_ofList]` (the second rewrite unifies the
    literal with `String.ofList` of its characters, which leaves a plain `List Char`). -/
theorem digitsOfString_splitOn (s : String) :
    (s.splitOn " ").map digitsOfString = (SplitOn.splitChars ' ' [] s.toList).map (·.map (·.toNat - 48)) := by
  rw [show " " = String.singleton ' ' from rfl, SplitOn.splitOn_singleton, List.map_map]
  apply List.map_congr_left
  intro cs _
  simp [digitsOfString]

@[simp] theorem w_mk1D (kind : String) (content : Bytes) (bits : List Bool) (cs : Option Int) (s : Scheme) :
    (mk1D kind content bits cs s).w = bits.length := rfl

@[simp] theorem checksum_mk1D (kind : String) (content : Bytes) (bits : List Bool) (cs : Option Int) (s : Scheme) :
    (mk1D kind content bits cs s).checksum = cs := rfl

@[simp] theorem content_mk1D (kind : String) (content : Bytes) (bits : List Bool) (cs : Option Int) (s : Scheme) :
    (mk1D kind content bits cs s).content = content := rfl

theorem mapM_ok {ε α β} (f : α → Except ε β) (g : α → β) (l : List α) (h : ∀ x ∈ l, f x = .ok (g x)) :
    l.mapM f = .ok (l.map g) :=
  OneD.mapM_ok f g l h

end BV.Proofs.Bars
