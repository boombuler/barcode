/-
  Proofs for C02 (text stage): the ASCII encodation of the DataMatrix encoder (`encodeText`) and its
  253-state padding (`addPadding`) are read back by the reference decoder `Spec.Datamatrix.decodeAscii`.
-/
import BV.Proofs.ListLemmas
import BV.Model.Datamatrix
import BV.Spec.Datamatrix
namespace BV.Proofs.DmAscii
open BV BV.Model.Datamatrix BV.Spec.Datamatrix

/-- the codewords as the numbers the reference decoder reads -/
def toNats (l : Bytes) : List Nat := l.map UInt8.toNat

@[simp] theorem toNats_nil : toNats [] = [] := rfl
@[simp] theorem toNats_cons (a : UInt8) (l : Bytes) : toNats (a :: l) = a.toNat :: toNats l := rfl
@[simp] theorem toNats_append (a b : Bytes) : toNats (a ++ b) = toNats a ++ toNats b := by
  simp [toNats]
@[simp] theorem toNats_length (a : Bytes) : (toNats a).length = a.length := by simp [toNats]

theorem toNats_lt (l : Bytes) : ∀ x ∈ toNats l, x < 256 := by
  intro x hx
  obtain ⟨b, _, rfl⟩ := List.mem_map.mp hx
  exact b.toNat_lt

/-! byte facts: certificates over the 256 byte values and the 100 digit pairs -/

theorem byte_cases (P : UInt8 → Prop) (h : ∀ n, n < 256 → P (UInt8.ofNat n)) (c : UInt8) : P c := by
  have := h c.toNat c.toNat_lt
  simpa using this

/-- certificate: a byte above 127 is `235, c - 127`, the operand is in 1…128 and decodes to `c` -/
theorem hi_byte : ∀ c : UInt8, c > 127 →
    1 ≤ (c - 127).toNat ∧ (c - 127).toNat ≤ 128 ∧ UInt8.ofNat ((c - 127).toNat - 1 + 128) = c := by
  apply byte_cases; decide +kernel

/-- certificate: a byte up to 127 is `c + 1`, in 1…128, and decodes to `c` -/
theorem lo_byte : ∀ c : UInt8, ¬ c > 127 →
    1 ≤ (c + 1).toNat ∧ (c + 1).toNat ≤ 128 ∧ UInt8.ofNat ((c + 1).toNat - 1) = c := by
  apply byte_cases; decide +kernel

theorem digit_cases (P : UInt8 → Prop) (h : ∀ n, n < 10 → P (UInt8.ofNat (48 + n)))
    (c : UInt8) (hc : isDigitByte c = true) : P c := by
  revert hc
  revert c
  apply byte_cases
  intro n hn hc
  have h1 : 48 ≤ n ∧ n ≤ 57 := by
    revert hc; revert n; decide +kernel
  have := h (n - 48) (by omega)
  have e : 48 + (n - 48) = n := by omega
  rwa [e] at this

/-- certificate over the 100 digit pairs: the pair codeword is in 130…229 and decodes to the two digits -/
theorem digit_pair : ∀ c : UInt8, isDigitByte c = true → ∀ c2 : UInt8, isDigitByte c2 = true →
    130 ≤ ((c - 48) * 10 + (c2 - 48) + 130).toNat ∧ ((c - 48) * 10 + (c2 - 48) + 130).toNat ≤ 229 ∧
    twoDigits (((c - 48) * 10 + (c2 - 48) + 130).toNat - 130) = [c, c2] := by
  apply digit_cases
  intro n hn
  apply digit_cases
  revert n
  decide +kernel

theorem dec_nil (pos : Nat) : decodeAscii pos [] = .ok ([], 0) := by
  rw [decodeAscii]

theorem dec_lo (pos c : Nat) (rest : List Nat) (h1 : 1 ≤ c) (h2 : c ≤ 128) :
    decodeAscii pos (c :: rest) =
      (decodeAscii (pos + 1) rest).map (fun (s, p) => (UInt8.ofNat (c - 1) :: s, p)) := by
  rw [decodeAscii.eq_def]
  have : ¬ c = 129 := by omega
  simp only [this, if_false, h1, h2, and_self, if_true]

theorem dec_pair (pos c : Nat) (rest : List Nat) (h1 : 130 ≤ c) (h2 : c ≤ 229) :
    decodeAscii pos (c :: rest) =
      (decodeAscii (pos + 1) rest).map (fun (s, p) => (twoDigits (c - 130) ++ s, p)) := by
  rw [decodeAscii.eq_def]
  have a : ¬ c = 129 := by omega
  have b : ¬ (1 ≤ c ∧ c ≤ 128) := by omega
  simp only [a, b, if_false, h1, h2, and_self, if_true]

theorem dec_shift (pos d : Nat) (rest : List Nat) (h1 : 1 ≤ d) (h2 : d ≤ 128) :
    decodeAscii pos (235 :: d :: rest) =
      (decodeAscii (pos + 2) rest).map (fun (s, p) => (UInt8.ofNat (d - 1 + 128) :: s, p)) := by
  rw [decodeAscii.eq_def]
  simp [h1, h2]

theorem dec_pad (pos : Nat) (rest : List Nat)
    (h : (rest.zipIdx).all (fun (v, i) => v == padValue (pos + 1 + i)) = true) :
    decodeAscii pos (129 :: rest) = .ok ([], 1 + rest.length) := by
  rw [decodeAscii.eq_def]
  simp only [if_true]
  rw [if_pos h]

theorem encodeOne_length_pos (c : UInt8) : 1 ≤ (encodeOne c).length := by
  unfold encodeOne; split <;> simp

/-- the two forms of `encodeOne c` as the reference reads them: upper shift and operand, or one codeword -/
theorem encodeOne_cases (c : UInt8) :
    (∃ d, toNats (encodeOne c) = [235, d] ∧ 1 ≤ d ∧ d ≤ 128 ∧ UInt8.ofNat (d - 1 + 128) = c) ∨
    (∃ v, toNats (encodeOne c) = [v] ∧ 1 ≤ v ∧ v ≤ 128 ∧ UInt8.ofNat (v - 1) = c) := by
  unfold encodeOne
  by_cases h : c > 127
  · rw [if_pos h]; exact Or.inl ⟨_, rfl, hi_byte c h⟩
  · rw [if_neg h]; exact Or.inr ⟨_, rfl, lo_byte c h⟩

theorem dec_encodeOne (c : UInt8) (pos : Nat) (tail : List Nat) :
    decodeAscii pos (toNats (encodeOne c) ++ tail) =
      (decodeAscii (pos + (encodeOne c).length) tail).map (fun (s, p) => (c :: s, p)) := by
  rw [← toNats_length (encodeOne c)]
  rcases encodeOne_cases c with ⟨d, e, h1, h2, h3⟩ | ⟨v, e, h1, h2, h3⟩
  · rw [e, List.cons_append, List.cons_append, List.nil_append, dec_shift pos d tail h1 h2, h3]; rfl
  · rw [e, List.cons_append, List.nil_append, dec_lo pos v tail h1 h2, h3]; rfl

/-- the round trip, with an arbitrary continuation `tail` behind the encodation -/
theorem dec_encodeText (c : Bytes) : ∀ (pos : Nat) (tail : List Nat),
    decodeAscii pos (toNats (encodeText c) ++ tail) =
      (decodeAscii (pos + (encodeText c).length) tail).map (fun (s, p) => (c ++ s, p)) := by
  induction c using encodeText.induct with
  | case1 =>
    intro pos tail
    simp only [encodeText, toNats_nil, List.nil_append, List.length_nil, Nat.add_zero]
    cases decodeAscii pos tail <;> rfl
  | case2 c =>
    intro pos tail
    simp only [encodeText]
    rw [dec_encodeOne]
    rfl
  | case3 c c2 rest hd ih =>
    intro pos tail
    simp only [Bool.and_eq_true] at hd
    obtain ⟨h1, h2, h3⟩ := digit_pair c hd.1 c2 hd.2
    rw [encodeText]
    simp only [hd.1, hd.2, Bool.and_self, if_true, toNats_cons, List.cons_append, List.length_cons]
    rw [dec_pair pos _ _ h1 h2, ih (pos + 1) tail, h3, except_map_map]
    have e : pos + 1 + (encodeText rest).length = pos + ((encodeText rest).length + 1) := by omega
    rw [e]
    rfl
  | case4 c c2 rest hd ih =>
    intro pos tail
    rw [encodeText]
    simp only [hd, if_false, toNats_append, List.append_assoc, List.length_append, Bool.false_eq_true]
    rw [dec_encodeOne, ih, except_map_map]
    have e : pos + (encodeOne c).length + (encodeText (c2 :: rest)).length =
        pos + ((encodeOne c).length + (encodeText (c2 :: rest)).length) := by omega
    rw [e]
    rfl

theorem dec_encodeText_nopad (c : Bytes) (pos : Nat) :
    decodeAscii pos (toNats (encodeText c)) = .ok (c, 0) := by
  have := dec_encodeText c pos []
  rw [List.append_nil, dec_nil] at this
  rw [this]
  simp [Except.map]

/-- a run of `n` zeros is encoded in digit pairs (the boundary of the capacity: 3116 and 3117 zeros) -/
theorem encodeText_zeros : ∀ n, (encodeText (List.replicate n 48)).length = (n + 1) / 2
  | 0 => rfl
  | 1 => rfl
  | n + 2 => by
    have hd : (isDigitByte 48 && isDigitByte 48) = true := rfl
    rw [List.replicate_succ, List.replicate_succ, encodeText, if_pos hd, List.length_cons, encodeText_zeros n]
    omega

/-- what a codeword list of the ASCII encodation may contain: 1…128, 130…229, or 235 followed by 1…128 -/
def asciiAlphabet : List Nat → Bool
  | [] => true
  | c :: rest =>
    if 1 ≤ c ∧ c ≤ 128 then asciiAlphabet rest
    else if 130 ≤ c ∧ c ≤ 229 then asciiAlphabet rest
    else if c = 235 then
      match rest with
      | d :: rest' => (1 ≤ d ∧ d ≤ 128) && asciiAlphabet rest'
      | [] => false
    else false

theorem alphabet_lo (v : Nat) (rest : List Nat) (h1 : 1 ≤ v) (h2 : v ≤ 128) (h : asciiAlphabet rest = true) :
    asciiAlphabet (v :: rest) = true := by
  rw [asciiAlphabet.eq_def]; simp only [h1, h2, and_self, if_true, h]

theorem alphabet_pair (v : Nat) (rest : List Nat) (h1 : 130 ≤ v) (h2 : v ≤ 229) (h : asciiAlphabet rest = true) :
    asciiAlphabet (v :: rest) = true := by
  have a : ¬ (1 ≤ v ∧ v ≤ 128) := by omega
  rw [asciiAlphabet.eq_def]; simp only [a, if_false, h1, h2, and_self, if_true, h]

theorem alphabet_hi (d : Nat) (rest : List Nat) (h1 : 1 ≤ d) (h2 : d ≤ 128) (h : asciiAlphabet rest = true) :
    asciiAlphabet (235 :: d :: rest) = true := by
  rw [asciiAlphabet.eq_def]; simp [h1, h2, h]

theorem alphabet_encodeOne (c : UInt8) (rest : List Nat) (h : asciiAlphabet rest = true) :
    asciiAlphabet (toNats (encodeOne c) ++ rest) = true := by
  rcases encodeOne_cases c with ⟨d, e, h1, h2, _⟩ | ⟨v, e, h1, h2, _⟩
  · rw [e]; exact alphabet_hi _ _ h1 h2 h
  · rw [e]; exact alphabet_lo _ _ h1 h2 h

theorem alphabet_encodeText (c : Bytes) : asciiAlphabet (toNats (encodeText c)) = true := by
  induction c using encodeText.induct with
  | case1 => rfl
  | case2 c =>
    have := alphabet_encodeOne c [] rfl
    simpa [encodeText] using this
  | case3 c c2 rest hd ih =>
    simp only [Bool.and_eq_true] at hd
    obtain ⟨h1, h2, _⟩ := digit_pair c hd.1 c2 hd.2
    rw [encodeText]
    simp only [hd.1, hd.2, Bool.and_self, if_true, toNats_cons]
    exact alphabet_pair _ _ h1 h2 ih
  | case4 c c2 rest hd ih =>
    rw [encodeText]
    simp only [hd, if_false, toNats_append, Bool.false_eq_true]
    exact alphabet_encodeOne c _ ih

/-- in particular no pad codeword 129 -/
theorem alphabet_mem : ∀ (l : List Nat), asciiAlphabet l = true → ∀ v ∈ l,
    (1 ≤ v ∧ v ≤ 128) ∨ (130 ≤ v ∧ v ≤ 229) ∨ v = 235
  | [], _, v, hv => by cases hv
  | c :: rest, h, v, hv => by
    unfold asciiAlphabet at h
    by_cases h1 : 1 ≤ c ∧ c ≤ 128
    · simp only [h1, and_self, if_true] at h
      rcases List.mem_cons.mp hv with e | e
      · exact Or.inl (e ▸ h1)
      · exact alphabet_mem rest h v e
    · by_cases h2 : 130 ≤ c ∧ c ≤ 229
      · simp only [h1, if_false, h2, and_self, if_true] at h
        rcases List.mem_cons.mp hv with e | e
        · exact Or.inr (Or.inl (e ▸ h2))
        · exact alphabet_mem rest h v e
      · by_cases h3 : c = 235
        · simp only [h3, if_true] at h
          match rest, h, hv with
          | [], h, _ => cases h
          | d :: rest', h, hv =>
            simp only [Bool.and_eq_true, decide_eq_true_eq, show ¬ (1 ≤ 235 ∧ 235 ≤ 128) by omega,
              show ¬ (130 ≤ 235 ∧ 235 ≤ 229) by omega, if_false] at h
            rcases List.mem_cons.mp hv with e | e
            · exact Or.inr (Or.inr (e ▸ h3))
            · rcases List.mem_cons.mp e with e | e
              · exact Or.inl (e ▸ h.1)
              · exact alphabet_mem rest' h.2 v e
        · simp [h1, h2, h3] at h

/-- the pad bytes `addPadding` appends behind a list of `m` codewords (after the 129, if any): position by
    position the 253-state value of the reference -/
def padTail (m k : Nat) : Bytes := (List.range' 0 k).map (fun i => UInt8.ofNat (padValue (m + 1 + i)))

theorem padValue_le (pos : Nat) : padValue pos ≤ 254 ∧ 1 ≤ padValue pos := by
  unfold padValue
  have : 149 * pos % 253 < 253 := Nat.mod_lt _ (by decide)
  generalize 149 * pos % 253 = r at this
  simp only
  split <;> omega

theorem padValue_toNat (pos : Nat) : (UInt8.ofNat (padValue pos)).toNat = padValue pos := by
  have := (padValue_le pos).1
  simp only [UInt8.toNat_ofNat']
  omega

/-- the loop body computes `padValue` of the 1-based position of the new codeword -/
theorem padLoop_step (len : Nat) :
    (let r := ((149 * (len + 1)) % 253) + 1
     let tmp := 129 + r
     if tmp > 254 then tmp - 254 else tmp) = padValue (len + 1) := by
  unfold padValue
  simp only
  split <;> split <;> omega

theorem padLoop_eq (k : Nat) : ∀ (data : Bytes),
    padLoop k data = data ++ padTail data.length k := by
  induction k with
  | zero => intro data; simp [padLoop, padTail]
  | succ k ih =>
    intro data
    rw [padLoop]
    have := padLoop_step data.length
    simp only at this
    rw [this, ih]
    unfold padTail
    rw [List.range'_succ]
    simp only [List.map_cons, List.length_append, List.length_cons, List.length_nil, Nat.add_zero,
      List.append_assoc, List.cons_append, List.nil_append]
    rw [map_range'_shift]
    refine congrArg (fun t => data ++ _ :: t) (List.map_congr_left fun i _ => ?_)
    rw [show data.length + (0 + 1) + 1 + i = data.length + 1 + (i + 1) by omega]

@[simp] theorem padTail_length (m k : Nat) : (padTail m k).length = k := by simp [padTail]

/-- what `addPadding` appends to `m` codewords to reach `n`: nothing if `m = n`, else 129 and the
    253-state pads for positions `m + 2 … n` -/
def padding (m n : Nat) : Bytes := if m < n then 129 :: padTail (m + 1) (n - m - 1) else []

theorem padding_length (m n : Nat) (h : m ≤ n) : (padding m n).length = n - m := by
  unfold padding; split
  · simp; omega
  · simp; omega

theorem addPadding_eq (data : Bytes) (n : Nat) (h : data.length ≤ n) :
    addPadding data (n : Int) = data ++ padding data.length n := by
  unfold addPadding padding
  by_cases hlt : data.length < n
  · have h1 : ((data.length : Nat) : Int) < (n : Int) := by omega
    simp only [h1, if_true, hlt]
    rw [padLoop_eq]
    simp only [List.length_append, List.length_cons, List.length_nil, List.append_assoc, List.cons_append,
      List.nil_append]
    congr 3
    omega
  · have h1 : ¬ ((data.length : Nat) : Int) < (n : Int) := by omega
    have h2 : ((n : Int) - (data.length : Int)).toNat = 0 := by omega
    simp only [h1, if_false, hlt, h2, padLoop, List.append_nil]

theorem addPadding_length (data : Bytes) (n : Nat) (h : data.length ≤ n) :
    (addPadding data (n : Int)).length = n := by
  rw [addPadding_eq data n h, List.length_append, padding_length _ _ h]; omega

theorem padTail_ok (q k : Nat) : ∀ s,
    (((List.range' s k).map (fun i => padValue (q + i))).zipIdx s).all
      (fun (v, i) => v == padValue (q + i)) = true := by
  induction k with
  | zero => intro s; rfl
  | succ k ih =>
    intro s
    simp only [List.range'_succ, List.map_cons, List.zipIdx_cons, List.all_cons, beq_self_eq_true, Bool.true_and]
    exact ih (s + 1)

theorem toNats_padTail (m k : Nat) :
    toNats (padTail m k) = (List.range' 0 k).map (fun i => padValue (m + 1 + i)) := by
  unfold toNats padTail
  rw [List.map_map]
  apply List.map_congr_left
  intro i _
  exact padValue_toNat _

/-- the reference decoder, standing at the 1-based position `m + 1` of the first pad, accepts the padding
    and counts `n - m` pad codewords -/
theorem dec_padding (m n : Nat) (h : m ≤ n) :
    decodeAscii (m + 1) (toNats (padding m n)) = .ok ([], n - m) := by
  unfold padding
  by_cases hlt : m < n
  · simp only [hlt, if_true, toNats_cons]
    have e : (129 : UInt8).toNat = 129 := by decide
    rw [e, dec_pad]
    · simp only [toNats_length, padTail_length]
      congr 2
      omega
    · rw [toNats_padTail]
      have := padTail_ok (m + 1 + 1) (n - m - 1) 0
      simpa using this
  · have : n - m = 0 := by omega
    simp only [hlt, if_false, toNats_nil, dec_nil, this]

theorem dec_padded (c : Bytes) (n : Nat) (h : (encodeText c).length ≤ n) :
    decodeAscii 1 (toNats (addPadding (encodeText c) (n : Int))) = .ok (c, n - (encodeText c).length) := by
  rw [addPadding_eq _ n h, toNats_append, dec_encodeText, Nat.add_comm 1, dec_padding _ n h]
  simp [Except.map]

end BV.Proofs.DmAscii
