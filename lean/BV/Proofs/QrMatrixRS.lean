/-
  BV.Proofs.QrMatrixRS — the codeword layer of the QR symbol with the Reed–Solomon facts of C17 plugged in:
  `calcECC` returns `k` check codewords below 256 that complete the data to a codeword of the QR code of the
  standard; hence what `splitToBlocks` / `interleave` produce is de-interleaved by the reference decoder into
  blocks of the ISO lengths that pass its Reed–Solomon check, and whose data parts are the encoder's bit stream.
-/
import BV.Proofs.QrChain
import BV.Proofs.RS
namespace BV.Proofs.QrMatrix
open BV BV.Model.Qr BV.Spec.Qr
open BV.Proofs.Bits BV.Proofs.QrTables BV.Proofs.QrStream BV.Proofs.QrAlnum BV.Proofs.QrBlocks BV.Proofs.QrChain

/-- the field of `calcECC` is `NewGaloisField(285, 256, 0)` (the one call site in the QR package) -/
theorem ecField_eq : Model.Qr.ecField = Model.GF.newField 285 256 0 := rfl

/-- the field of the reference decoder is GF(256) with the reduction polynomial 0x11D = 285 -/
theorem qrField_eq : Spec.RS.qrField = ⟨285, 256⟩ := rfl

/-- `calcECC data k` for data codewords below 256 and `1 ≤ k ≤ 255`: exactly `k` check codewords, all below 256,
    and data followed by them is a Reed–Solomon codeword of the QR field with roots α^0 … α^(k-1) -/
theorem calcECC_spec (data : List Nat) (hd : ∀ c ∈ data, c < 256) (k : Nat) (hk1 : 1 ≤ k) (hk : k ≤ 255) :
    (calcECC data k).length = k ∧ (∀ c ∈ calcECC data k, c < 256) ∧
    Spec.RS.qrField.valid 0 k (data ++ calcECC data k) = true := by
  obtain ⟨h1, h2, h3, h4, _⟩ := GF.ok_encode (pp := 285) (n := 256) (GF.fields_ok (285, 256, 0) (by decide)) 0 k hk1
    (by omega)
    Model.GF.newEncoder (GF.cacheInv_new _) data hd
  have he : calcECC data k = (Model.GF.encodeWith (Model.GF.newField 285 256 0) Model.GF.newEncoder data k).1 := by
    unfold calcECC
    rw [ecField_eq, ← h4]
    exact (List.map_congr_left fun c hc => Nat.mod_eq_of_lt (h2 c hc)).trans (List.map_id _)
  rw [he]
  exact ⟨h1, h2, h3⟩

/-- What `QrB.blocks_roundtrip_valid` concludes, for data codewords below 256.  Its two hypotheses about `calcECC`
    hold only under the guards of `calcECC_spec` (C17), which is used in their place: here `7 ≤ k ≤ 30`.  Together
    with the number of codewords of the interleaved sequence (what the symbol holds) and their bound. -/
theorem blocks_valid (vi : VersionInfo) (hvi : vi ∈ versionInfos) (data : List Nat)
    (hlen : data.length = vi.totalDataBytes) (hd : ∀ c ∈ data, c < 256) :
    ∃ blocks ec lens,
      splitToBlocks data vi = .ok blocks ∧
      isoBlocks vi.version vi.level = some (ec, lens) ∧
      blocks.map (·.data.length) = lens ∧
      blocks.flatMap (·.data) = data ∧
      deinterleave (interleave blocks vi).toArray lens ec = blocks.map (fun b => b.data ++ b.ecc) ∧
      ((deinterleave (interleave blocks vi).toArray lens ec).zip lens).all
        (fun (p : List Nat × Nat) => p.1.length == p.2 + ec) = true ∧
      (deinterleave (interleave blocks vi).toArray lens ec).all
        (fun b => Spec.RS.qrField.valid 0 ec b) = true ∧
      (interleave blocks vi).length = lens.foldl (· + ·) 0 + lens.length * ec ∧
      (∀ c ∈ interleave blocks vi, c < 256) := by
  obtain ⟨hn, hiso⟩ := blocks_of_mem vi hvi
  obtain ⟨blocks, h1, h4, h5, h6⟩ := splitToBlocks_spec vi data hn
  have h6 := h6 hlen
  have h7 := h4 ▸ deinterleave_interleave blocks vi (data_length_le h4)
  obtain ⟨_, hec1, hec2, _⟩ := rowOk_of_mem hvi
  have hbd : ∀ b ∈ blocks, ∀ c ∈ b.data, c < 256 := fun b hb c hc =>
    hd c (h6 ▸ List.mem_flatMap.mpr ⟨b, hb, hc⟩)
  have hcalc : ∀ b ∈ blocks, b.ecc.length = vi.errorCorrectionCodewordsPerBlock ∧
      (∀ c ∈ b.ecc, c < 256) ∧
      Spec.RS.qrField.valid 0 vi.errorCorrectionCodewordsPerBlock (b.data ++ b.ecc) = true := by
    intro b hb
    rw [h5 b hb]
    exact calcECC_spec b.data (hbd b hb) _ (by omega) (by omega)
  obtain ⟨hl, hm⟩ := interleave_length_mem blocks vi (data_length_le h4)
  obtain ⟨d1, d2, d3⟩ := deinterleaved_checks h4 h7 (fun b hb => ⟨(hcalc b hb).1, (hcalc b hb).2.2⟩)
  refine ⟨blocks, _, rowLens vi, h1, hiso, h4, h6, d1, d2, d3, ?_, ?_⟩
  · rw [hl, h4, foldl_add_eq_sum, Nat.zero_add, ← h4, List.length_map]
  · intro c hc
    obtain ⟨b, hb, hcb | hcb⟩ := hm c hc
    · exact hbd b hb c hcb
    · rw [eccRow_eq _ b (hcalc b hb).1] at hcb
      exact (hcalc b hb).2.1 c hcb

theorem streamResult_content (m : Nat) (c : Bytes) (u cap : Nat) : (streamResult m c u cap).content = c := rfl

theorem streamResult_modes (m : Nat) (c : Bytes) (u cap : Nat) : (streamResult m c u cap).modes = [m] := rfl

theorem streamResult_terminatorBits (m : Nat) (c : Bytes) (u cap : Nat) :
    (streamResult m c u cap).terminatorBits = min 4 (cap - u) := rfl

theorem streamResult_padCodewords (m : Nat) (c : Bytes) (u cap : Nat) :
    (streamResult m c u cap).padCodewords = (cap - (u + min 4 (cap - u))) / 8 := rfl

/-- the blocks of any bit stream of the capacity of a row: `blocks_valid` for the packed stream, and the data bits
    `Spec.Qr.decode` rebuilds from the de-interleaved blocks are the stream -/
theorem layer_of_stream (bits : List Bool) (vi : VersionInfo) (hvi : vi ∈ versionInfos)
    (hlen : bits.length = vi.totalDataBytes * 8) :
    ∃ blocks ec lens,
      splitToBlocks (iterateBytes bits) vi = .ok blocks ∧
      isoBlocks vi.version vi.level = some (ec, lens) ∧
      (interleave blocks vi).length = lens.foldl (· + ·) 0 + lens.length * ec ∧
      (∀ c ∈ interleave blocks vi, c < 256) ∧
      ((deinterleave (interleave blocks vi).toArray lens ec).zip lens).all
        (fun (p : List Nat × Nat) => p.1.length == p.2 + ec) = true ∧
      (deinterleave (interleave blocks vi).toArray lens ec).all
        (fun b => Spec.RS.qrField.valid 0 ec b) = true ∧
      (((deinterleave (interleave blocks vi).toArray lens ec).zip lens).flatMap
        (fun (b, l) => (b.take l).flatMap (fun c => msbBits c 8))) = bits := by
  obtain ⟨p1, p2, p3⟩ := pack8_unpack vi.totalDataBytes bits (by omega)
  obtain ⟨blocks, ec, lens, h1, h2, h3, h4, h5, h6, h7, h8, h9⟩ := blocks_valid vi hvi (iterateBytes bits) p1 p2
  refine ⟨blocks, ec, lens, h1, h2, h8, h9, h6, h7, ?_⟩
  rw [h5, ← h3, zip_take_data blocks (·.ecc), h4]
  exact p3

/-- The codeword layer of the symbol, for each of the four encodings (`mode` 0 … 3 = Auto, Numeric, AlphaNumeric,
    Unicode): if the mode encoder accepts `content` at `level` with stream `bits` and table row `vi`, then `vi` is
    a row of the table of the requested level; `splitToBlocks` on the packed stream succeeds; the interleaved
    codeword sequence has the number of codewords of the ISO block structure, all below 256; the reference
    de-interleaver splits it into blocks of the ISO lengths that all pass the Reed–Solomon check of the reference
    decoder; the data bit stream `Spec.Qr.decode` rebuilds from these blocks is the encoder's stream; and the
    reference parser (with the fuel `decode` uses) reads it as one segment with exactly the content. -/
theorem codeword_layer {mode : Nat} {enc : EncodeFn} (hg : getEncoder mode = some enc)
    {content : Bytes} {level : Nat} {bits : List Bool} {vi : VersionInfo}
    (h : enc content level = some (bits, vi)) :
    vi ∈ versionInfos ∧ vi.level = level ∧
    ∃ blocks ec lens m used,
      splitToBlocks (iterateBytes bits) vi = .ok blocks ∧
      isoBlocks vi.version vi.level = some (ec, lens) ∧
      (interleave blocks vi).length = lens.foldl (· + ·) 0 + lens.length * ec ∧
      (∀ c ∈ interleave blocks vi, c < 256) ∧
      ((deinterleave (interleave blocks vi).toArray lens ec).zip lens).all
        (fun (p : List Nat × Nat) => p.1.length == p.2 + ec) = true ∧
      (deinterleave (interleave blocks vi).toArray lens ec).all
        (fun b => Spec.RS.qrField.valid 0 ec b) = true ∧
      (((deinterleave (interleave blocks vi).toArray lens ec).zip lens).flatMap
        (fun (b, l) => (b.take l).flatMap (fun c => msbBits c 8))) = bits ∧
      parseSegments vi.version bits.toArray (bits.toArray.size / 4 + 2) 0 [] [] =
        .ok (streamResult m content used (vi.totalDataBytes * 8)) := by
  obtain ⟨hvi, hl, hlen, m, used, _, _, hp⟩ := encoder_stream hg h (bits.toArray.size / 4)
  obtain ⟨blocks, ec, lens, h1, h2, h3, h4, h5, h6, h7⟩ := layer_of_stream bits vi hvi hlen
  exact ⟨hvi, hl, blocks, ec, lens, m, used, h1, h2, h3, h4, h5, h6, h7, hp⟩

/-- `Spec.Qr.decode` writes the length check with a pattern lambda, `codeword_layer` with projections -/
example (blocks : List (List Nat)) (lens : List Nat) (ec : Nat) :
    ((blocks.zip lens).all (fun (p : List Nat × Nat) => p.1.length == p.2 + ec) =
      (blocks.zip lens).all (fun (b, l) => b.length == l + ec)) ∧
    ((blocks.zip lens).flatMap (fun (b, l) => (b.take l).flatMap (fun c => msbBits c 8)) =
      (blocks.zip lens).flatMap (fun (p : List Nat × Nat) => (p.1.take p.2).flatMap (fun c => msbBits c 8))) :=
  ⟨rfl, rfl⟩

/-- non-vacuity: "HELLO WORLD" in automatic mode at level Q, and the byte string ff 00 c3 28 in byte mode at
    level L, are accepted, so `codeword_layer` applies to them -/
example : getEncoder 0 = some encodeAuto ∧ getEncoder 3 = some encodeUnicode ∧
    (encodeAuto [72, 69, 76, 76, 79, 32, 87, 79, 82, 76, 68] 2).isSome = true ∧
    (encodeUnicode [0xFF, 0x00, 0xC3, 0x28] 0).isSome = true := by
  refine ⟨rfl, rfl, by decide +kernel, by decide +kernel⟩

theorem all_len_decode_form (blocks : List (List Nat)) (lens : List Nat) (ec : Nat) :
    (blocks.zip lens).all (fun (b, l) => b.length == l + ec) =
      (blocks.zip lens).all (fun (p : List Nat × Nat) => p.1.length == p.2 + ec) := rfl

/-- `codeword_layer` in automatic mode, the length check in both forms -/
example (content : Bytes) (l : Nat) (bits : List Bool) (vi : VersionInfo)
    (h : encodeAuto content l = some (bits, vi)) :
    ∃ blocks ec lens m used,
      splitToBlocks (iterateBytes bits) vi = .ok blocks ∧
      isoBlocks vi.version vi.level = some (ec, lens) ∧
      ((deinterleave (interleave blocks vi).toArray lens ec).zip lens).all
        (fun (p : List Nat × Nat) => p.1.length == p.2 + ec) = true ∧
      ((deinterleave (interleave blocks vi).toArray lens ec).zip lens).all
        (fun (b, l) => b.length == l + ec) = true ∧
      (deinterleave (interleave blocks vi).toArray lens ec).all
        (fun b => Spec.RS.qrField.valid 0 ec b) = true ∧
      (((deinterleave (interleave blocks vi).toArray lens ec).zip lens).flatMap
        (fun (b, l) => (b.take l).flatMap (fun c => msbBits c 8))) = bits ∧
      parseSegments vi.version bits.toArray (bits.toArray.size / 4 + 2) 0 [] [] =
        .ok (streamResult m content used (vi.totalDataBytes * 8)) := by
  obtain ⟨_, _, blocks, ec, lens, m, used, h1, h2, _, _, h5, h6, h7, h8⟩ :=
    codeword_layer (mode := 0) rfl h
  exact ⟨blocks, ec, lens, m, used, h1, h2, h5, h5, h6, h7, h8⟩

/-- non-vacuity of `calcECC_spec` and `blocks_valid`: version 1-M (one block, 16 data and 10 check codewords)
    with the data codewords 0 … 15 -/
example : (∀ c ∈ List.range 16, c < 256) ∧
    ∃ blocks ec lens,
      splitToBlocks (List.range 16) ⟨1, 1, 10, 1, 16, 0, 0⟩ = .ok blocks ∧
      isoBlocks 1 1 = some (ec, lens) ∧
      (deinterleave (interleave blocks ⟨1, 1, 10, 1, 16, 0, 0⟩).toArray lens ec).all
        (fun b => Spec.RS.qrField.valid 0 ec b) = true ∧
      (interleave blocks ⟨1, 1, 10, 1, 16, 0, 0⟩).length = lens.foldl (· + ·) 0 + lens.length * ec := by
  refine ⟨by decide, ?_⟩
  obtain ⟨blocks, ec, lens, h1, h2, _, _, _, _, h7, h8, _⟩ :=
    blocks_valid ⟨1, 1, 10, 1, 16, 0, 0⟩ (by decide +kernel) (List.range 16) (by decide) (by decide)
  exact ⟨blocks, ec, lens, h1, h2, h7, h8⟩

example : isoBlocks 1 1 = some (10, [16]) := by decide +kernel

/-- the check codewords of that block, evaluated: they are what `calcECC_spec` says (10 codewords below 256 that
    complete the data to a valid word) -/
example : calcECC (List.range 16) 10 = [2, 172, 123, 126, 116, 109, 86, 102, 247, 117] ∧
    Spec.RS.qrField.valid 0 10 (List.range 16 ++ calcECC (List.range 16) 10) = true :=
  ⟨by decide +kernel, (calcECC_spec _ (by decide) 10 (by decide) (by decide)).2.2⟩

end BV.Proofs.QrMatrix

