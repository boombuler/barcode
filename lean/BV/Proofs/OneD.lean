/-
  BV.Proofs.OneD — what the proofs about the linear symbologies share: rows made of equal-length groups and the group
  loop of the reference decoders, the encoders' append-or-give-up loops, ASCII digit strings and the tables keyed by
  them, alternating 3-1 weighted sums, run lengths of element-width drawings.
-/
import BV.Base
import BV.Model.Util
import BV.Spec.OneD
import BV.Proofs.Utf8
namespace BV.Proofs.OneD
open BV BV.Model BV.Spec.OneD

/-! ### encoder results -/

section
variable {α} {r : Res α} {P : Prop} {e : α} (hok : P → r = .ok e) (hrej : ¬ P → r = .error .rejected)
include hok hrej

/-- an encoder that returns `e` on `P` and rejects otherwise: what it returned was `e`, and `P` held -/
theorem ok_inv {a : α} (h : r = .ok a) : P ∧ a = e := by
  by_cases hP : P
  · rw [hok hP] at h
    cases h
    exact ⟨hP, rfl⟩
  · rw [hrej hP] at h
    cases h

/-- in the shape of the acceptance statements of the encoders (C06, C08): accepted iff `P`, and what is not accepted is
    rejected, which is `hrej` again -/
theorem accept_iff : ((∃ a, r = .ok a) ↔ P) ∧ (¬ P → r = .error .rejected) :=
  ⟨⟨fun ⟨_, ha⟩ => (ok_inv hok hrej ha).1, fun h => ⟨e, hok h⟩⟩, hrej⟩

end

theorem row0_mk1D (k : String) (c : Bytes) (bits : List Bool) (cs : Option Int) (s : Scheme) :
    (mk1D k c bits cs s).row0 = bits := by
  simp only [Barcode.row0, mk1D]
  apply List.ext_getElem
  · simp
  · intro i h1 h2
    simp at h1
    simp [Array.getD, h1]

/-! ### rows made of groups of equal length -/

theorem flatten_length_const {α} (n : Nat) (ps : List (List α)) (h : ∀ p ∈ ps, p.length = n) :
    ps.flatten.length = n * ps.length := by
  induction ps with
  | nil => simp
  | cons p ps ih =>
    simp only [List.flatten_cons, List.length_append, List.length_cons, h p (by simp),
      ih (fun q hq => h q (by simp [hq]))]
    rw [Nat.mul_add]; omega

theorem splitEvery_go_flatten {α} (n : Nat) (hn : 0 < n) (ps : List (List α)) :
    ∀ fuel, ps.length < fuel → (∀ p ∈ ps, p.length = n) → splitEvery.go n fuel ps.flatten = ps := by
  induction ps with
  | nil => intro fuel hf _; cases fuel <;> simp [splitEvery.go]
  | cons p ps ih =>
    intro fuel hf h
    cases fuel with
    | zero => simp at hf
    | succ fuel =>
      have hp := h p (by simp)
      have hne : (p ++ ps.flatten).isEmpty = false := by
        cases p with
        | nil => simp at hp; omega
        | cons _ _ => rfl
      simp only [splitEvery.go, List.flatten_cons, hne]
      have ht : (p ++ ps.flatten).take n = p := by rw [← hp]; exact List.take_left' rfl
      have hd : (p ++ ps.flatten).drop n = ps.flatten := by rw [← hp]; exact List.drop_left' rfl
      rw [ht, hd, ih fuel (by simpa using hf) (fun q hq => h q (by simp [hq]))]
      simp

theorem splitEvery_flatten {α} (n : Nat) (hn : 0 < n) (ps : List (List α)) (h : ∀ p ∈ ps, p.length = n) :
    splitEvery n ps.flatten = ps := by
  unfold splitEvery
  have : ¬ n = 0 := by omega
  simp only [this, if_false]
  refine splitEvery_go_flatten n hn ps _ ?_ h
  rw [flatten_length_const n ps h]
  exact Nat.lt_succ_of_le (Nat.le_mul_of_pos_left _ hn)

theorem mapM_map_ok {ε α β γ} (f : β → Except ε γ) (h : α → β) (g : α → γ) (l : List α)
    (hf : ∀ x ∈ l, f (h x) = .ok (g x)) : (l.map h).mapM f = .ok (l.map g) := by
  induction l with
  | nil => rfl
  | cons a l ih =>
    rw [List.map_cons, List.mapM_cons, hf a (by simp), ih (fun x hx => hf x (by simp [hx]))]
    rfl

theorem mapM_ok {ε α β} (f : α → Except ε β) (g : α → β) (l : List α) (h : ∀ x ∈ l, f x = .ok (g x)) :
    l.mapM f = .ok (l.map g) := by
  simpa using mapM_map_ok f id g l h

/-- the group loop of the reference decoders on a row of groups of `n` modules or elements: each group is read as what
    it encodes -/
theorem mapM_splitEvery {ε α β γ} (n : Nat) (hn : 0 < n) (step : List β → Except ε γ) (f : α → List β) (g : α → γ)
    (l : List α) (h : ∀ a ∈ l, (f a).length = n ∧ step (f a) = .ok (g a)) :
    (splitEvery n (l.map f).flatten).mapM step = .ok (l.map g) := by
  rw [splitEvery_flatten n hn _ (List.forall_mem_map.2 fun a ha => (h a ha).1)]
  exact mapM_map_ok step f g l fun a ha => (h a ha).2

/-! ### a loop that appends one piece per element, or gives up -/

section loop
variable {α β : Type} {go : List α → List β → Option (List β)} {step : α → Option (List β)} {fin : List β}
  {P : α → Prop} (hnil : ∀ acc, go [] acc = some (acc ++ fin))
  (hcons : ∀ a rest acc, P a → go (a :: rest) acc = (step a).bind fun bs => go rest (acc ++ bs))
include hcons

/-- the elements need only behave like this under a condition `P` that all of them meet (the EAN-13 loop treats
    position 0 differently) -/
theorem loop_fail_of : ∀ (ps : List α) (acc : List β), (∀ p ∈ ps, P p) → (∃ p ∈ ps, step p = none) →
    go ps acc = none := by
  intro ps
  induction ps with
  | nil => intro acc _ h; simp at h
  | cons a t ih =>
    intro acc hP h
    rw [hcons _ _ _ (hP a (by simp))]
    cases ha : step a with
    | none => rfl
    | some bs => exact ih _ (fun p hp => hP p (by simp [hp])) (by simpa [ha] using h)

include hnil

theorem loop_ok_of (f : α → List β) : ∀ (ps : List α) (acc : List β), (∀ p ∈ ps, P p ∧ step p = some (f p)) →
    go ps acc = some (acc ++ ps.flatMap f ++ fin) := by
  intro ps
  induction ps with
  | nil => intro acc _; simp [hnil]
  | cons a t ih =>
    intro acc h
    rw [hcons _ _ _ (h a (by simp)).1, (h a (by simp)).2, Option.bind_some, ih _ (fun p hp => h p (by simp [hp]))]
    simp

end loop

section loop
variable {α β : Type} {go : List α → List β → Option (List β)} {step : α → Option (List β)} {fin : List β}
  (hnil : ∀ acc, go [] acc = some (acc ++ fin))
  (hcons : ∀ a rest acc, go (a :: rest) acc = (step a).bind fun bs => go rest (acc ++ bs))
include hcons

theorem loop_fail (ps : List α) (acc : List β) (h : ∃ p ∈ ps, step p = none) : go ps acc = none :=
  loop_fail_of (P := fun _ => True) (fun a rest acc _ => hcons a rest acc) ps acc (fun _ _ => trivial) h

include hnil

theorem loop_ok (f : α → List β) (ps : List α) (acc : List β) (h : ∀ p ∈ ps, step p = some (f p)) :
    go ps acc = some (acc ++ ps.flatMap f ++ fin) :=
  loop_ok_of (P := fun _ => True) hnil (fun a rest acc _ => hcons a rest acc) f ps acc fun p hp => ⟨trivial, h p hp⟩

end loop

/-! ### ASCII digit strings -/

def isDigitByte (b : UInt8) : Bool := 48 ≤ b.toNat && b.toNat ≤ 57
def AllDigits (s : Bytes) : Prop := ∀ b ∈ s, isDigitByte b = true
def digitsOf (s : Bytes) : List Nat := s.map (fun b => b.toNat - 48)
def digitByte (d : Nat) : UInt8 := UInt8.ofNat (48 + d)

instance (s : Bytes) : Decidable (AllDigits s) := by unfold AllDigits; infer_instance

theorem isDigitByte_iff (b : UInt8) : isDigitByte b = true ↔ 48 ≤ b.toNat ∧ b.toNat ≤ 57 := by
  simp [isDigitByte]

theorem AllDigits.ascii {s : Bytes} (h : AllDigits s) : Ascii.AllAscii s := by
  intro b hb
  have := (isDigitByte_iff b).1 (h b hb)
  omega

theorem AllDigits.cons {b : UInt8} {s : Bytes} (h : AllDigits (b :: s)) : isDigitByte b = true ∧ AllDigits s :=
  ⟨h b (by simp), fun x hx => h x (by simp [hx])⟩

theorem AllDigits.append {a b : Bytes} (ha : AllDigits a) (hb : AllDigits b) : AllDigits (a ++ b) := by
  intro x hx
  simp only [List.mem_append] at hx
  rcases hx with hx | hx
  · exact ha x hx
  · exact hb x hx

theorem digitsOf_lt {s : Bytes} (h : AllDigits s) : ∀ d ∈ digitsOf s, d < 10 := by
  intro d hd
  simp only [digitsOf, List.mem_map] at hd
  obtain ⟨b, hb, rfl⟩ := hd
  have := (isDigitByte_iff b).1 (h b hb)
  omega

theorem digitByte_toNat (d : Nat) (h : d < 10) : (digitByte d).toNat = 48 + d := by
  simp [digitByte, UInt8.toNat_ofNat']
  omega

theorem isDigitByte_digitByte (d : Nat) (h : d < 10) : isDigitByte (digitByte d) = true := by
  rw [isDigitByte_iff, digitByte_toNat d h]; omega

theorem digitsOf_append (a b : Bytes) : digitsOf (a ++ b) = digitsOf a ++ digitsOf b := by
  simp [digitsOf]

theorem digitsOf_length (a : Bytes) : (digitsOf a).length = a.length := by simp [digitsOf]

theorem digitsOf_concat (a : Bytes) (b : UInt8) : digitsOf (a ++ [b]) = digitsOf a ++ [b.toNat - 48] := by
  simp [digitsOf]

theorem AllDigits.snoc {s : Bytes} (hs : AllDigits s) {d : Nat} (h : d < 10) : AllDigits (s ++ [digitByte d]) :=
  hs.append fun x hx => by rw [List.mem_singleton.1 hx]; exact isDigitByte_digitByte d h

/-- a byte ≥ 0x80 would give a rune ≥ 128 -/
theorem allDigits_of_runeList (s : Bytes) (h : ∀ r ∈ runeList s, 48 ≤ r ∧ r ≤ 57) : AllDigits s := by
  have ha := Utf8.isAscii_of_runeList_lt s (fun r hr => by have := h r hr; omega)
  rw [Ascii.runeList_ascii s ha] at h
  intro b hb
  exact (isDigitByte_iff b).2 (h _ (List.mem_map_of_mem hb))

/-! ### encoding tables keyed by the ASCII digits (`map[rune]…` literals of the EAN and 2-of-5 encoders) -/

def digitKeys : List Int := [48, 49, 50, 51, 52, 53, 54, 55, 56, 57]

theorem mapGet_byte {β} {tbl : List (Int × β)} {f : Nat → β}
    (hd : ∀ d : Fin 10, mapGet tbl ((48 + d.val : Nat) : Int) = some (f d.val)) (b : UInt8)
    (h : isDigitByte b = true) : mapGet tbl (b.toNat : Int) = some (f (b.toNat - 48)) := by
  rw [isDigitByte_iff] at h
  have := hd ⟨b.toNat - 48, by omega⟩
  simp only at this
  rwa [show 48 + (b.toNat - 48) = b.toNat by omega] at this

theorem isDigit_of_mapGet {β} {tbl : List (Int × β)} (hkeys : tbl.map (·.1) = digitKeys) {r : Nat}
    (h : mapGet tbl (r : Int) ≠ none) : 48 ≤ r ∧ r ≤ 57 := by
  apply Classical.byContradiction
  intro hr
  apply h
  unfold mapGet
  rw [List.lookup_eq_none_iff]
  intro p hp
  have : p.1 ∈ tbl.map (·.1) := List.mem_map_of_mem hp
  rw [hkeys] at this
  simp only [digitKeys, List.mem_cons, List.not_mem_nil, or_false] at this
  simp only [bne_iff_ne, ne_eq]
  omega

/-- an encoder loop over `range s` that looks every rune up in such a table meets a rune that is not a key, unless
    `s` is a digit string -/
theorem exists_bad_key {β} {tbl : List (Int × β)} (hkeys : tbl.map (·.1) = digitKeys) (s : Bytes)
    (h : ¬ AllDigits s) : ∃ p ∈ runes s, mapGet tbl (p.2 : Int) = none := by
  apply Classical.byContradiction
  intro hn
  refine h (allDigits_of_runeList s fun r hr => ?_)
  obtain ⟨p, hp, rfl⟩ := List.mem_map.1 hr
  exact isDigit_of_mapGet hkeys fun he => hn ⟨p, hp, he⟩

/-! ### alternating 3-1 weighted sums -/

/-- left-to-right sum with weights `w, 4-w, w, …` — the accumulator loop of the reference check digits -/
def alt : List Nat → Nat → Nat
  | [], _ => 0
  | d :: rest, w => d * w + alt rest (4 - w)

/-- left-to-right sum with weights 3/1 chosen by an alternating flag — the loops of the implementation -/
def altB : List Nat → Bool → Nat
  | [], _ => 0
  | d :: rest, b => (if b then d * 3 else d) + altB rest (!b)

def wt (b : Bool) : Nat := if b then 3 else 1

theorem gs1_go_eq (l : List Nat) (w acc : Nat) : gs1Check.go l w acc = acc + alt l w := by
  induction l generalizing w acc with
  | nil => simp [gs1Check.go, alt]
  | cons d l ih => simp [gs1Check.go, alt, ih, Nat.add_assoc]

theorem tof_go_eq (l : List Nat) (w acc : Nat) : tofWeightedSum.go l w acc = acc + alt l w := by
  induction l generalizing w acc with
  | nil => simp [tofWeightedSum.go, alt]
  | cons d l ih => simp [tofWeightedSum.go, alt, ih, Nat.add_assoc]

theorem alt_snoc (l : List Nat) (d w : Nat) (hw : w = 1 ∨ w = 3) :
    alt (l ++ [d]) w = alt l w + d * (if l.length % 2 = 0 then w else 4 - w) := by
  induction l generalizing w with
  | nil => simp [alt]
  | cons x l ih =>
    have hw' : 4 - w = 1 ∨ 4 - w = 3 := by omega
    simp only [List.cons_append, alt, ih (4 - w) hw', List.length_cons]
    have h4 : 4 - (4 - w) = w := by omega
    by_cases hl : l.length % 2 = 0
    · have : ¬ (l.length + 1) % 2 = 0 := by omega
      simp [hl, this, Nat.add_assoc]
    · have : (l.length + 1) % 2 = 0 := by omega
      simp [hl, this, h4, Nat.add_assoc]

theorem wt_or (b : Bool) : wt b = 1 ∨ wt b = 3 := by cases b <;> simp [wt]

/-- the implementation's flag-driven sum equals the right-to-left reference sum -/
theorem altB_eq_alt_reverse (l : List Nat) (b : Bool) :
    altB l b = alt l.reverse (wt (b ^^ (l.length % 2 == 0))) := by
  induction l generalizing b with
  | nil => simp [altB, alt]
  | cons d l ih =>
    rw [altB, ih, List.reverse_cons, alt_snoc _ _ _ (wt_or _)]
    simp only [List.length_reverse, List.length_cons]
    by_cases hl : l.length % 2 = 0
    · have h1 : ¬ (l.length + 1) % 2 = 0 := by omega
      cases b <;> simp [hl, h1, wt] <;> omega
    · have h1 : (l.length + 1) % 2 = 0 := by omega
      cases b <;> simp [hl, h1, wt] <;> omega

/-! ### run lengths of element-width drawings -/

def expand : List (Bool × Nat) → List Bool
  | [] => []
  | (c, n) :: rest => List.replicate n c ++ expand rest

/-- alternating runs with the given widths, the first of colour `c` -/
def barsFrom : Bool → List Nat → List (Bool × Nat)
  | _, [] => []
  | c, w :: rest => (c, w) :: barsFrom (!c) rest

/-- the module list of an element-width list that starts with a bar -/
def drawW (ws : List Nat) : List Bool := expand (barsFrom true ws)

theorem runLengths_cons_run (c : Bool) (l : List Bool) (n : Nat) (tl : List (Bool × Nat))
    (h : runLengths l = (c, n) :: tl) : runLengths (c :: l) = (c, n + 1) :: tl := by
  simp [runLengths, h]

theorem runLengths_cons_new (c : Bool) (l : List Bool) (h : ∀ p ∈ (runLengths l).head?, p.1 ≠ c) :
    runLengths (c :: l) = (c, 1) :: runLengths l := by
  rw [runLengths]
  cases hr : runLengths l with
  | nil => rfl
  | cons p tl =>
    obtain ⟨c', m⟩ := p
    have : c' ≠ c := h (c', m) (by simp [hr])
    simp [this]

theorem runLengths_replicate_append (c : Bool) (n : Nat) (l : List Bool)
    (h : ∀ p ∈ (runLengths l).head?, p.1 ≠ c) :
    runLengths (List.replicate (n + 1) c ++ l) = (c, n + 1) :: runLengths l := by
  induction n with
  | zero => simpa using runLengths_cons_new c l h
  | succ n ih =>
    rw [List.replicate_succ, List.cons_append]
    exact runLengths_cons_run c _ _ _ ih

theorem runLengths_expand_barsFrom (ws : List Nat) (c : Bool) (hpos : ∀ w ∈ ws, 0 < w) :
    runLengths (expand (barsFrom c ws)) = barsFrom c ws := by
  induction ws generalizing c with
  | nil => rfl
  | cons w rest ih =>
    have hw : 0 < w := hpos w (by simp)
    have ih' := ih (!c) (fun x hx => hpos x (by simp [hx]))
    obtain ⟨n, rfl⟩ : ∃ n, w = n + 1 := ⟨w - 1, by omega⟩
    simp only [barsFrom, expand]
    rw [runLengths_replicate_append, ih']
    rw [ih']
    intro p hp
    cases rest with
    | nil => simp [barsFrom] at hp
    | cons w' rest' =>
      simp only [barsFrom, List.head?_cons, Option.mem_def, Option.some.injEq] at hp
      rw [← hp]
      cases c <;> simp

theorem barsFrom_map_snd (ws : List Nat) (c : Bool) : (barsFrom c ws).map (·.2) = ws := by
  induction ws generalizing c with
  | nil => rfl
  | cons w rest ih => simp [barsFrom, ih]

theorem widths_drawW (ws : List Nat) (hpos : ∀ w ∈ ws, 0 < w) :
    widthsFromBar (runLengths (drawW ws)) = some ws := by
  rw [drawW, runLengths_expand_barsFrom ws true hpos]
  cases ws with
  | nil => rfl
  | cons w rest =>
    simp only [barsFrom, widthsFromBar, List.map_cons, barsFrom_map_snd]

theorem expand_append (a b : List (Bool × Nat)) : expand (a ++ b) = expand a ++ expand b := by
  induction a with
  | nil => rfl
  | cons p a ih => obtain ⟨c, n⟩ := p; simp [expand, ih]

theorem barsFrom_append (a b : List Nat) (c : Bool) :
    barsFrom c (a ++ b) = barsFrom c a ++ barsFrom (if a.length % 2 = 0 then c else !c) b := by
  induction a generalizing c with
  | nil => simp [barsFrom]
  | cons w a ih =>
    simp only [List.cons_append, barsFrom, ih, List.length_cons]
    by_cases h : a.length % 2 = 0
    · have : ¬ (a.length + 1) % 2 = 0 := by omega
      simp [h, this]
    · have : (a.length + 1) % 2 = 0 := by omega
      simp [h, this]

/-- drawings of element lists concatenate when the first has an even number of elements (ends with a space) -/
theorem drawW_append (a b : List Nat) (h : a.length % 2 = 0) : drawW (a ++ b) = drawW a ++ drawW b := by
  simp [drawW, barsFrom_append, expand_append, h]

theorem drawW_flatten (gs : List (List Nat)) (h : ∀ g ∈ gs, g.length % 2 = 0) :
    drawW gs.flatten = (gs.map drawW).flatten := by
  induction gs with
  | nil => rfl
  | cons g gs ih =>
    rw [List.flatten_cons, drawW_append _ _ (h g (by simp)), ih (fun x hx => h x (by simp [hx]))]
    rfl

theorem flatten_length_even (gs : List (List Nat)) (h : ∀ g ∈ gs, g.length % 2 = 0) :
    gs.flatten.length % 2 = 0 := by
  induction gs with
  | nil => rfl
  | cons g gs ih =>
    have := h g (by simp)
    have := ih (fun x hx => h x (by simp [hx]))
    simp only [List.flatten_cons, List.length_append]
    omega

/-! ### lists -/

/-- pieces joined by a separator, with one more separator at the end, are pieces each followed by the separator -/
theorem flatMap_sep {α β} (f : α → List β) (sep : List β) (a : α) (tl : List α) :
    f a ++ tl.flatMap (fun b => sep ++ f b) ++ sep = (a :: tl).flatMap (fun b => f b ++ sep) := by
  induction tl generalizing a with
  | nil => simp
  | cons b tl ih =>
    have := ih b
    simp only [List.flatMap_cons, List.append_assoc] at this ⊢
    rw [← this]

theorem getD_mem {α} {l : List α} {i : Nat} (hi : i < l.length) (d : α) : l.getD i d ∈ l := by
  rw [List.getD_eq_getElem?_getD, List.getElem?_eq_getElem hi]
  exact List.getElem_mem hi

/-- the first-match search for an entry of a list without repetitions finds the entry's own index -/
theorem findIdx?_getD {α} [BEq α] [LawfulBEq α] {l : List α} (hl : l.Nodup) {i : Nat} (hi : i < l.length) (d : α) :
    l.findIdx? (· == l.getD i d) = some i := by
  rw [List.getD_eq_getElem?_getD, List.getElem?_eq_getElem hi, List.findIdx?_eq_some_iff_getElem]
  refine ⟨hi, beq_self_eq_true _, fun j hj hij => ?_⟩
  have := (List.getElem_inj hl).1 (eq_of_beq hij)
  omega

/-- where the parts of `a ++ body ++ z` are, in the terms in which the reference decoders cut a row of elements into
    start pattern, data and stop pattern -/
theorem frame3 {α} (a body z : List α) (n m k : Nat) (ha : a.length = n) (hz : z.length = m) (hk : n + m = k) :
    (a ++ body ++ z).take n = a ∧ ¬ (a ++ body ++ z).length < k ∧
    (a ++ body ++ z).drop ((a ++ body ++ z).length - m) = z ∧
    ((a ++ body ++ z).drop n).take ((a ++ body ++ z).length - k) = body := by
  have hl : (a ++ body ++ z).length = body.length + k := by
    simp only [List.length_append, ha, hz]; omega
  refine ⟨?_, by omega, ?_, ?_⟩
  · rw [List.append_assoc]; exact List.take_left' ha
  · rw [hl]; exact List.drop_left' (by simp only [List.length_append, ha]; omega)
  · rw [hl, List.append_assoc, List.drop_left' ha]
    exact List.take_left' (by omega)

/-! ### certificates by evaluation -/

/-- No number occurs twice: one pass, with the set of numbers seen so far as a bit mask (deciding `List.Nodup` compares
    all pairs).  Tables are shown free of repetitions by evaluating this on numeric keys of their entries. -/
def distinct : List Nat → Nat → Bool
  | [], _ => true
  | k :: ks, seen => !seen.testBit k && distinct ks (seen ||| 1 <<< k)

theorem nodup_of_distinct : ∀ (ks : List Nat) (seen : Nat), distinct ks seen = true →
    ks.Nodup ∧ ∀ k ∈ ks, seen.testBit k = false := by
  intro ks
  induction ks with
  | nil => intro _ _; exact ⟨List.nodup_nil, fun _ h => nomatch h⟩
  | cons k ks ih =>
    intro seen h
    simp only [distinct, Bool.and_eq_true, Bool.not_eq_true'] at h
    obtain ⟨hnd, hseen⟩ := ih _ h.2
    have hk : ∀ j ∈ ks, seen.testBit j = false ∧ j ≠ k := by
      intro j hj
      have := hseen j hj
      rw [Nat.testBit_or, Bool.or_eq_false_iff] at this
      refine ⟨this.1, ?_⟩
      rintro rfl
      rw [Nat.one_shiftLeft, Nat.testBit_two_pow_self] at this
      exact absurd this.2 (by simp)
    refine ⟨List.nodup_cons.2 ⟨fun hm => (hk k hm).2 rfl, hnd⟩, ?_⟩
    intro j hj
    rcases List.mem_cons.1 hj with rfl | hj
    · exact h.1
    · exact (hk j hj).1

/-- the entries of a table are pairwise distinct if their numeric keys are -/
theorem nodup_of_keys {α} (key : α → Nat) {l : List α} (h : distinct (l.map key) 0 = true) : l.Nodup :=
  (List.pairwise_map.1 (nodup_of_distinct _ _ h).1).imp fun hne he => hne (congrArg key he)

/-- `e = .ok v` as a Boolean, for certificates that are evaluated (`Except ε α` has no `DecidableEq` for free) -/
def isOk {ε α} [BEq α] (e : Except ε α) (v : α) : Bool :=
  match e with
  | .ok x => x == v
  | .error _ => false

theorem eq_of_isOk {ε α} [BEq α] [LawfulBEq α] (e : Except ε α) (v : α) (h : isOk e v = true) : e = .ok v := by
  cases e with
  | error _ => simp [isOk] at h
  | ok x => simp only [isOk, beq_iff_eq] at h; rw [h]

/-! ### rune helpers (`utils.RuneToInt`, `utils.IntToRune`, `string(rune)`) on digits -/

theorem runeToInt_digit (b : UInt8) (h : isDigitByte b = true) :
    runeToInt b.toNat = ((b.toNat - 48 : Nat) : Int) := by
  rw [isDigitByte_iff] at h
  simp only [runeToInt, h.1, h.2, and_self, if_true]
  omega

theorem intToRune_check (S : Nat) :
    intToRune ((10 - (S : Int).tmod 10).tmod 10) = 48 + (10 - S % 10) % 10 := by
  rw [Int.tmod_eq_emod_of_nonneg (Int.natCast_nonneg S)]
  rw [Int.tmod_eq_emod_of_nonneg (by omega)]
  unfold intToRune
  have h : 0 ≤ (10 - (S : Int) % 10) % 10 ∧ (10 - (S : Int) % 10) % 10 ≤ 9 := by omega
  simp only [h, and_self, if_true]
  omega

theorem encodeRune_digit (d : Nat) (h : d < 10) : encodeRune (48 + d) = [digitByte d] :=
  Utf8.encodeRune_ascii (by omega)

end BV.Proofs.OneD
