/-
  From the picture `Merge` draws to what the reference checks: the image has the finder L and the
  clock tracks around every data region (`Spec.finderOk`) and its data regions, butted together
  (`Spec.mappingModule`), are the mapping matrix of the layout.
-/
import BV.Proofs.DmMerge
import BV.Proofs.DmSize
namespace BV.Proofs.DmFrame
open BV BV.Model BV.Model.Datamatrix BV.Spec.Datamatrix BV.Proofs.DmMerge BV.Proofs.DmSize

/-- the module colour function of the `barcode.Barcode` view of a `datamatrixCode` -/
def darkOf (c : DatamatrixCode) : Nat → Nat → Bool :=
  fun x y => match c.get x y with | .ok b => b | .error _ => false

theorem toBarcode_dark (c : DatamatrixCode) : c.toBarcode.dark = darkOf c := rfl

theorem fits_of_agrees {s : CodeSize} {a : Attr} (hag : Agrees s a) (hc : a.consistent = true)
    (hev : a.regionSize % 2 = 0) : Fits s a := by
  unfold Attr.consistent at hc
  simp only [Bool.and_eq_true, beq_iff_eq] at hc
  exact ⟨hag, hc.1.1.1.1, hc.1.1.1.2, hev⟩

theorem dark_eq {c : DatamatrixCode} {n x y : Nat} {v : Bool} (hrows : c.size.rows = (n : Int))
    (hb : c.bits[x * n + y]? = some v) : darkOf c x y = v := by
  unfold darkOf DatamatrixCode.get
  rw [hrows, ← Int.natCast_mul, ← Int.natCast_add, DmShape.getBit_nat _ _ _ hb]

section picture
variable {a : Attr} {mat : Array Bool} {dark : Nat → Nat → Bool}

/-- the picture has the finder L and the clock tracks of every data region -/
theorem finder_picture (hsize : a.regionsPerSide * (a.regionSize + 2) = a.size) (hev : a.regionSize % 2 = 0)
    (hd : ∀ x y, x < a.size → y < a.size → dark x y = picture a mat x y) : finderOk a dark = true := by
  unfold finderOk regionBorderOk
  simp only [List.all_eq_true, List.mem_range, Bool.and_eq_true, beq_iff_eq]
  intro ry hry rx hrx k hk
  have hb : 0 < a.regionSize + 2 := by omega
  have hl : a.regionSize + 1 < a.regionSize + 2 := by omega
  have hlt {h r : Nat} (hh : h < a.regionsPerSide) (hr : r < a.regionSize + 2) :
      h * (a.regionSize + 2) + r < a.size := hsize ▸ region_lt hh hr
  have hx0 := hlt hrx hb
  have hy0 := hlt hry hb
  rw [Nat.add_zero] at hx0 hy0
  have p1 := (hd _ _ hx0 (hlt hry hk)).trans (picture_region a mat rx ry hb hk)
  have p2 := (hd _ _ (hlt hrx hk) (hlt hry hl)).trans (picture_region a mat rx ry hk hl)
  have p3 := (hd _ _ (hlt hrx hk) hy0).trans (picture_region a mat rx ry hk hb)
  have p4 := (hd _ _ (hlt hrx hl) (hlt hry hk)).trans (picture_region a mat rx ry hl hk)
  refine ⟨⟨⟨p1.trans (if_pos (Or.inl rfl)), p2.trans (if_pos (Or.inr rfl))⟩, p3.trans ?_⟩, p4.trans ?_⟩
  · by_cases h0 : k = 0
    · rw [if_pos (Or.inl h0), h0]; rfl
    · rw [if_neg (by omega), if_pos rfl]
  · by_cases h1 : k = a.regionSize + 1
    · rw [if_pos (Or.inr h1), h1]
      exact (beq_iff_eq.mpr (by omega)).symm
    · rw [if_neg (by omega)]
      by_cases h0 : k = 0
      · rw [if_pos h0, h0]
        exact (beq_eq_false_iff_ne.mpr (by omega)).trans (beq_eq_false_iff_ne.mpr (by omega)).symm
      · rw [if_neg h0, if_pos rfl]

/-- the data regions of the picture, borders removed and butted together, are the mapping matrix -/
theorem mapping_picture (hsize : a.regionsPerSide * (a.regionSize + 2) = a.size)
    (hmap : a.regionsPerSide * a.regionSize = a.mapping)
    (hd : ∀ x y, x < a.size → y < a.size → dark x y = picture a mat x y) (row col : Nat) (hr : row < a.mapping)
    (hc : col < a.mapping) : mappingModule a dark row col = mat.getD (col + row * a.mapping) false := by
  have hrs : 0 < a.regionSize := by
    rcases Nat.eq_zero_or_pos a.regionSize with h0 | h0
    · rw [h0, Nat.mul_zero] at hmap; omega
    · exact h0
  have hcr := Nat.mod_lt col hrs
  have hrr := Nat.mod_lt row hrs
  have hlt {i : Nat} (hi : i < a.mapping) :
      i / a.regionSize * (a.regionSize + 2) + (1 + i % a.regionSize) < a.size :=
    hsize ▸ region_lt ((Nat.div_lt_iff_lt_mul hrs).mpr (hmap ▸ hi)) (by have := Nat.mod_lt i hrs; omega)
  unfold mappingModule
  simp only
  rw [Nat.add_assoc, Nat.add_assoc (row / _ * _), hd _ _ (hlt hc) (hlt hr),
    picture_region a mat _ _ (by omega) (by omega), if_neg (by omega), if_neg (by omega), if_neg (by omega),
    Nat.add_sub_cancel_left, Nat.add_sub_cancel_left, region_offset, region_offset]

end picture

theorem merge_frame {s : CodeSize} {a : Attr} (hf : Fits s a) (l : CodeLayout) (hl : l.size = s)
    (hmat : a.mapping * a.mapping ≤ l.matrix.size) :
    ∃ c, l.merge = .ok c ∧ c.size = l.size ∧ c.color = l.color ∧ c.content = [] ∧
      finderOk a (darkOf c) = true ∧
      ∀ row col, row < a.mapping → col < a.mapping →
        mappingModule a (darkOf c) row col = l.matrix.getD (col + row * a.mapping) false := by
  obtain ⟨c, hm, hs, hc, hn, hb⟩ := merge_picture hf l hl hmat
  have hd : ∀ x y, x < a.size → y < a.size → darkOf c x y = picture a l.matrix x y :=
    fun x y hx hy => dark_eq (hs ▸ hf.rows) (hb x y hx hy)
  exact ⟨c, hm, hs.trans hl.symm, hc, hn, finder_picture hf.size_eq hf.even hd, mapping_picture hf.size_eq hf.mapping_eq hd⟩

end BV.Proofs.DmFrame
