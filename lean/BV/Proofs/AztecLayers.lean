/-
  BV.Proofs.AztecLayers — layer choice and size arithmetic of the Aztec encoder (properties C03, C10, C12, C13):
  the tables (`word_size`, symbol side length), the explicit layer request (`explicitLayers`),
  the automatic choice (`autoLayers`: first fit, minimal side length) and the check word arithmetic.
-/
import BV.Proofs.AztecStuff
namespace BV.Proofs.AztecLayers
open BV BV.Model BV.Model.Aztec BV.Proofs.AztecBits BV.Proofs.AztecStuff
open BV.Gen.Aztec

/-! ### A. tables and formulas -/

/-- certificate (by `decide`): the Go table `word_size[L]` is the codeword size of ISO/IEC 24778 for `L` layers: 6 bits
    for 1–2 layers, 8 for 3–8, 10 for 9–22, 12 for 23–32 -/
theorem word_size_eq : ∀ L ≤ 32, 1 ≤ L → word_size L = Spec.Aztec.wordSizeOf L := by decide

theorem shape_le32 {c : Bool} {L : Nat} (h : Shape c L) : 1 ≤ L ∧ L ≤ 32 := by
  obtain ⟨h1, h2⟩ := h
  cases c <;> simp at h2 <;> omega

theorem word_size_mem {c : Bool} {L : Nat} (h : Shape c L) : word_size L ∈ [6, 8, 10, 12] := by
  obtain ⟨h1, h2⟩ := shape_le32 h
  rw [word_size_eq L h2 h1]
  unfold Spec.Aztec.wordSizeOf
  repeat' split
  all_goals simp

theorem symbolSize_compact (L : Nat) : Spec.Aztec.symbolSize true L = 11 + 4 * L := by
  simp only [Spec.Aztec.symbolSize, Spec.Aztec.halfSize, Spec.Aztec.real, Spec.Aztec.modeRing, if_true]
  omega

/-- ISO closed form of the side length of a full-range symbol (general arithmetic, any `L`):
    `15 + 4 L` plus two modules per reference grid line pair -/
theorem symbolSize_full (L : Nat) : Spec.Aztec.symbolSize false L = 15 + 4 * L + 2 * ((2 * L + 6) / 15) := by
  simp only [Spec.Aztec.symbolSize, Spec.Aztec.halfSize, Spec.Aztec.real, Spec.Aztec.modeRing,
    Bool.false_eq_true, if_false, Int.natAbs_natCast]
  have : ¬ (((7 + 2 * L : Nat) : Int) < 0) := by omega
  rw [if_neg this]
  omega

/-- the side length that `EncodeWithColor` allocates (`matrixSize`) is the side length of the standard -/
theorem matrixSize_eq (compact : Bool) (L : Nat) :
    (alignmentMap compact (AztecGeom.baseSize compact L)).2 = Spec.Aztec.symbolSize compact L := by
  cases compact
  · rw [symbolSize_full]
    simp only [alignmentMap, AztecGeom.baseSize, Bool.false_eq_true, if_false]
    omega
  · rw [symbolSize_compact]
    simp only [alignmentMap, AztecGeom.baseSize, if_true]
    omega

theorem render_size (compact : Bool) (L : Nat) (mb mm : List Bool) (data : Bytes) (color : Scheme) :
    (render compact L mb mm data color).size = Spec.Aztec.symbolSize compact L :=
  (render_fields compact L mb mm data color).1.trans (matrixSize_eq compact L)

/-! ### B. the explicit request -/

/-- the layout that the encoder uses for the shape `(c, L)` -/
def layoutOf (bits : List Bool) (c : Bool) (L : Nat) : Layout :=
  { compact := c, layers := L, totalBitsInLayer := totalBitsInLayer L c, wordSize := word_size L,
    stuffedBits := stuffBits bits (word_size L) }

/-- the shape `(c, L)` can hold the message: with `w = word_size L` and `T = totalBitsInLayer L c`, the stuffed
    bits plus the requested check bits fit into the `T - T % w` usable bits, and a compact symbol holds at most
    64 data words -/
def Fits (bits : List Bool) (ecc : Int) (c : Bool) (L : Nat) : Prop :=
  ((stuffBits bits (word_size L)).length : Int) + ecc ≤
      ((totalBitsInLayer L c - totalBitsInLayer L c % word_size L : Nat) : Int) ∧
    (c = true → (stuffBits bits (word_size L)).length ≤ word_size L * 64)

instance (bits : List Bool) (ecc : Int) (c : Bool) (L : Nat) : Decidable (Fits bits ecc c L) := by
  unfold Fits; exact inferInstance

theorem layers_natAbs (req : Int) : (if req < 0 then (-req).toNat else req.toNat) = req.natAbs := by
  split <;> omega

theorem out_of_range_iff (req : Int) :
    ((decide (req < 0) && decide (req.natAbs > 4)) || (!decide (req < 0) && decide (req.natAbs > 32))) = true ↔
      (req < -4 ∨ 32 < req) := by
  by_cases hc : req < 0 <;> simp [hc] <;> omega

theorem fits_iff (bits : List Bool) (ecc : Int) (c : Bool) (L : Nat) :
    Fits bits ecc c L ↔
      ¬ ((stuffBits bits (word_size L)).length : Int) + ecc >
          ((totalBitsInLayer L c - totalBitsInLayer L c % word_size L : Nat) : Int) ∧
      ¬ (c && decide ((stuffBits bits (word_size L)).length > word_size L * 64)) = true := by
  unfold Fits
  cases c <;> simp <;> omega

/-- a request outside `-4 … 32` is rejected (C10) -/
theorem explicitLayers_reject_range (bits : List Bool) (ecc req : Int) (h : req < -4 ∨ 32 < req) :
    explicitLayers bits ecc req = .error .rejected := by
  unfold explicitLayers
  simp only [c_max_nb_bits_compact, c_max_nb_bits, layers_natAbs]
  rw [if_pos ((out_of_range_iff req).mpr h)]

/-- a request inside `-4 … 32` (including 0, which `EncodeWithColor` never passes on) is accepted with exactly
    the requested shape iff the message fits (`Fits`), and is rejected otherwise -/
theorem explicitLayers_char (bits : List Bool) (ecc req : Int) (h1 : -4 ≤ req) (h2 : req ≤ 32) :
    explicitLayers bits ecc req =
      if Fits bits ecc (decide (req < 0)) req.natAbs then .ok (layoutOf bits (decide (req < 0)) req.natAbs)
      else .error .rejected := by
  unfold explicitLayers
  simp only [c_max_nb_bits_compact, c_max_nb_bits, layers_natAbs]
  rw [if_neg (by rw [out_of_range_iff]; omega)]
  by_cases hF : Fits bits ecc (decide (req < 0)) req.natAbs
  · rw [if_pos hF, if_neg ((fits_iff ..).mp hF).1, if_neg ((fits_iff ..).mp hF).2]
    rfl
  · rw [if_neg hF]
    split
    · rfl
    · split
      · rfl
      · rename_i hfit hcap
        exact absurd ((fits_iff ..).mpr ⟨hfit, hcap⟩) hF

theorem layoutOK_of_fits {bits : List Bool} {ecc : Int} {c : Bool} {L : Nat} (hs : Shape c L)
    (hf : Fits bits ecc c L) : LayoutOK bits ecc (layoutOf bits c L) :=
  { shape := hs, total := rfl, ws := rfl, stuffed := rfl, fits := hf.1, cap := hf.2 }

theorem shape_of_req {req : Int} (h0 : req ≠ 0) (h1 : -4 ≤ req) (h2 : req ≤ 32) :
    Shape (decide (req < 0)) req.natAbs := by
  unfold Shape
  by_cases hc : req < 0
  · simp [hc]; omega
  · simp [hc]; omega

theorem explicitLayers_ne_panic (bits : List Bool) (ecc req : Int) :
    explicitLayers bits ecc req ≠ .error .panic := by
  by_cases h : req < -4 ∨ 32 < req
  · rw [explicitLayers_reject_range bits ecc req h]; simp
  · rw [explicitLayers_char bits ecc req (by omega) (by omega)]
    split <;> simp

/-- C03: an accepted explicit request (non-zero) lies in `-4 … 32` and is honoured exactly: the layout is compact
    iff the request is negative, has `|req|` layers, and satisfies `LayoutOK` -/
theorem explicitLayers_ok {bits : List Bool} {ecc req : Int} {lay : Layout}
    (h : explicitLayers bits ecc req = .ok lay) (h0 : req ≠ 0) :
    (-4 ≤ req ∧ req ≤ 32) ∧ lay.compact = decide (req < 0) ∧ lay.layers = req.natAbs ∧
      LayoutOK bits ecc lay := by
  by_cases hr : req < -4 ∨ 32 < req
  · rw [explicitLayers_reject_range bits ecc req hr] at h; simp at h
  · have h1 : -4 ≤ req := by omega
    have h2 : req ≤ 32 := by omega
    rw [explicitLayers_char bits ecc req h1 h2] at h
    split at h
    · rename_i hF
      injection h with h
      subst h
      exact ⟨⟨h1, h2⟩, rfl, rfl, layoutOK_of_fits (shape_of_req h0 h1 h2) hF⟩
    · simp at h

/-! ### C. the automatic choice -/

/-- candidate number `i` of the automatic loop: compact with `i + 1` layers for `i ≤ 3`, full-range with `i`
    layers for `i ≥ 4` -/
def candC (i : Nat) : Bool := decide (i ≤ 3)
def candL (i : Nat) : Nat := if i ≤ 3 then i + 1 else i
def candReq (i : Nat) : Int := if i ≤ 3 then -((i : Int) + 1) else (i : Int)

theorem word_size_ge : ∀ L ≤ 32, 4 ≤ word_size L := by decide

theorem candL_le {i : Nat} (hi : i ≤ 32) : candL i ≤ 32 := by unfold candL; split <;> omega

/-- one iteration of the automatic loop at candidate `i ≤ 32`, when the cached pair `(ws, sb)` is either the
    initial one (`ws = 0`) or consistent (`sb = stuffBits bits ws`): skip if even the unstuffed size exceeds the
    capacity, return the candidate's layout if it fits, otherwise continue with the candidate's word size cached -/
theorem autoLayers_step (bits : List Bool) (ecc tsb : Int) (fuel i ws : Nat) (sb : List Bool)
    (hi : i ≤ 32) (inv : ws = 0 ∨ sb = stuffBits bits ws) :
    autoLayers bits ecc tsb (fuel + 1) i ws sb =
      if tsb > (totalBitsInLayer (candL i) (candC i) : Int) then autoLayers bits ecc tsb fuel (i + 1) ws sb
      else if Fits bits ecc (candC i) (candL i) then .ok (layoutOf bits (candC i) (candL i))
      else autoLayers bits ecc tsb fuel (i + 1) (word_size (candL i)) (stuffBits bits (word_size (candL i))) := by
  rw [autoLayers]
  simp only [c_max_nb_bits]
  rw [if_neg (by omega)]
  have hcL : (if i ≤ 3 then i + 1 else i) = candL i := rfl
  have hcC : decide (i ≤ 3) = candC i := rfl
  have hpair : (if (ws != word_size (candL i)) = true then
        (word_size (candL i), stuffBits bits (word_size (candL i))) else (ws, sb)) =
      (word_size (candL i), stuffBits bits (word_size (candL i))) := by
    by_cases hw : ws = word_size (candL i)
    · have hne := word_size_ge _ (candL_le hi)
      rcases inv with h0 | hsb
      · omega
      · rw [if_neg (by simp [hw]), hsb, hw]
    · rw [if_pos (by simpa using hw)]
  simp only [hcL, hcC, hpair]
  split
  · rfl
  · by_cases hF : Fits bits ecc (candC i) (candL i)
    · rw [if_pos hF, if_neg ((fits_iff ..).mp hF).2, if_pos (Int.not_lt.mp ((fits_iff ..).mp hF).1)]
      rfl
    · rw [if_neg hF]
      split
      · rfl
      · split
        · rename_i hcap hfit
          exact absurd ((fits_iff ..).mpr ⟨Int.not_lt.mpr hfit, hcap⟩) hF
        · rfl

theorem autoLayers_gt (bits : List Bool) (ecc tsb : Int) (fuel i ws : Nat) (sb : List Bool) (hi : 32 < i) :
    autoLayers bits ecc tsb fuel i ws sb = .error .rejected := by
  cases fuel with
  | zero => rfl
  | succ fuel =>
    rw [autoLayers]
    simp only [c_max_nb_bits]
    rw [if_pos hi]

/-- what the loop returns when started at candidate `i`: a rejection, or the layout of the first candidate `k ≥ i`
    that is neither skipped (unstuffed size above the capacity) nor fails to fit -/
def FirstFit (bits : List Bool) (ecc tsb : Int) (i : Nat) (r : Res Layout) : Prop :=
  r = .error .rejected ∨
  ∃ k, i ≤ k ∧ k ≤ 32 ∧ r = .ok (layoutOf bits (candC k) (candL k)) ∧ Fits bits ecc (candC k) (candL k) ∧
    ∀ j, i ≤ j → j < k →
      (tsb > (totalBitsInLayer (candL j) (candC j) : Int) ∨ ¬ Fits bits ecc (candC j) (candL j))

theorem FirstFit.step {bits : List Bool} {ecc tsb : Int} {i : Nat} {r : Res Layout}
    (hi : tsb > (totalBitsInLayer (candL i) (candC i) : Int) ∨ ¬ Fits bits ecc (candC i) (candL i))
    (h : FirstFit bits ecc tsb (i + 1) r) : FirstFit bits ecc tsb i r := by
  rcases h with h | ⟨k, hk1, hk2, hk3, hk4, hk5⟩
  · exact Or.inl h
  · refine Or.inr ⟨k, by omega, hk2, hk3, hk4, fun j hj1 hj2 => ?_⟩
    by_cases hji : j = i
    · subst hji; exact hi
    · exact hk5 j (by omega) hj2

/-- the loop invariant -/
theorem autoLayers_spec (bits : List Bool) (ecc tsb : Int) : ∀ (fuel i ws : Nat) (sb : List Bool),
    (ws = 0 ∨ sb = stuffBits bits ws) → FirstFit bits ecc tsb i (autoLayers bits ecc tsb fuel i ws sb) := by
  intro fuel
  induction fuel with
  | zero => intro i ws sb _; exact Or.inl rfl
  | succ fuel ih =>
    intro i ws sb inv
    by_cases hi : 32 < i
    · exact Or.inl (autoLayers_gt _ _ _ _ _ _ _ hi)
    · rw [autoLayers_step bits ecc tsb fuel i ws sb (by omega) inv]
      split
      · exact (ih _ _ _ inv).step (Or.inl ‹_›)
      · split
        · exact Or.inr ⟨i, Nat.le_refl _, by omega, rfl, ‹_›, fun j _ _ => by omega⟩
        · exact (ih _ _ _ (Or.inr rfl)).step (Or.inr ‹_›)

theorem autoLayers_ne_panic (bits : List Bool) (ecc : Int) :
    autoLayers bits ecc (bits.length + ecc) 34 0 0 [] ≠ .error .panic := by
  rcases autoLayers_spec bits ecc _ 34 0 0 [] (Or.inl rfl) with h | ⟨_, _, _, h, _⟩ <;> rw [h] <;> simp

theorem shape_cand {k : Nat} (hk : k ≤ 32) : Shape (candC k) (candL k) := by
  unfold Shape candC candL
  by_cases h : k ≤ 3
  · simp [h]
  · simp [h]; omega

theorem candReq_natAbs (k : Nat) : (candReq k).natAbs = candL k := by
  unfold candReq candL; split <;> omega

theorem candReq_neg (k : Nat) : decide (candReq k < 0) = candC k := by
  unfold candReq candC
  by_cases h : k ≤ 3
  · simp [h]
  · simp [h]

theorem candReq_range {k : Nat} (hk : k ≤ 32) : -4 ≤ candReq k ∧ candReq k ≤ 32 := by
  unfold candReq; split <;> omega

theorem explicitLayers_cand (bits : List Bool) (ecc : Int) {k : Nat} (hk : k ≤ 32) :
    explicitLayers bits ecc (candReq k) =
      if Fits bits ecc (candC k) (candL k) then .ok (layoutOf bits (candC k) (candL k)) else .error .rejected := by
  rw [explicitLayers_char bits ecc _ (candReq_range hk).1 (candReq_range hk).2, candReq_natAbs, candReq_neg]

/-- a candidate that the loop skips without stuffing does not fit, because stuffing never shortens the bits -/
theorem not_fits_of_skip {bits : List Bool} {ecc : Int} {c : Bool} {L : Nat}
    (hL : L ≤ 32) (ht : (bits.length : Int) + ecc > (totalBitsInLayer L c : Int)) : ¬ Fits bits ecc c L := by
  intro hF
  have h1 := hF.1
  have h2 := stuffBits_length_ge bits (word_size L) (by have := word_size_ge L hL; omega)
  omega

/-- C13 core: a successful automatic choice is candidate `k` for some `k ≤ 32`; it fits, and (as stuffing never
    shortens) no earlier candidate fits -/
theorem autoLayers_core {bits : List Bool} {ecc : Int} {lay : Layout}
    (h : autoLayers bits ecc (bits.length + ecc) 34 0 0 [] = .ok lay) :
    ∃ k, k ≤ 32 ∧ lay = layoutOf bits (candC k) (candL k) ∧ Fits bits ecc (candC k) (candL k) ∧
      ∀ j, j < k → ¬ Fits bits ecc (candC j) (candL j) := by
  rcases autoLayers_spec bits ecc _ 34 0 0 [] (Or.inl rfl) with hr | ⟨k, _, hk2, hk3, hk4, hk6⟩
  · rw [hr] at h; cases h
  refine ⟨k, hk2, Except.ok.inj (h.symm.trans hk3), hk4, fun j hj => ?_⟩
  rcases hk6 j (Nat.zero_le _) hj with ht | hnf
  · exact not_fits_of_skip (candL_le (by omega)) ht
  · exact hnf

/-- the automatic choice returns an accepted layout; a full-range choice has at least 4 layers (the loop tries
    compact 1–4, then full-range 4–32) -/
theorem autoLayers_ok {bits : List Bool} {ecc : Int} {lay : Layout}
    (h : autoLayers bits ecc (bits.length + ecc) 34 0 0 [] = .ok lay) :
    LayoutOK bits ecc lay ∧ (lay.compact = false → 4 ≤ lay.layers) := by
  obtain ⟨k, hk, rfl, hF, _⟩ := autoLayers_core h
  refine ⟨layoutOK_of_fits (shape_cand hk) hF, ?_⟩
  simp only [layoutOf, candC, candL, decide_eq_false_iff_not]
  intro hc
  rw [if_neg hc]; omega

theorem autoLayers_eq_explicit {bits : List Bool} {ecc : Int} {lay : Layout}
    (h : autoLayers bits ecc (bits.length + ecc) 34 0 0 [] = .ok lay) :
    explicitLayers bits ecc (if lay.compact then -(lay.layers : Int) else lay.layers) = .ok lay := by
  obtain ⟨k, hk, rfl, hF, _⟩ := autoLayers_core h
  have : (if (layoutOf bits (candC k) (candL k)).compact then -((layoutOf bits (candC k) (candL k)).layers : Int)
      else (layoutOf bits (candC k) (candL k)).layers) = candReq k := by
    simp only [layoutOf, candC, candL, candReq, decide_eq_true_eq]
    split <;> simp
  rw [this, explicitLayers_cand bits ecc hk, if_pos hF]

/-- first fit in terms of requests: every compact request with fewer layers than a compact choice, every compact
    request at all if the choice is full-range, and every full-range request with at least 4 but fewer layers
    than a full-range choice, is rejected -/
theorem autoLayers_first_fit_req {bits : List Bool} {ecc : Int} {lay : Layout}
    (h : autoLayers bits ecc (bits.length + ecc) 34 0 0 [] = .ok lay) :
    (∀ L : Nat, 1 ≤ L → L ≤ 4 → (lay.compact = true → L < lay.layers) →
      explicitLayers bits ecc (-(L : Int)) = .error .rejected) ∧
    (∀ L : Nat, 4 ≤ L → lay.compact = false → L < lay.layers →
      explicitLayers bits ecc (L : Int) = .error .rejected) := by
  obtain ⟨k, hk, rfl, _, hlt⟩ := autoLayers_core h
  have hrej : ∀ j, j < k → explicitLayers bits ecc (candReq j) = .error .rejected := fun j hj => by
    rw [explicitLayers_cand bits ecc (by omega), if_neg (hlt j hj)]
  simp only [layoutOf, candC, candL, decide_eq_true_eq, decide_eq_false_iff_not]
  constructor
  · intro L h1 h4 hl
    have := hrej (L - 1) (by split at hl <;> omega)
    rwa [show candReq (L - 1) = -(L : Int) by unfold candReq; rw [if_pos (by omega)]; omega] at this
  · intro L h4 hc hl
    have := hrej L (by rwa [if_neg hc] at hl)
    rwa [show candReq L = (L : Int) by unfold candReq; rw [if_neg (by omega)]] at this

/-! ### C13: the automatic size is minimal -/

theorem cand_lo {j : Nat} (h : j ≤ 3) : candC j = true ∧ candL j = j + 1 := by
  unfold candC candL; simp [h]

theorem cand_hi {j : Nat} (h : 4 ≤ j) : candC j = false ∧ candL j = j := by
  have : ¬ j ≤ 3 := by omega
  unfold candC candL; simp [this]

/-- full range with `L ≤ 3` layers has the side length of compact with `L + 1` layers and holds less.  `L = 1`
    (19×19): 128 bits against 240, both in 6-bit words; `L = 3` (27×27): 480 bits against 608, both in 8-bit words,
    the compact symbol limited to 64 data words = 512 bits; `L = 2` (23×23) crosses word sizes, 288 bits in 6-bit words
    against 408 in 8-bit words: stuffing with 6-bit words does not shorten the bits, stuffing with 8-bit words
    yields at most `n / 7 + 1` words. -/
theorem not_fits_full_small {bits : List Bool} {ecc : Int}
    (he : 11 ≤ ecc) {L : Nat} (h1 : 1 ≤ L) (h3 : L ≤ 3) (h : ¬ Fits bits ecc true (L + 1)) :
    ¬ Fits bits ecc false L := by
  intro hF
  apply h
  have h6 := stuffBits_length_ge bits 6 (by decide)
  have h8 : (stuffBits bits 8).length ≤ (bits.length / 7 + 1) * 8 := stuffBits_length_le bits 8 (by decide)
  have tbl : word_size 1 = 6 ∧ word_size 2 = 6 ∧ word_size 3 = 8 ∧ word_size 4 = 8 := by decide
  unfold Fits totalBitsInLayer at hF ⊢
  obtain rfl | rfl | rfl : L = 1 ∨ L = 2 ∨ L = 3 := by omega
  all_goals
    simp only [tbl, if_true, Bool.false_eq_true, if_false, Nat.reduceMul, Nat.reduceAdd, Nat.reduceMod,
      Nat.reduceSub] at hF ⊢
    refine ⟨?_, fun _ => ?_⟩ <;> omega

/-- C13: the automatically chosen symbol is the smallest possible: every explicit request that names a symbol
    with strictly smaller side length is rejected. -/
theorem autoLayers_minimal {bits : List Bool} {ecc : Int} {lay : Layout}
    (he : 11 ≤ ecc)
    (h : autoLayers bits ecc (bits.length + ecc) 34 0 0 [] = .ok lay) :
    ∀ req : Int, req ≠ 0 → -4 ≤ req → req ≤ 32 →
      Spec.Aztec.symbolSize (decide (req < 0)) req.natAbs < Spec.Aztec.symbolSize lay.compact lay.layers →
      explicitLayers bits ecc req = .error .rejected := by
  obtain ⟨k, hk, rfl, _, hnf⟩ := autoLayers_core h
  intro req h0 h1 h2 hsz
  rw [explicitLayers_char bits ecc req h1 h2, if_neg]
  change Spec.Aztec.symbolSize _ _ < Spec.Aztec.symbolSize (candC k) (candL k) at hsz
  by_cases hc : req < 0
  · -- a compact request: it is an earlier candidate
    have hd : decide (req < 0) = true := by simp [hc]
    rw [hd] at hsz ⊢
    rw [symbolSize_compact] at hsz
    have hj : req.natAbs - 1 < k := by
      by_cases hk3 : k ≤ 3
      · rw [(cand_lo hk3).1, (cand_lo hk3).2, symbolSize_compact] at hsz; omega
      · omega
    have := hnf _ hj
    rw [(cand_lo (by omega : req.natAbs - 1 ≤ 3)).1, (cand_lo (by omega : req.natAbs - 1 ≤ 3)).2] at this
    have e : req.natAbs - 1 + 1 = req.natAbs := by omega
    rw [e] at this
    exact this
  · -- a full-range request
    have hd : decide (req < 0) = false := by simp [hc]
    rw [hd] at hsz ⊢
    rw [symbolSize_full] at hsz
    have hj : req.natAbs < k := by
      by_cases hk3 : k ≤ 3
      · rw [(cand_lo hk3).1, (cand_lo hk3).2, symbolSize_compact] at hsz; omega
      · rw [(cand_hi (by omega : 4 ≤ k)).1, (cand_hi (by omega : 4 ≤ k)).2, symbolSize_full] at hsz; omega
    have hL : 1 ≤ req.natAbs := by omega
    generalize req.natAbs = L at hj hsz hL ⊢
    by_cases hL4 : 4 ≤ L
    · have := hnf L hj
      rw [(cand_hi hL4).1, (cand_hi hL4).2] at this
      exact this
    · have := hnf L hj
      rw [(cand_lo (by omega : L ≤ 3)).1, (cand_lo (by omega : L ≤ 3)).2] at this
      exact not_fits_full_small he hL (by omega) this

/-! ### D. C12: the check words -/

/-- certificate (32 full-range and 4 compact shapes, by `decide`): the total number of codewords of a shape is at
    most `2^w - 1`, the Reed–Solomon block length of its field -/
theorem wordCount_table :
    (∀ L ≤ 32, 1 ≤ L → totalBitsInLayer L false / word_size L ≤ 2 ^ word_size L - 1) ∧
    (∀ L ≤ 4, 1 ≤ L → totalBitsInLayer L true / word_size L ≤ 2 ^ word_size L - 1) := by
  decide

theorem wordCount_le {c : Bool} {L : Nat} (h : Shape c L) :
    totalBitsInLayer L c / word_size L ≤ 2 ^ word_size L - 1 := by
  cases c
  · exact wordCount_table.1 L h.2 h.1
  · exact wordCount_table.2 L h.2 h.1

/-- certificate: a full-range symbol never holds more than 2048 codewords (the range of the mode message) -/
theorem fullWordCount_table : ∀ L ≤ 32, totalBitsInLayer L false / word_size L ≤ 2048 := by decide

theorem _root_.BV.Proofs.AztecBits.LayoutOK.wordSize_facts {bits : List Bool} {ecc : Int} {lay : Layout}
    (ok : LayoutOK bits ecc lay) :
    lay.wordSize ∈ [6, 8, 10, 12] ∧ lay.stuffedBits.length % lay.wordSize = 0 := by
  have hw := word_size_mem ok.shape
  rw [← ok.ws] at hw
  refine ⟨hw, ?_⟩
  rw [ok.stuffed]
  apply stuffBits_length_mod
  simp only [List.mem_cons, List.not_mem_nil, or_false] at hw
  omega

/-- the codeword size of an accepted layout is the one the reference decoder derives from the number of layers -/
theorem _root_.BV.Proofs.AztecBits.LayoutOK.wordSizeOf {bits : List Bool} {ecc : Int} {lay : Layout}
    (ok : LayoutOK bits ecc lay) : Spec.Aztec.wordSizeOf lay.layers = lay.wordSize := by
  rw [ok.ws, word_size_eq _ (shape_le32 ok.shape).2 (shape_le32 ok.shape).1]

/-- an accepted layout with at least one check word has 1 … 64 (compact) or 1 … 2048 (full range) data words: the
    range of the mode message -/
theorem _root_.BV.Proofs.AztecBits.LayoutOK.dataWords_range {bits : List Bool} {ecc : Int} {lay : Layout}
    (ok : LayoutOK bits ecc lay)
    (hk : 1 ≤ lay.totalBitsInLayer / lay.wordSize - lay.stuffedBits.length / lay.wordSize) :
    1 ≤ lay.stuffedBits.length / lay.wordSize ∧
      lay.stuffedBits.length / lay.wordSize ≤ (if lay.compact then 64 else 2048) := by
  have hw := ok.wordSize_facts.1
  simp only [List.mem_cons, List.not_mem_nil, or_false] at hw
  refine ⟨by rw [ok.stuffed]; exact stuffBits_wordCount_pos bits _ (by omega), ?_⟩
  cases hc : lay.compact with
  | true => exact Nat.div_le_of_le_mul (ok.cap hc)
  | false =>
    have h1 : lay.totalBitsInLayer / lay.wordSize ≤ 2048 := by
      rw [ok.total, ok.ws, hc]; exact fullWordCount_table _ (shape_le32 ok.shape).2
    show _ ≤ 2048
    omega

/-- `s` bits in whole `w`-bit words and `x / 100 + 11` check bits fit into the usable bits of `T`: the `T / w - s / w`
    check words are at least one and carry at least `x / 100` bits -/
theorem check_arith (T s w : Nat) (x : Int) (hx : 0 ≤ x) (hm : s % w = 0)
    (hfits : (s : Int) + (x / 100 + 11) ≤ ((T - T % w : Nat) : Int)) :
    ((T / w - s / w : Nat) : Int) * w * 100 ≥ x ∧ 1 ≤ T / w - s / w ∧ s / w + (T / w - s / w) = T / w := by
  have e1 : T - T % w = w * (T / w) := by have := Nat.div_add_mod T w; omega
  have e2 : s = w * (s / w) := by have := Nat.div_add_mod s w; omega
  rw [e1] at hfits
  generalize T / w = b at *
  generalize s / w = a at *
  have hlt : a < b := Nat.lt_of_mul_lt_mul_left (a := w) (by omega)
  have hp : ((b - a : Nat) : Int) * w = ((w * b : Nat) : Int) - ((w * a : Nat) : Int) := by
    rw [← Int.natCast_sub (Nat.mul_le_mul_left w (Nat.le_of_lt hlt)), ← Nat.mul_sub, Int.natCast_mul, Int.mul_comm]
  rw [hp]
  -- the products are atoms from here on
  generalize w * b = B at *
  generalize w * a = A at *
  omega

/-- C12: for an accepted layout with `bits.length * pct / 100 + 11` requested check bits (`pct ≥ 0`), the number
    of check words `T / w - s / w` is at least 1, carries at least `pct` percent of the high-level bits, and data
    plus check words do not exceed the block length `2^w - 1` -/
theorem _root_.BV.Proofs.AztecBits.LayoutOK.checkWords {bits : List Bool} {pct : Int} {lay : Layout}
    (ok : LayoutOK bits (Int.tdiv ((bits.length : Int) * pct) 100 + 11) lay) (hpct : 0 ≤ pct) :
    let checkWords := lay.totalBitsInLayer / lay.wordSize - lay.stuffedBits.length / lay.wordSize
    ((checkWords : Int) * lay.wordSize * 100 ≥ pct * bits.length) ∧ 1 ≤ checkWords ∧
      lay.stuffedBits.length / lay.wordSize + checkWords ≤ 2 ^ lay.wordSize - 1 := by
  have hcert : lay.totalBitsInLayer / lay.wordSize ≤ 2 ^ lay.wordSize - 1 := by
    rw [ok.total, ok.ws]; exact wordCount_le ok.shape
  have hx : 0 ≤ (bits.length : Int) * pct := Int.mul_nonneg (by omega) hpct
  have hfits := ok.fits
  rw [Int.tdiv_eq_ediv_of_nonneg hx] at hfits
  obtain ⟨h1, h2, h3⟩ := check_arith _ _ _ _ hx ok.wordSize_facts.2 hfits
  exact ⟨by rw [Int.mul_comm pct]; exact h1, h2, by rw [h3]; exact hcert⟩

/-! ### examples: the hypotheses are satisfiable -/

/-- 20 high-level bits, 15 check bits: the automatic choice is compact with 1 layer -/
example : (autoLayers (List.replicate 20 false) 15 ((20 : Nat) + 15) 34 0 0 []).toOption.map
    (fun l => (l.compact, l.layers)) = some (true, 1) := by decide +kernel

/-- 450 high-level bits: 65 stuffed 8-bit words exceed the 64 words of compact 4, the choice is full-range 4 -/
example : (autoLayers (List.replicate 450 false) 15 ((450 : Nat) + 15) 34 0 0 []).toOption.map
    (fun l => (l.compact, l.layers)) = some (false, 4) := by decide +kernel

/-- an explicit request that is honoured, one that does not fit, one out of range -/
example : explicitLayers (List.replicate 20 false) 15 (-2) = .ok (layoutOf (List.replicate 20 false) true 2) := by
  rw [explicitLayers_char _ _ _ (by decide) (by decide)]
  exact if_pos (by decide +kernel)
example : explicitLayers (List.replicate 450 false) 15 3 = .error .rejected := by
  rw [explicitLayers_char _ _ _ (by decide) (by decide)]
  exact if_neg (by decide +kernel)
example : explicitLayers (List.replicate 20 false) 15 33 = .error .rejected :=
  explicitLayers_reject_range _ _ _ (by decide)

end BV.Proofs.AztecLayers
