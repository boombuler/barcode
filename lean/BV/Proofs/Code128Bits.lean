/-
  BV.Proofs.Code128Bits — table facts and the module-level round trip for Code 128.
-/
import BV.Proofs.Bars
import BV.Proofs.Code128
namespace BV.Proofs.Code128
open BV BV.Model.Code128 BV.Gen.Code128 BV.Spec.OneD BV.Proofs.Bars

/-! ### the tables -/

theorem table_expand : v_encodingTable = c128Table.map (expand true) := by
  unfold c128Table c128Widths
  rw [digitsOfString_splitOn, String.toList_ofList]
  decide +kernel

/-- certificate: the 106 start/data entries of the reference width table are pairwise distinct and consist of six
    positive widths, eleven modules in all; the last entry is the stop pattern -/
theorem cert_widths : c128Table.length = 107 ∧ OneD.distinct ((c128Table.take 106).map rowKey) 0 = true ∧
    (∀ ws ∈ c128Table.take 106, ws.length = 6 ∧ ws.sum = 11 ∧ ∀ w ∈ ws, 0 < w) ∧
    c128Table.getD 106 [] = [2, 3, 3, 1, 1, 1, 2] := by
  unfold c128Table c128Widths
  rw [digitsOfString_splitOn, String.toList_ofList]
  decide +kernel

theorem table_length : c128Table.length = 107 := cert_widths.1

theorem rows_nodup : (c128Table.take 106).Nodup := OneD.nodup_of_keys rowKey cert_widths.2.1

theorem stop_widths : c128Table.getD 106 [] = [2, 3, 3, 1, 1, 1, 2] := cert_widths.2.2.2

theorem pattern_eq_expand (v : Nat) : pattern v = expand true (c128Table.getD v []) := by
  unfold pattern
  rw [table_expand]
  simp only [List.getD_eq_getElem?_getD, List.getElem?_map]
  cases c128Table[v]? <;> rfl

/-- the width entry of a start or data symbol, which is also its entry in the part of the table that is searched -/
structure Row (i : Nat) : Prop where
  lt : i < (c128Table.take 106).length
  getD_take : (c128Table.take 106).getD i [] = c128Table.getD i []
  length : (c128Table.getD i []).length = 6
  sum : (c128Table.getD i []).sum = 11
  pos : ∀ w ∈ c128Table.getD i [], 0 < w

theorem row {i : Nat} (h : i < 106) : Row i := by
  have hi : i < (c128Table.take 106).length := by rw [List.length_take, table_length]; omega
  have he : (c128Table.take 106).getD i [] = c128Table.getD i [] := by
    simp [List.getD_eq_getElem?_getD, h]
  obtain ⟨h6, h11, hpos⟩ := cert_widths.2.2.1 _ (OneD.getD_mem hi [])
  rw [he] at h6 h11 hpos
  exact ⟨hi, he, h6, h11, hpos⟩

theorem pattern_length {i : Nat} (h : i < 106) : (pattern i).length = 11 := by
  rw [pattern_eq_expand, length_expand, (row h).sum]

theorem pattern_stop : (pattern c_stopSymbol).length = 13 ∧
    widthsFromBar (runLengths (pattern c_stopSymbol)) = some [2, 3, 3, 1, 1, 1, 2] := by
  rw [show c_stopSymbol = 106 from rfl, pattern_eq_expand, stop_widths]
  decide

/-- decoding of one 11-module group, as in `c128Decode` -/
def c128Group (grp : List Bool) : Except String Nat :=
  match widthsFromBar (runLengths grp) with
  | some ws =>
    if ws.length ≠ 6 then throw "symbol is not 3 bars + 3 spaces"
    else match (c128Table.take 106).findIdx? (· == ws) with
      | some i => pure i
      | none => throw "unknown symbol pattern"
  | none => throw "symbol does not start with a bar"

/-- The pattern of a symbol value is the drawing of its width entry; the entries are positive, so the widths are read
    back, and pairwise distinct, so the search finds the value. -/
theorem c128Group_pattern {i : Nat} (h : i < 106) : c128Group (pattern i) = .ok i := by
  unfold c128Group
  rw [pattern_eq_expand, widths_expand _ (row h).pos]
  simp only [(row h).length, ne_eq, not_true_eq_false, if_false]
  rw [← (row h).getD_take, OneD.findIdx?_getD rows_nodup (row h).lt]
  rfl

/-! ### check character -/

theorem checksum_go_eq (l : List Nat) : ∀ (i sum : Nat), 1 ≤ i →
    checksum.go l i sum = c128CheckValue.go l i sum := by
  induction l with
  | nil => intro i sum _; rfl
  | cons x rest ih =>
    intro i sum hi
    rw [checksum.go, c128CheckValue.go]
    have : (i == 0) = false := by simp; omega
    rw [this]
    exact ih (i + 1) _ (by omega)

theorem checksum_eq (start : Nat) (data : List Nat) : checksum (start :: data) = c128CheckValue start data := by
  unfold checksum c128CheckValue
  rw [checksum.go]
  simp only [beq_self_eq_true, if_true]
  rw [checksum_go_eq data (0 + 1) start (by omega)]

theorem checksum_lt (idxs : List Nat) : checksum idxs < 103 := by
  unfold checksum; exact Nat.mod_lt _ (by omega)


/-! ### module-level round trip -/

/-- the module row of a symbol sequence followed by the stop pattern -/
def symbolBits (syms : List Nat) : List Bool := syms.flatMap pattern ++ pattern c_stopSymbol

/-- the reference decoder reads the symbol values back from the module row (start, data and optional check values
    followed by the stop pattern, `11 n + 13` modules) and then validates start, check character and code sets -/
theorem decode_symbols (wc : Bool) (start : Nat) (data : List Nat) (rs : List Nat)
    (hs : IsStart start) (hd : ∀ v ∈ data, v < 103)
    (hint : c128Interpret (setOf start) data = some rs) (syms : List Nat)
    (hsy : syms = start :: data ++ (if wc then [c128CheckValue start data] else [])) :
    (symbolBits syms).length = 11 * syms.length + 13 ∧
    c128Decode wc (symbolBits syms) =
      .ok { runes := rs, symbols := syms, check := if wc then some (c128CheckValue start data) else none } := by
  have hgrp : ∀ v ∈ syms, (pattern v).length = 11 ∧ c128Group (pattern v) = .ok v := by
    intro v hv
    have hck := checksum_lt (start :: data)
    rw [checksum_eq] at hck
    have hlt : v < 106 := by
      rw [hsy, List.cons_append, List.mem_cons, List.mem_append] at hv
      rcases hv with rfl | hv | hv
      · exact hs.lt
      · exact Nat.lt_trans (hd v hv) (by omega)
      · cases wc
        · cases hv
        · rw [if_pos rfl, List.mem_singleton] at hv; omega
    exact ⟨pattern_length hlt, c128Group_pattern hlt⟩
  have hbits : symbolBits syms = (syms.map pattern).flatten ++ pattern c_stopSymbol := by
    rw [symbolBits, List.flatMap_def]
  have hflat : (syms.map pattern).flatten.length = 11 * syms.length := by
    rw [OneD.flatten_length_const 11 _ (List.forall_mem_map.2 fun v hv => (hgrp v hv).1), List.length_map]
  have hlen : (symbolBits syms).length = 11 * syms.length + 13 := by
    rw [hbits, List.length_append, hflat, pattern_stop.1]
  have hn : 1 ≤ syms.length := by rw [hsy]; simp
  have hcut : (symbolBits syms).length - 13 = (syms.map pattern).flatten.length := by omega
  refine ⟨hlen, ?_⟩
  unfold c128Decode
  simp only [bind, Except.bind, pure, Except.pure, throw, throwThe, MonadExceptOf.throw]
  rw [if_neg (by omega), if_neg (by rw [hlen]; simp), hcut, hbits, List.drop_left' rfl, List.take_left' rfl,
    if_neg (by rw [pattern_stop.2]; simp)]
  generalize hf : List.mapM (m := Except String) (α := List Bool) (β := Nat) _ (splitEvery 11 _) = m
  have hm : m = .ok syms := by
    have := OneD.mapM_splitEvery 11 (by omega) c128Group pattern id syms hgrp
    rw [List.map_id] at this
    rw [← hf]; exact this
  subst hm hsy
  simp only [List.cons_append]
  -- What is left is the decoder's reading of the symbol values `start :: data ++ check`.  Its `match` on the start
  -- value computes `setOf start` but does not reduce on a variable, hence the three cases; the check symbol, if asked
  -- for, is split off again and compared with `c128CheckValue start data`, which it is; the data are read by `hint`.
  cases wc with
  | false =>
    simp only [Bool.false_eq_true, if_false, List.append_nil]
    rcases hs with rfl | rfl | rfl <;> simp [setOf] at hint <;> simp [hint]
  | true =>
    simp only [if_true]
    rcases hs with rfl | rfl | rfl <;> simp [setOf] at hint <;> simp [hint]


/-! ### the encoders -/

theorem encode_eq (content : Bytes) (start : Nat) (data : List Nat) (h1 : 1 ≤ (runeList content).length)
    (h80 : (runeList content).length ≤ 80) (hidx : getCodeIndexList (runeList content) = some (start :: data)) :
    encode content = .ok (mk1D (Model.kindStr Gen.Root.c_TypeCode128) content
      (symbolBits (start :: data ++ [c128CheckValue start data])) (some (c128CheckValue start data : Nat)) scheme16) ∧
    encodeWithoutChecksum content = .ok (mk1D (Model.kindStr Gen.Root.c_TypeCode128) content
      (symbolBits (start :: data)) none scheme16) := by
  unfold encode encodeWithColor encodeWithoutChecksum encodeWithoutChecksumWithColor strToRunes
  simp only
  rw [if_neg (by omega), if_neg (by omega), hidx, ← checksum_eq]
  simp [symbolBits]

theorem encode_reject (content : Bytes)
    (h : ¬ (1 ≤ (runeList content).length ∧ (runeList content).length ≤ 80 ∧ ∀ r ∈ runeList content, InAlpha r)) :
    encode content = .error .rejected ∧ encodeWithoutChecksum content = .error .rejected := by
  unfold encode encodeWithColor encodeWithoutChecksum encodeWithoutChecksumWithColor strToRunes
  simp only
  by_cases hl : (runeList content).length ≤ 0 ∨ (runeList content).length > 80
  · rw [if_pos hl, if_pos hl]; exact ⟨rfl, rfl⟩
  · rw [if_neg hl, if_neg hl, symbols_reject _ (fun ha => h ⟨by omega, by omega, ha⟩)]
    exact ⟨rfl, rfl⟩

theorem symbolBits_eq_expand (syms : List Nat) :
    symbolBits syms = (syms.map (fun v => expand true (c128Table.getD v []))).flatten ++
      expand true (c128Table.getD 106 []) := by
  unfold symbolBits
  rw [List.flatMap_def, pattern_eq_expand]
  congr 2
  apply List.map_congr_left
  intro v _
  exact pattern_eq_expand v

end BV.Proofs.Code128
