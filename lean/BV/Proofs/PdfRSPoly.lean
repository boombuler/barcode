/-
  BV.Proofs.PdfRSPoly — coefficient lists as polynomials over ZMod 929, so that the division identity of PdfRS
  can be read in (ZMod 929)[X]: `gPoly level` is monic of degree 2^(level+1), a list of `n` coefficients has
  degree below `n` (what Mathlib's `Polynomial.modByMonic` asks of a remainder).
-/
import BV.Proofs.PdfRS
import Mathlib.Algebra.Polynomial.Div
namespace BV.Proofs.PdfRS
open Polynomial BV.Model.Pdf417

instance : Fact (1 < 929) := ⟨by decide⟩

/-- a coefficient list (highest degree first) as a polynomial over GF(929) -/
noncomputable def toPoly (w : List Nat) : F[X] := evalZ w (X : F[X])

/-- the monic polynomial whose low coefficients are the factor table of `level` -/
noncomputable def gPoly (level : Nat) : F[X] := gEval (factorsOf level) (X : F[X])

theorem degree_toPoly_lt (w : List Nat) : (toPoly w).degree < (w.length : WithBot ℕ) := by
  induction w with
  | nil => simp [toPoly, evalZ_nil]
  | cons c cs ih =>
    unfold toPoly at ih ⊢
    rw [evalZ_cons]
    have h1 : ((c : F[X]) * X ^ cs.length).degree ≤ (cs.length : WithBot ℕ) := by
      calc ((c : F[X]) * X ^ cs.length).degree ≤ (c : F[X]).degree + (X ^ cs.length : F[X]).degree :=
            degree_mul_le _ _
        _ ≤ 0 + (cs.length : WithBot ℕ) := add_le_add (degree_natCast_le c) (degree_X_pow_le _)
        _ = (cs.length : WithBot ℕ) := zero_add _
    have hlt : (cs.length : WithBot ℕ) < ((c :: cs).length : WithBot ℕ) := by
      rw [List.length_cons]; exact_mod_cast Nat.lt_succ_self _
    exact lt_of_le_of_lt (degree_add_le _ _) (max_lt (lt_of_le_of_lt h1 hlt) (lt_trans ih hlt))

theorem gPoly_eq (level : Nat) :
    gPoly level = X ^ (factorsOf level).length + toPoly (factorsOf level).reverse := by
  rw [gPoly, gEval, toPoly, evalZ_reverse]

theorem gPoly_monic (level : Nat) : (gPoly level).Monic := by
  rw [gPoly_eq]
  apply monic_X_pow_add
  have := degree_toPoly_lt (factorsOf level).reverse
  rwa [List.length_reverse] at this

theorem gPoly_degree (level : Nat) (h : level ≤ 8) : (gPoly level).degree = ((2 ^ (level + 1) : ℕ) : WithBot ℕ) := by
  have := degree_toPoly_lt (factorsOf level).reverse
  rw [List.length_reverse] at this
  rw [gPoly_eq, degree_add_eq_left_of_degree_lt (by rwa [degree_X_pow]), degree_X_pow,
    factorsOf_length level h]

end BV.Proofs.PdfRS
