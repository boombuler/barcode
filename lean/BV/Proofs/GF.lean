/-
  Proofs for C17, part 1: the tables built by `NewGaloisField` and the field laws of `Multiply`, `Divide`,
  `Invers`.  The antilog table lists the iterates `pw i` of the doubling-and-reducing map `step`; the log table holds
  for every value the last index at which it occurs.  Once `pw` is known to be primitive (`Prim`, established for the
  six fields by evaluating `cert`), `mul (pw i) (pw j) = pw (i + j)` gives the field laws (`Laws`), and the
  XOR-linearity of `step` the agreement with the specification's shift-and-reduce multiplication.
-/
import BV.Model.GF
import BV.Spec.RS
import BV.Proofs.ListLemmas
namespace BV.Proofs.GF
open BV BV.Model.GF

/-! ### the doubling map and its iterates -/

/-- one round of the first loop of `NewGaloisField` -/
def step (pp n x : Nat) : Nat :=
  if x * 2 ≥ n then ((x * 2) ^^^ pp) &&& (n - 1) else x * 2

/-- `step^[k] x` -/
def iter (pp n : Nat) : Nat → Nat → Nat
  | 0, x => x
  | k + 1, x => iter pp n k (step pp n x)

/-- `α^i` -/
def pw (pp n i : Nat) : Nat := iter pp n i 1

theorem pw_zero (pp n : Nat) : pw pp n 0 = 1 := rfl

theorem iter_add (pp n : Nat) : ∀ (i j x : Nat), iter pp n (i + j) x = iter pp n i (iter pp n j x)
  | i, 0, x => rfl
  | i, j + 1, x => by
    show iter pp n (i + j) (step pp n x) = iter pp n i (iter pp n j (step pp n x))
    exact iter_add pp n i j _

theorem pw_succ (pp n k : Nat) : pw pp n (k + 1) = step pp n (pw pp n k) :=
  Nat.add_comm 1 k ▸ iter_add pp n 1 k 1

theorem iter_pw (pp n i j : Nat) : iter pp n i (pw pp n j) = pw pp n (i + j) := (iter_add pp n i j 1).symm

theorem step_zero (pp n : Nat) (hn : 0 < n) : step pp n 0 = 0 := by
  unfold step
  rw [if_neg (by omega)]

theorem iter_zero (pp n : Nat) (hn : 0 < n) : ∀ k, iter pp n k 0 = 0
  | 0 => rfl
  | k + 1 => by
    show iter pp n k (step pp n 0) = 0
    rw [step_zero pp n hn]; exact iter_zero pp n hn k

/-! ### the antilog list -/

theorem alogList_succ (pp n k x : Nat) : alogList pp n (k + 1) x = x :: alogList pp n k (step pp n x) := rfl

theorem alogList_eq_map (pp n : Nat) : ∀ k x, alogList pp n k x = (List.range k).map (fun i => iter pp n i x)
  | 0, _ => rfl
  | k + 1, x => by
    rw [alogList_succ, alogList_eq_map pp n k, List.range_succ_eq_map, List.map_cons, List.map_map]; rfl

theorem alogList_length (pp n k x : Nat) : (alogList pp n k x).length = k := by
  rw [alogList_eq_map, List.length_map, List.length_range]

theorem alogList_getElem? (pp n k x i : Nat) (h : i < k) : (alogList pp n k x)[i]? = some (iter pp n i x) := by
  rw [alogList_eq_map, List.getElem?_map, List.getElem?_range h]; rfl

theorem mem_alogList (pp n k x v : Nat) : v ∈ alogList pp n k x ↔ ∃ i, i < k ∧ iter pp n i x = v := by
  rw [alogList_eq_map, List.mem_map]
  exact exists_congr fun i => and_congr_left' List.mem_range

/-! ### the log table: last write wins -/

/-- the second loop of `NewGaloisField`, run for the first `k` indices -/
def logTbl (g : Nat → Nat) (size k : Nat) : Array Nat :=
  (List.range k).foldl (fun (t : Array Nat) i => t.setIfInBounds (g i) i) (Array.replicate size 0)

theorem logTbl_succ (g : Nat → Nat) (size k : Nat) :
    logTbl g size (k + 1) = (logTbl g size k).setIfInBounds (g k) k := by
  unfold logTbl
  rw [List.range_succ, List.foldl_append]
  rfl

theorem logTbl_size (g : Nat → Nat) (size : Nat) : ∀ k, (logTbl g size k).size = size
  | 0 => by simp [logTbl]
  | k + 1 => by rw [logTbl_succ, Array.size_setIfInBounds, logTbl_size g size k]

theorem logTbl_none (g : Nat → Nat) (size a : Nat) :
    ∀ k, (∀ j, j < k → g j ≠ a) → (logTbl g size k).getD a 0 = 0
  | 0, _ => by
    simp only [logTbl, List.range_zero, List.foldl_nil, Array.getD_eq_getD_getElem?, Array.getElem?_replicate]
    split <;> rfl
  | k + 1, h => by
    rw [logTbl_succ, getD_setIfInBounds, if_neg (fun c => h k (by omega) c.1)]
    exact logTbl_none g size a k (fun j hj => h j (by omega))

theorem logTbl_last (g : Nat → Nat) (size a i : Nat) (ha : a < size) (hg : g i = a) :
    ∀ k, i < k → (∀ j, i < j → j < k → g j ≠ a) → (logTbl g size k).getD a 0 = i
  | 0, h, _ => by omega
  | k + 1, hik, h => by
    rw [logTbl_succ, getD_setIfInBounds]
    by_cases hki : i = k
    · subst hki
      rw [if_pos ⟨hg, by rw [logTbl_size]; exact hg ▸ ha⟩]
    · rw [if_neg (fun c => h k (by omega) (by omega) c.1)]
      exact logTbl_last g size a i ha hg k (by omega) (fun j h1 h2 => h j h1 (by omega))

/-! ### the tables of `newField` -/

theorem newField_size (pp n b : Nat) : (newField pp n b).size = n := rfl
theorem newField_base (pp n b : Nat) : (newField pp n b).base = b := rfl

theorem newField_alog_size (pp n b : Nat) : (newField pp n b).alog.size = n := by
  show (alogList pp n n 1).toArray.size = n
  rw [List.size_toArray, alogList_length]

theorem newField_alog (pp n b i : Nat) (h : i < n) : (newField pp n b).alog.getD i 0 = pw pp n i := by
  show (alogList pp n n 1).toArray.getD i 0 = _
  rw [Array.getD_eq_getD_getElem?, List.getElem?_toArray, alogList_getElem? pp n n 1 i h]; rfl

theorem newField_log_eq (pp n b : Nat) : (newField pp n b).log = logTbl (pw pp n) n n := by
  show (List.range n).foldl _ _ = (List.range n).foldl _ _
  apply foldl_congr_mem
  intro t i hi
  rw [List.getD_eq_getElem?_getD, alogList_getElem? pp n n 1 i (List.mem_range.mp hi)]
  rfl

/-! ### primitivity certificate -/

/-- `α` is primitive: its powers `α^0 … α^(n-2)` are exactly the non-zero elements, and `α^(n-1) = 1` -/
structure Prim (pp n : Nat) : Prop where
  two_le : 2 ≤ n
  inj : ∀ i j, i < n - 1 → j < n - 1 → pw pp n i = pw pp n j → i = j
  range : ∀ i, i < n - 1 → 0 < pw pp n i ∧ pw pp n i < n
  surj : ∀ a, 0 < a → a < n → ∃ i, i < n - 1 ∧ pw pp n i = a
  cyc : pw pp n (n - 1) = 1

/-- the certificate, linear in `n`: the first `n - 1` entries of the antilog table are distinct and set exactly the
    bits `1 … n-1` of a mask, and entry `n - 1` is 1 -/
def cert (pp n : Nat) : Bool :=
  maskOf (alogList pp n (n - 1) 1) 0 == some ((2 ^ (n - 1) - 1) <<< 1) && (alogList pp n n 1)[n - 1]? == some 1 &&
    decide (2 ≤ n)

theorem cert_sound (pp n : Nat) (h : cert pp n = true) : Prim pp n := by
  simp only [cert, Bool.and_eq_true, beq_iff_eq, decide_eq_true_eq] at h
  obtain ⟨⟨hm, hcyc⟩, h2⟩ := h
  obtain ⟨hnd, _, hmask⟩ := maskOf_sound _ 0 _ hm
  have hmem : ∀ v, (∃ i, i < n - 1 ∧ pw pp n i = v) ↔ 0 < v ∧ v < n := by
    intro v
    have := hmask v
    rw [Nat.testBit_shiftLeft, Nat.testBit_two_pow_sub_one, Nat.zero_testBit, mem_alogList] at this
    simp only [Bool.and_eq_true, decide_eq_true_eq, Bool.false_eq_true, false_or] at this
    exact this.symm.trans (by omega)
  rw [alogList_getElem? pp n n 1 (n - 1) (by omega)] at hcyc
  refine ⟨h2, fun i j hi hj he => ?_, fun i hi => (hmem _).mp ⟨i, hi, rfl⟩, fun a h0 ha => (hmem a).mpr ⟨h0, ha⟩,
    Option.some.inj hcyc⟩
  refine (List.getElem?_inj (by rw [alogList_length]; exact hi) hnd).mp ?_
  rw [alogList_getElem? pp n _ 1 i hi, alogList_getElem? pp n _ 1 j hj]
  exact congrArg some he

/-! ### `Multiply` and `Divide` on any tables -/

theorem mul_zero_left (f : Field) (y : Nat) : f.mul 0 y = 0 := by
  unfold Field.mul; rw [if_pos (Or.inl rfl)]

theorem mul_zero_right (f : Field) (x : Nat) : f.mul x 0 = 0 := by
  unfold Field.mul; rw [if_pos (Or.inr rfl)]

theorem mul_comm (f : Field) (x y : Nat) : f.mul x y = f.mul y x := by
  unfold Field.mul
  by_cases hx : x = 0 <;> by_cases hy : y = 0 <;> simp [hx, hy, Nat.add_comm]

theorem div_zero (f : Field) (x : Nat) : f.div x 0 = none := by
  unfold Field.div; rw [if_pos rfl]

/-! ### consequences of primitivity: exponent arithmetic -/

section prim
variable {pp n : Nat} (P : Prim pp n)
include P

theorem pw_add_period (i : Nat) : pw pp n (i + (n - 1)) = pw pp n i := by
  rw [← iter_pw, P.cyc]; rfl

theorem pw_add_mul_period (i : Nat) : ∀ k, pw pp n (i + (n - 1) * k) = pw pp n i
  | 0 => rfl
  | k + 1 => by
    rw [Nat.mul_succ, ← Nat.add_assoc, pw_add_period P, pw_add_mul_period i k]

theorem pw_mod (i : Nat) : pw pp n (i % (n - 1)) = pw pp n i := by
  have h := pw_add_mul_period P (i % (n - 1)) (i / (n - 1))
  rw [Nat.mod_add_div] at h
  exact h.symm

theorem period_pos : 0 < n - 1 := by have := P.two_le; omega

theorem pw_pos (i : Nat) : 0 < pw pp n i := by
  rw [← pw_mod P]; exact (P.range _ (Nat.mod_lt _ (period_pos P))).1

theorem pw_lt (i : Nat) : pw pp n i < n := by
  rw [← pw_mod P]; exact (P.range _ (Nat.mod_lt _ (period_pos P))).2

theorem pw_inj_mod (i j : Nat) (h : pw pp n i = pw pp n j) : i % (n - 1) = j % (n - 1) := by
  rw [← pw_mod P i, ← pw_mod P j] at h
  exact P.inj _ _ (Nat.mod_lt _ (period_pos P)) (Nat.mod_lt _ (period_pos P)) h

/-- the log table inverts the antilog table on the exponents `1 … n-1` (last write wins: the entry for
    `1 = α^0 = α^(n-1)` is `n-1`) -/
theorem log_pw (b i : Nat) (h1 : 1 ≤ i) (hi : i ≤ n - 1) : (newField pp n b).log.getD (pw pp n i) 0 = i := by
  rw [newField_log_eq]
  refine logTbl_last (pw pp n) n _ i (pw_lt P i) rfl n (by omega) (fun j hij hj he => ?_)
  by_cases hjn : j < n - 1
  · have := P.inj i j (by omega) hjn he.symm; omega
  · rw [show j = n - 1 by omega, P.cyc] at he
    have := P.inj i 0 (by omega) (by omega) he.symm; omega

theorem log_spec (b a : Nat) (h0 : 0 < a) (hn : a < n) :
    1 ≤ (newField pp n b).log.getD a 0 ∧ (newField pp n b).log.getD a 0 ≤ n - 1 ∧
      pw pp n ((newField pp n b).log.getD a 0) = a := by
  obtain ⟨i, hi, rfl⟩ := P.surj a h0 hn
  have hp := period_pos P
  rcases Nat.eq_zero_or_pos i with rfl | h1
  · rw [show pw pp n 0 = pw pp n (n - 1) from P.cyc.symm, log_pw P b (n - 1) hp (Nat.le_refl _)]
    exact ⟨hp, Nat.le_refl _, rfl⟩
  · rw [log_pw P b i h1 (by omega)]
    exact ⟨h1, by omega, rfl⟩

theorem log_zero (b : Nat) : (newField pp n b).log.getD 0 0 = 0 := by
  rw [newField_log_eq]
  apply logTbl_none
  intro j _ h
  have := pw_pos P j
  omega

theorem log_pw_mod (b i : Nat) : ((newField pp n b).log.getD (pw pp n i) 0) % (n - 1) = i % (n - 1) :=
  pw_inj_mod P _ _ (log_spec P b _ (pw_pos P i) (pw_lt P i)).2.2

/-! ### `Multiply`, `Invers`, `Divide` in terms of exponents -/

theorem alog_mod (b e : Nat) : (newField pp n b).alog.getD (e % (n - 1)) 0 = pw pp n e := by
  have := Nat.mod_lt e (period_pos P)
  rw [newField_alog _ _ _ _ (by omega), pw_mod P]

theorem mul_pw (b i j : Nat) : (newField pp n b).mul (pw pp n i) (pw pp n j) = pw pp n (i + j) := by
  have hi := pw_pos P i
  have hj := pw_pos P j
  unfold Field.mul
  rw [if_neg (by omega), newField_size, alog_mod P, ← pw_mod P, Nat.add_mod, log_pw_mod P, log_pw_mod P, ← Nat.add_mod,
    pw_mod P]

theorem inv_pw (b a : Nat) :
    (newField pp n b).inv a = pw pp n (n - 1 - (newField pp n b).log.getD a 0) := by
  unfold Field.inv
  rw [newField_size, newField_alog _ _ _ _ (by have := period_pos P; omega)]

theorem div_pw (b x y : Nat) (hx : 0 < x) (hy : 0 < y) :
    (newField pp n b).div x y =
      some (pw pp n ((newField pp n b).log.getD x 0 + (n - 1) - (newField pp n b).log.getD y 0)) := by
  unfold Field.div
  rw [if_neg (by omega), if_neg (by omega), newField_size, alog_mod P]

/-! ### the field laws -/

theorem mul_lt (b x y : Nat) (hx : x < n) (hy : y < n) : (newField pp n b).mul x y < n := by
  rcases Nat.eq_zero_or_pos x with rfl | hx0
  · rw [mul_zero_left]; omega
  rcases Nat.eq_zero_or_pos y with rfl | hy0
  · rw [mul_zero_right]; omega
  obtain ⟨i, _, rfl⟩ := P.surj x hx0 hx
  obtain ⟨j, _, rfl⟩ := P.surj y hy0 hy
  rw [mul_pw P]; exact pw_lt P _

theorem mul_pos (b x y : Nat) (hx0 : 0 < x) (hx : x < n) (hy0 : 0 < y) (hy : y < n) :
    0 < (newField pp n b).mul x y := by
  obtain ⟨i, _, rfl⟩ := P.surj x hx0 hx
  obtain ⟨j, _, rfl⟩ := P.surj y hy0 hy
  rw [mul_pw P]; exact pw_pos P _

theorem mul_assoc (b x y z : Nat) (hx : x < n) (hy : y < n) (hz : z < n) :
    (newField pp n b).mul ((newField pp n b).mul x y) z = (newField pp n b).mul x ((newField pp n b).mul y z) := by
  rcases Nat.eq_zero_or_pos x with rfl | hx0
  · rw [mul_zero_left, mul_zero_left, mul_zero_left]
  rcases Nat.eq_zero_or_pos y with rfl | hy0
  · rw [mul_zero_right, mul_zero_left, mul_zero_right]
  rcases Nat.eq_zero_or_pos z with rfl | hz0
  · rw [mul_zero_right, mul_zero_right, mul_zero_right]
  obtain ⟨i, _, rfl⟩ := P.surj x hx0 hx
  obtain ⟨j, _, rfl⟩ := P.surj y hy0 hy
  obtain ⟨k, _, rfl⟩ := P.surj z hz0 hz
  rw [mul_pw P, mul_pw P, mul_pw P, mul_pw P, Nat.add_assoc]

theorem mul_one (b x : Nat) (hx : x < n) : (newField pp n b).mul x 1 = x := by
  rcases Nat.eq_zero_or_pos x with rfl | hx0
  · rw [mul_zero_left]
  obtain ⟨i, _, rfl⟩ := P.surj x hx0 hx
  exact mul_pw P b i 0

theorem mul_inv (b x : Nat) (hx0 : 0 < x) (hx : x < n) :
    (newField pp n b).mul x ((newField pp n b).inv x) = 1 ∧ (newField pp n b).inv x < n ∧
      0 < (newField pp n b).inv x := by
  obtain ⟨h1, h2, h3⟩ := log_spec P b x hx0 hx
  rw [inv_pw P b x]
  refine ⟨?_, pw_lt P _, pw_pos P _⟩
  conv => lhs; arg 2; rw [← h3]
  rw [mul_pw P]
  have : (newField pp n b).log.getD x 0 + (n - 1 - (newField pp n b).log.getD x 0) = n - 1 := by omega
  rw [this]; exact P.cyc

theorem mul_right_cancel (b x z y : Nat) (hx : x < n) (hz : z < n) (hy0 : 0 < y) (hy : y < n)
    (h : (newField pp n b).mul x y = (newField pp n b).mul z y) : x = z := by
  obtain ⟨h1, h2, _⟩ := mul_inv P b y hy0 hy
  have := congrArg (fun t => (newField pp n b).mul t ((newField pp n b).inv y)) h
  rw [mul_assoc P b x y _ hx hy h2, mul_assoc P b z y _ hz hy h2, h1, mul_one P b x hx, mul_one P b z hz] at this
  exact this

theorem index_in_range (b x y : Nat) (hx : x < n) (hy : y < n) :
    let f := newField pp n b
    f.log.size = n ∧ f.alog.size = n ∧ f.size = n ∧
    (f.log.getD x 0 + f.log.getD y 0) % (f.size - 1) < f.alog.size ∧
    f.log.getD y 0 ≤ f.log.getD x 0 + (f.size - 1) ∧
    (f.log.getD x 0 + (f.size - 1) - f.log.getD y 0) % (f.size - 1) < f.alog.size ∧
    f.log.getD x 0 ≤ f.size - 1 ∧ (f.size - 1) - f.log.getD x 0 < f.alog.size := by
  intro f
  have hp := period_pos P
  have hlog : ∀ a, a < n → f.log.getD a 0 ≤ n - 1 := by
    intro a ha
    rcases Nat.eq_zero_or_pos a with rfl | h0
    · rw [log_zero P]; omega
    · exact (log_spec P b a h0 ha).2.1
  have hm : ∀ e, e % (n - 1) < n := fun e => by have := Nat.mod_lt e hp; omega
  refine ⟨by rw [newField_log_eq, logTbl_size], newField_alog_size _ _ _, rfl, ?_, ?_, ?_, ?_, ?_⟩
  · rw [newField_alog_size]; exact hm _
  · have := hlog y hy; show _ ≤ _ + (n - 1); omega
  · rw [newField_alog_size]; exact hm _
  · exact hlog x hx
  · rw [newField_alog_size]; show n - 1 - _ < n; omega

theorem div_spec (b x y : Nat) (hx : x < n) (hy0 : 0 < y) (hy : y < n) :
    ∃ q, (newField pp n b).div x y = some q ∧ q < n ∧ (newField pp n b).mul q y = x := by
  rcases Nat.eq_zero_or_pos x with rfl | hx0
  · refine ⟨0, ?_, by omega, mul_zero_left _ _⟩
    unfold Field.div
    rw [if_neg (by omega), if_pos rfl]
  obtain ⟨a1, a2, a3⟩ := log_spec P b x hx0 hx
  obtain ⟨b1, b2, b3⟩ := log_spec P b y hy0 hy
  refine ⟨_, div_pw P b x y hx0 hy0, pw_lt P _, ?_⟩
  conv => lhs; arg 3; rw [← b3]
  rw [mul_pw P]
  conv => rhs; rw [← a3, ← pw_add_period P]
  congr 1
  omega

theorem div_mul_cancel (b x y : Nat) (hx : x < n) (hy0 : 0 < y) (hy : y < n) :
    (newField pp n b).div ((newField pp n b).mul x y) y = some x := by
  obtain ⟨q, h1, h2, h3⟩ := div_spec P b _ y (mul_lt P b x y hx hy) hy0 hy
  rw [h1, mul_right_cancel P b q x y h2 hx hy0 hy h3]

end prim

/-! ### XOR-linearity of `step` for `n = 2^m` (ring structure) -/

theorem xor_xor_xor_comm (a b c d : Nat) : (a ^^^ b) ^^^ (c ^^^ d) = (a ^^^ c) ^^^ (b ^^^ d) := by
  rw [Nat.xor_assoc, Nat.xor_assoc, ← Nat.xor_assoc b c d, Nat.xor_comm b c, Nat.xor_assoc c b d]

theorem eq_of_xor_eq_zero (a b : Nat) (h : a ^^^ b = 0) : a = b := by
  have : a ^^^ (a ^^^ b) = b := by rw [← Nat.xor_assoc, Nat.xor_self, Nat.zero_xor]
  rw [h, Nat.xor_zero] at this
  exact this

theorem step_lt (pp n x : Nat) (hn : 0 < n) : step pp n x < n := by
  unfold step
  split
  · have : (x * 2 ^^^ pp) &&& (n - 1) ≤ n - 1 := Nat.and_le_right
    omega
  · omega

theorem iter_lt (pp n : Nat) (hn : 0 < n) : ∀ k x, x < n → iter pp n k x < n
  | 0, _, h => h
  | k + 1, x, _ => iter_lt pp n hn k _ (step_lt pp n x hn)

theorem mul_two_ge_iff (m a : Nat) (hm : 0 < m) (ha : a < 2 ^ m) :
    a * 2 ≥ 2 ^ m ↔ a.testBit (m - 1) = true := by
  obtain ⟨k, rfl⟩ : ∃ k, m = k + 1 := ⟨m - 1, by omega⟩
  simp only [Nat.add_sub_cancel]
  have h2 : 2 ^ (k + 1) = 2 * 2 ^ k := by rw [Nat.pow_succ]; omega
  constructor
  · intro h
    exact Nat.testBit_of_two_pow_le_and_two_pow_add_one_gt (by omega) ha
  · intro h
    have := Nat.ge_two_pow_of_testBit h
    omega

/-- `step` on `[0, 2^m)`: shift, add the reduction polynomial if a bit falls out at the top, drop that bit -/
theorem step_eq (pp m a : Nat) (hm : 0 < m) (ha : a < 2 ^ m) :
    step pp (2 ^ m) a = (a * 2 ^^^ (if a.testBit (m - 1) then pp else 0)) % 2 ^ m := by
  unfold step
  by_cases h : a * 2 ≥ 2 ^ m
  · rw [if_pos h, if_pos ((mul_two_ge_iff m a hm ha).mp h), Nat.and_two_pow_sub_one_eq_mod]
  · rw [if_neg h, if_neg (mt (mul_two_ge_iff m a hm ha).mpr h), Nat.xor_zero, Nat.mod_eq_of_lt (Nat.lt_of_not_le h)]

theorem step_xor (pp m a c : Nat) (hm : 0 < m) (ha : a < 2 ^ m) (hc : c < 2 ^ m) :
    step pp (2 ^ m) (a ^^^ c) = step pp (2 ^ m) a ^^^ step pp (2 ^ m) c := by
  have hpp : ∀ x y : Bool, (if (x ^^ y) = true then pp else 0) = (if x then pp else 0) ^^^ (if y then pp else 0) := by
    intro x y; cases x <;> cases y <;> simp
  have hshl : ∀ x, x * 2 = x <<< 1 := fun x => by rw [Nat.shiftLeft_eq, Nat.pow_one]
  rw [step_eq pp m _ hm (Nat.xor_lt_two_pow ha hc), step_eq pp m a hm ha, step_eq pp m c hm hc, ← Nat.xor_mod_two_pow,
    Nat.testBit_xor, hpp, hshl, hshl, hshl, Nat.shiftLeft_xor_distrib, xor_xor_xor_comm]

theorem iter_xor (pp m : Nat) (hm : 0 < m) : ∀ k a c, a < 2 ^ m → c < 2 ^ m →
    iter pp (2 ^ m) k (a ^^^ c) = iter pp (2 ^ m) k a ^^^ iter pp (2 ^ m) k c
  | 0, _, _, _, _ => rfl
  | k + 1, a, c, ha, hc => by
    have hp : 0 < 2 ^ m := Nat.two_pow_pos m
    show iter pp (2 ^ m) k (step pp (2 ^ m) (a ^^^ c)) = _
    rw [step_xor pp m a c hm ha hc]
    exact iter_xor pp m hm k _ _ (step_lt _ _ _ hp) (step_lt _ _ _ hp)

theorem Prim.exp_pos {pp m : Nat} (P : Prim pp (2 ^ m)) : 0 < m := by
  rcases Nat.eq_zero_or_pos m with rfl | h
  · exact absurd P.two_le (by decide)
  · exact h

section ring
variable {pp m : Nat} (P : Prim pp (2 ^ m))
include P

theorem mul_pw_right (b x k : Nat) (hx : x < 2 ^ m) :
    (newField pp (2 ^ m) b).mul x (pw pp (2 ^ m) k) = iter pp (2 ^ m) k x := by
  rcases Nat.eq_zero_or_pos x with rfl | hx0
  · rw [mul_zero_left, iter_zero _ _ (by omega)]
  · obtain ⟨i, _, rfl⟩ := P.surj x hx0 hx
    rw [mul_pw P, iter_pw, Nat.add_comm]

theorem mul_xor_left (b x z y : Nat) (hx : x < 2 ^ m) (hz : z < 2 ^ m) (hy : y < 2 ^ m) :
    (newField pp (2 ^ m) b).mul (x ^^^ z) y =
      (newField pp (2 ^ m) b).mul x y ^^^ (newField pp (2 ^ m) b).mul z y := by
  rcases Nat.eq_zero_or_pos y with rfl | hy0
  · rw [mul_zero_right, mul_zero_right, mul_zero_right]; rfl
  · obtain ⟨k, _, rfl⟩ := P.surj y hy0 hy
    rw [mul_pw_right P b _ k (Nat.xor_lt_two_pow hx hz), mul_pw_right P b _ k hx,
      mul_pw_right P b _ k hz, iter_xor pp m P.exp_pos k x z hx hz]

end ring

/-! ### the field laws, abstracted from the tables -/

/-- the field laws for the elements `[0, n)` of `f` -/
structure Laws (f : Field) (n : Nat) : Prop where
  two_le : 2 ≤ n
  mul_lt : ∀ x y, x < n → y < n → f.mul x y < n
  mul_assoc : ∀ x y z, x < n → y < n → z < n → f.mul (f.mul x y) z = f.mul x (f.mul y z)
  mul_one : ∀ x, x < n → f.mul x 1 = x
  mul_pos : ∀ x y, 0 < x → x < n → 0 < y → y < n → 0 < f.mul x y
  mul_xor_left : ∀ x z y, x < n → z < n → y < n → f.mul (x ^^^ z) y = f.mul x y ^^^ f.mul z y
  xor_lt : ∀ x y, x < n → y < n → x ^^^ y < n
  inv : ∀ x, 0 < x → x < n → f.mul x (f.inv x) = 1 ∧ f.inv x < n ∧ 0 < f.inv x

namespace Laws
variable {f : Field} {n : Nat} (L : Laws f n)
include L

theorem pos : 0 < n := by have := L.two_le; omega

theorem one_mul (x : Nat) (hx : x < n) : f.mul 1 x = x := by rw [mul_comm]; exact L.mul_one x hx

theorem mul_xor_right (x y z : Nat) (hx : x < n) (hy : y < n) (hz : z < n) :
    f.mul x (y ^^^ z) = f.mul x y ^^^ f.mul x z := by
  rw [mul_comm, L.mul_xor_left y z x hy hz hx, mul_comm f y, mul_comm f z]

theorem mul_left_comm (x y z : Nat) (hx : x < n) (hy : y < n) (hz : z < n) :
    f.mul x (f.mul y z) = f.mul y (f.mul x z) := by
  rw [← L.mul_assoc x y z hx hy hz, mul_comm f x y, L.mul_assoc y x z hy hx hz]

theorem mul_mul_mul_comm (a b c d : Nat) (ha : a < n) (hb : b < n) (hc : c < n) (hd : d < n) :
    f.mul (f.mul a b) (f.mul c d) = f.mul (f.mul a c) (f.mul b d) := by
  rw [L.mul_assoc a b _ ha hb (L.mul_lt _ _ hc hd), L.mul_left_comm b c d hb hc hd,
    ← L.mul_assoc a c _ ha hc (L.mul_lt _ _ hb hd)]

theorem mul_eq_zero (a b : Nat) (ha : a < n) (hb : b < n) (h : f.mul a b = 0) : a = 0 ∨ b = 0 := by
  rcases Nat.eq_zero_or_pos a with h0 | h0
  · exact Or.inl h0
  rcases Nat.eq_zero_or_pos b with h1 | h1
  · exact Or.inr h1
  have := L.mul_pos a b h0 ha h1 hb
  omega

end Laws

theorem laws_of_prim {pp m : Nat} (P : Prim pp (2 ^ m)) (b : Nat) :
    Laws (newField pp (2 ^ m) b) (2 ^ m) where
  two_le := P.two_le
  mul_lt := mul_lt P b
  mul_assoc := mul_assoc P b
  mul_one := mul_one P b
  mul_pos := fun x y hx0 hx hy0 hy => mul_pos P b x y hx0 hx hy0 hy
  mul_xor_left := mul_xor_left P b
  xor_lt := fun _ _ hx hy => Nat.xor_lt_two_pow hx hy
  inv := mul_inv P b

/-! ### agreement with the specification's shift-and-reduce multiplication -/

theorem mod_two_pow_succ (b k : Nat) :
    b % 2 ^ (k + 1) = (b % 2 ^ k) ^^^ (if b.testBit k then 2 ^ k else 0) := by
  apply Nat.eq_of_testBit_eq
  intro i
  rw [Nat.testBit_xor, Nat.testBit_mod_two_pow, Nat.testBit_mod_two_pow]
  by_cases hik : i = k
  · subst hik
    cases h : b.testBit i <;> simp
  · have : (if b.testBit k then 2 ^ k else 0).testBit i = false := by
      split
      · rw [Nat.testBit_two_pow, decide_eq_false (Ne.symm hik)]
      · exact Nat.zero_testBit i
    rw [this, Bool.xor_false, show decide (i < k + 1) = decide (i < k) by simp only [decide_eq_decide]; omega]

/-- when `pp` has its top bit at position `m` the mask in `step` is redundant: `step` is the specification's
    multiplication by x -/
theorem spec_mulx (pp m a : Nat) (ha : a < 2 ^ m) (hpp : 2 ^ m ≤ pp) (hpp2 : pp < 2 * 2 ^ m) :
    (Spec.RS.BinField.mk pp (2 ^ m)).mulx a = step pp (2 ^ m) a := by
  show (if a * 2 ≥ 2 ^ m then a * 2 ^^^ pp else a * 2) = _
  unfold step
  split
  · rename_i h
    -- both operands have bit `m` set and nothing above, so the sum has nothing at or above `m`
    have h2 : 2 ^ (m + 1) = 2 * 2 ^ m := by rw [Nat.pow_succ]; omega
    rw [Nat.and_two_pow_sub_one_eq_mod]
    refine (Nat.mod_eq_of_lt (Nat.lt_of_not_le fun hge => ?_)).symm
    have := Nat.testBit_of_two_pow_le_and_two_pow_add_one_gt hge (Nat.xor_lt_two_pow (by omega) (by omega))
    rw [Nat.testBit_xor, Nat.testBit_of_two_pow_le_and_two_pow_add_one_gt h (by omega),
      Nat.testBit_of_two_pow_le_and_two_pow_add_one_gt hpp (by omega)] at this
    exact Bool.noConfusion this
  · rfl

theorem pw_eq_two_pow (pp m : Nat) : ∀ k, k < m → pw pp (2 ^ m) k = 2 ^ k
  | 0, _ => rfl
  | k + 1, h => by
    rw [pw_succ, pw_eq_two_pow pp m k (by omega)]
    unfold step
    have : 2 ^ k * 2 < 2 ^ m := by
      rw [← Nat.pow_succ]; exact Nat.pow_lt_pow_right (by omega) h
    rw [if_neg (by omega), Nat.pow_succ]

section spec
variable {pp m : Nat} (P : Prim pp (2 ^ m)) (hpp : 2 ^ m ≤ pp) (hpp2 : pp < 2 * 2 ^ m)
include P hpp hpp2

theorem spec_mulAux (b a y : Nat) (ha : a < 2 ^ m) : ∀ k acc, k ≤ m → acc < 2 ^ m →
    (Spec.RS.BinField.mk pp (2 ^ m)).mulAux a y k acc =
      iter pp (2 ^ m) k acc ^^^ (newField pp (2 ^ m) b).mul a (y % 2 ^ k)
  | 0, acc, _, _ => by
    show acc = acc ^^^ (newField pp (2 ^ m) b).mul a (y % 2 ^ 0)
    rw [Nat.pow_zero, Nat.mod_one, mul_zero_right, Nat.xor_zero]
  | k + 1, acc, hk, hacc => by
    have hp : 0 < 2 ^ m := Nat.two_pow_pos m
    have hs : step pp (2 ^ m) acc < 2 ^ m := step_lt _ _ _ hp
    have hyk : y % 2 ^ k < 2 ^ m :=
      Nat.lt_of_lt_of_le (Nat.mod_lt _ (Nat.two_pow_pos k)) (Nat.pow_le_pow_right (by omega) (by omega))
    have h2k : 2 ^ k < 2 ^ m := Nat.pow_lt_pow_right (by omega) (by omega)
    show (Spec.RS.BinField.mk pp (2 ^ m)).mulAux a y k
        (if y.testBit k = true then (Spec.RS.BinField.mk pp (2 ^ m)).mulx acc ^^^ a
          else (Spec.RS.BinField.mk pp (2 ^ m)).mulx acc) = _
    rw [spec_mulx pp m acc hacc hpp hpp2, mod_two_pow_succ]
    by_cases hb : y.testBit k = true
    · rw [if_pos hb, if_pos hb, spec_mulAux b a y ha k _ (by omega) (Nat.xor_lt_two_pow hs ha),
        iter_xor pp m P.exp_pos k _ _ hs ha, (laws_of_prim P b).mul_xor_right a _ _ ha hyk h2k,
        ← pw_eq_two_pow pp m k (by omega), mul_pw_right P b a k ha]
      show iter pp (2 ^ m) k (step pp (2 ^ m) acc) ^^^ iter pp (2 ^ m) k a ^^^ _ =
        iter pp (2 ^ m) k (step pp (2 ^ m) acc) ^^^ _
      rw [Nat.xor_assoc, Nat.xor_comm (iter pp (2 ^ m) k a)]
    · rw [if_neg hb, if_neg hb, Nat.xor_zero, spec_mulAux b a y ha k _ (by omega) hs]
      rfl

/-- the model's table-driven multiplication is the specification's shift-and-reduce multiplication -/
theorem mul_eq_spec (b x y : Nat) (hx : x < 2 ^ m) (hy : y < 2 ^ m) :
    (newField pp (2 ^ m) b).mul x y = (Spec.RS.BinField.mk pp (2 ^ m)).mul x y := by
  show _ = (Spec.RS.BinField.mk pp (2 ^ m)).mulAux x y (Nat.log2 (2 ^ m)) 0
  rw [Nat.log2_two_pow, spec_mulAux P hpp hpp2 b x y hx m 0 (Nat.le_refl _) (Nat.two_pow_pos m),
    iter_zero _ _ (Nat.two_pow_pos m), Nat.zero_xor, Nat.mod_eq_of_lt hy]

end spec

/-! ### the same, packaged for a field given by `FieldOK` -/

/-- what the construction needs to know about a field: size `2^m` with `1 < m` (so that `α = x = 2` is an
    element), reduction polynomial of degree `m`, `α` primitive -/
structure FieldOK (pp n : Nat) : Prop where
  pow2 : ∃ m, 1 < m ∧ n = 2 ^ m
  pp_ge : n ≤ pp
  pp_lt : pp < 2 * n
  prim : Prim pp n

theorem laws_of_ok {pp n : Nat} (h : FieldOK pp n) (b : Nat) : Laws (newField pp n b) n := by
  obtain ⟨⟨m, _, rfl⟩, _, _, P⟩ := h
  exact laws_of_prim P b

theorem ok_mul_eq_spec {pp n : Nat} (h : FieldOK pp n) (b x y : Nat) (hx : x < n) (hy : y < n) :
    (newField pp n b).mul x y = (Spec.RS.BinField.mk pp n).mul x y := by
  obtain ⟨⟨m, _, rfl⟩, h1, h2, P⟩ := h
  exact mul_eq_spec P h1 h2 b x y hx hy

theorem ok_two {pp n : Nat} (h : FieldOK pp n) : pw pp n 1 = 2 ∧ 2 < n := by
  obtain ⟨⟨m, hm, rfl⟩, _, _, _⟩ := h
  refine ⟨pw_eq_two_pow pp m 1 hm, ?_⟩
  have : 2 ^ 1 < 2 ^ m := Nat.pow_lt_pow_right (by omega) hm
  omega

theorem ok_spec_pow {pp n : Nat} (h : FieldOK pp n) : ∀ i, (Spec.RS.BinField.mk pp n).pow 2 i = pw pp n i
  | 0 => rfl
  | i + 1 => by
    show (Spec.RS.BinField.mk pp n).mul ((Spec.RS.BinField.mk pp n).pow 2 i) 2 = _
    rw [ok_spec_pow h i, ← ok_mul_eq_spec h 0 _ _ (pw_lt h.prim i) (ok_two h).2]
    conv => lhs; arg 3; rw [← (ok_two h).1]
    rw [mul_pw h.prim]

theorem ok_alog_eq_spec_pow {pp n : Nat} (h : FieldOK pp n) (b i : Nat) (hi : i < n) :
    (newField pp n b).alog.getD i 0 = (Spec.RS.BinField.mk pp n).pow 2 i := by
  rw [newField_alog _ _ _ _ hi, ok_spec_pow h]

/-! ### the six fields of the library -/

/-- `(pp, size, base)` of every `NewGaloisField` call in the library -/
def fields : List (Nat × Nat × Nat) :=
  [(19, 16, 1), (67, 64, 1), (285, 256, 0), (301, 256, 1), (1033, 1024, 1), (4201, 4096, 1)]

/-- everything `FieldOK` asks for, as one decidable check (the exponent is `log2` of the size) -/
def okCheck (t : Nat × Nat × Nat) : Bool :=
  decide (1 < t.2.1.log2) && t.2.1 == 2 ^ t.2.1.log2 && decide (t.2.1 ≤ t.1) && decide (t.1 < 2 * t.2.1) &&
    cert t.1 t.2.1

theorem okCheck_sound (t : Nat × Nat × Nat) (h : okCheck t = true) : FieldOK t.1 t.2.1 := by
  simp only [okCheck, Bool.and_eq_true, decide_eq_true_eq, beq_iff_eq] at h
  obtain ⟨⟨⟨⟨h1, h2⟩, h3⟩, h4⟩, h5⟩ := h
  exact ⟨⟨_, h1, h2⟩, h3, h4, cert_sound _ _ h5⟩

/-- `cert` is evaluated by the kernel for each of the six fields -/
theorem fields_ok : ∀ t ∈ fields, FieldOK t.1 t.2.1 := fun t ht =>
  okCheck_sound t (List.all_eq_true.mp (by decide +kernel : fields.all okCheck = true) t ht)

theorem fields_base : ∀ t ∈ fields, t.2.2 ≤ 1 := by decide

end BV.Proofs.GF
