/-
  RenderAztec — C11 for Aztec: the colour scheme only ever sits in the `color` field of the symbol
  (the drawing steps are a list of `setIf` operations, `BV.Proofs.AztecOps`, and every `setIf` commutes with
  recolouring), drawing keeps side and content, and the side is the one the chosen layout prescribes.
-/
import BV.Proofs.Render
import BV.Proofs.AztecLayers
namespace BV.Proofs.RenderAztec
open BV BV.Model BV.Model.Aztec BV.Gen.Aztec BV.Proofs.Render

/-! ### recolouring commutes with drawing -/

/-- the same symbol with another colour scheme -/
def recolor (s : Scheme) (c : AztecCode) : AztecCode := { c with color := s }

theorem set_recolor (s : Scheme) (c : AztecCode) (x y : Nat) : (recolor s c).set x y = recolor s (c.set x y) := rfl

theorem setIf_recolor (s : Scheme) (c : AztecCode) (b : Bool) (x y : Nat) :
    (recolor s c).setIf b x y = recolor s (c.setIf b x y) := by
  cases b
  · rfl
  · exact set_recolor s c x y

open BV.Proofs.AztecGeom

theorem applyOps_recolor (s : Scheme) (D Mo : Array Bool) (ops : List Op) (c : AztecCode) :
    applyOps D Mo ops (recolor s c) = recolor s (applyOps D Mo ops c) := by
  induction ops generalizing c with
  | nil => rfl
  | cons o os ih => rw [applyOps_cons, applyOps_cons, setIf_recolor, ih]

/-! ### the scheme reaches the result only through the `color` field -/

/-- the layer selection of `EncodeWithColor` (first lines of the function, verbatim) -/
def chooseLayout (data : Bytes) (minECCPercent userSpecifiedLayers : Int) : Res Layout :=
  let bits := highlevelEncode data
  let eccBits : Int := Int.tdiv ((bits.length : Int) * minECCPercent) 100 + 11
  let totalSizeBits : Int := bits.length + eccBits
  if userSpecifiedLayers != Int.ofNat c_DEFAULT_LAYERS then explicitLayers bits eccBits userSpecifiedLayers
  else autoLayers bits eccBits totalSizeBits (c_max_nb_bits + 2) 0 0 []

open BV.Proofs.AztecBits BV.Proofs.AztecLayers

theorem render_recolor (s s0 : Scheme) (compact : Bool) (layers : Nat) (mb mm : List Bool) (data : Bytes) :
    render compact layers mb mm data s = recolor s (render compact layers mb mm data s0) := by
  rw [render_draw, render_draw, ← applyOps_recolor]
  rfl

theorem aztec_map (data : Bytes) (e u : Int) (s : Scheme) :
    encodeWithColor data e u s = (encode data e u).map (Barcode.recolor s) := by
  unfold encode
  rw [encodeWithColor_eq, encodeWithColor_eq]
  show (chooseLayout data e u >>= _) = Except.map _ (chooseLayout data e u >>= _)
  cases chooseLayout data e u with
  | error err => rfl
  | ok lay =>
    simp only [bind, Except.bind]
    cases generateCheckWords lay.stuffedBits lay.totalBitsInLayer lay.wordSize with
    | error err => rfl
    | ok mb =>
      simp only []
      cases generateModeMessage lay.compact lay.layers (lay.stuffedBits.length / lay.wordSize) with
      | error err => rfl
      | ok mm =>
        simp only [pure, Except.pure, Except.map]
        rw [render_recolor s scheme16]
        rfl

/-! ### shape of an accepted symbol -/

def LegalLayout (lay : Layout) : Prop :=
  1 ≤ lay.layers ∧ (if lay.compact then lay.layers ≤ 4 else lay.layers ≤ 32)

theorem chooseLayout_legal (data : Bytes) (e u : Int) (lay : Layout) (h : chooseLayout data e u = .ok lay) :
    LegalLayout lay := by
  have hs : Shape lay.compact lay.layers := by
    unfold chooseLayout at h
    simp only [] at h
    split at h
    · rename_i hu
      exact (explicitLayers_ok h (by simpa [c_DEFAULT_LAYERS] using hu)).2.2.2.shape
    · exact (autoLayers_ok h).1.shape
  refine ⟨hs.1, ?_⟩
  have h2 := hs.2
  generalize lay.compact = c at h2 ⊢
  cases c <;> exact h2

/-- side of the symbol for a layout: 11+4L compact, 15+4L+2·⌊(2L+6)/15⌋ full range -/
def sideOf (lay : Layout) : Nat :=
  if lay.compact then 11 + 4 * lay.layers else 15 + 4 * lay.layers + 2 * ((2 * lay.layers + 6) / 15)

theorem symbolSize_sideOf (lay : Layout) : Spec.Aztec.symbolSize lay.compact lay.layers = sideOf lay := by
  unfold sideOf
  cases lay.compact
  · exact symbolSize_full _
  · exact symbolSize_compact _

/-- Shape of an accepted Aztec symbol. -/
theorem aztec_ok (data : Bytes) (e u : Int) (s : Scheme) (b : Barcode) (h : encodeWithColor data e u s = .ok b) :
    b.kind = "Aztec" ∧ b.dims = 2 ∧ b.content = data ∧ b.checksum = none ∧ b.scheme = s ∧
    ∃ lay, chooseLayout data e u = .ok lay ∧ LegalLayout lay ∧ b.w = sideOf lay ∧ b.h = sideOf lay := by
  obtain ⟨lay, mb, mm, hl, _, _, rfl⟩ := encodeWithColor_ok h
  obtain ⟨_, k2, k3⟩ := render_fields lay.compact lay.layers mb mm data s
  have hw := (render_size lay.compact lay.layers mb mm data s).trans (symbolSize_sideOf lay)
  exact ⟨kind_aztec, rfl, k2, rfl, k3, lay, hl, chooseLayout_legal _ _ _ _ hl, hw, hw⟩

end BV.Proofs.RenderAztec
