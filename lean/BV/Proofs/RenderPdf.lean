/-
  RenderPdf — C11 for PDF417: colour scheme independence, metadata, and the bounds
  `17·(cols+4)+1` × `2·rows`.
-/
import BV.Proofs.Render
import BV.Proofs.PdfRender
namespace BV.Proofs.RenderPdf
open BV BV.Model BV.Model.Pdf417 BV.Gen.Pdf417 BV.Proofs.Render
open BV.Proofs.PdfRS BV.Proofs.PdfAccept BV.Proofs.PdfRender

theorem mkBarcode_recolor (d : Bytes) (w : Nat) (code : Array Bool) (s s0 : Scheme) :
    mkBarcode d w code s = (mkBarcode d w code s0).recolor s := rfl

theorem pdf_map (data : Bytes) (lvl : Nat) (s : Scheme) :
    encodeWithColor data lvl s = (encode data lvl).map (Barcode.recolor s) := by
  unfold encode encodeWithColor
  split
  · rfl
  · cases highlevelEncode data with
    | error e => rfl
    | ok dw =>
      simp only [bind, Except.bind, pure, Except.pure]
      split
      · rfl
      · cases encodeData dw _ lvl with
        | error e => rfl
        | ok cw =>
          simp only []
          split <;> rfl

theorem pdf_ok (data : Bytes) (lvl : Nat) (s : Scheme) (b : Barcode) (h : encodeWithColor data lvl s = .ok b) :
    b.kind = "PDF417" ∧ b.dims = 2 ∧ b.content = data ∧ b.checksum = none ∧ b.scheme = s ∧
    ∃ dw, highlevelEncode data = .ok dw ∧
      ∃ cols rows, calcDimensions dw.length (errorCorrectionWordCount lvl) = (cols, rows) ∧
        2 ≤ cols ∧ cols ≤ 30 ∧ 2 ≤ rows ∧ rows ≤ 30 ∧ b.w = 17 * (cols + 4) + 1 ∧ b.h = rows * 2 := by
  obtain ⟨hl, cws, hcws, _, _, _, _, cols, rows, hdim, hc1, hc2, hr1, hr2, hrows, rfl⟩ :=
    encodeWithColor_ok data lvl s b h
  have hlen := symbolCodewords_length cws cols lvl hl (by omega)
  rw [← hrows] at hlen
  obtain ⟨hw, hh, _⟩ := symbol_lines data cws cols rows lvl s (by omega) hlen
  rw [eccCount_eq]
  exact ⟨kind_pdf, rfl, rfl, rfl, rfl, cws, hcws, cols, rows, hdim, hc1, hc2, hr1, hr2, hw, by rw [hh, Nat.mul_comm]⟩

end BV.Proofs.RenderPdf
