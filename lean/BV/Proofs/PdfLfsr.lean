/-
  BV.Proofs.PdfLfsr — the Reed–Solomon encoder `Compute` of PDF417 as a function on lists: one round of the
  shift register (`lfsrStep`), the check words (`checkWords`), and that `Compute` never panics and returns
  them.  Nothing algebraic: what the register means is in `BV.Proofs.PdfRS`.  The one Mathlib import is there
  for `checkWords` (and `PdfAccept.dataRegion` downstream): the statements of `BV.Props.PdfA` rest on these two
  with `2 ^ (level + 1)` read as Mathlib's monoid power on `Nat`, as everywhere in `PdfRS`.
-/
import BV.Model.Pdf417
import Mathlib.Algebra.Group.Nat.Defs
namespace BV.Proofs.PdfRS
open BV BV.Model.Pdf417 BV.Gen.Pdf417

/-- the factor table of a level as naturals (lowest degree first, without the leading 1) -/
def factorsOf (level : Nat) : List Nat := (v_correctionFactors.getD level []).map Int.toNat

/-- The inner loop of `Compute` with `i` positions to go, on a register `pre ++ post` of which `pre` is done:
    it never panics (the factor table is long enough) and rewrites `post`: each position receives its right
    neighbour (0 at the end), which the ascending in-place update has not overwritten yet, minus `temp` times
    its factor; the factors are indexed from the other end. -/
theorem computeStep_go_eq (f : List Nat) (count temp : Nat) : ∀ (i : Nat) (pre post : List Nat), post.length = i →
    pre.length + i = count → i ≤ f.length →
    computeStep.go f.toArray count temp i (pre ++ post).toArray = .ok (pre ++ List.zipWith
      (fun a fj => (a + 929 - (temp * fj) % 929) % 929) (post.tail ++ [0]) (f.take i).reverse).toArray := by
  intro i
  induction i with
  | zero =>
    intro pre post hp _ _
    have : post = [] := List.eq_nil_of_length_eq_zero hp
    subst this
    simp [computeStep.go]
  | succ i ih =>
    intro pre post hp hc hf
    obtain ⟨p0, post', rfl⟩ : ∃ p0 post', post = p0 :: post' := by
      cases post with
      | nil => simp at hp
      | cons a b => exact ⟨a, b, rfl⟩
    have hp' : post'.length = i := by simpa using hp
    have hfi : f.toArray[i]? = some f[i] := by simp [List.getElem?_eq_getElem (show i < f.length by omega)]
    have hidx : count - 1 - i = pre.length := by omega
    have hadd : (if i > 0 then (pre ++ p0 :: post').toArray.getD (count - i) 0 else 0) = (post' ++ [0]).headD 0 := by
      have : count - i = pre.length + 1 := by omega
      cases post' with
      | nil => simp at hp'; simp [← hp']
      | cons q r =>
        have : i > 0 := by simp at hp'; omega
        simp [*, List.getElem?_append_right]
    unfold computeStep.go
    simp only [hfi, hadd, hidx]
    have hset : (pre ++ p0 :: post').toArray.setIfInBounds pre.length
        (((post' ++ [0]).headD 0 + 929 - temp * f[i] % 929) % 929) =
        ((pre ++ [((post' ++ [0]).headD 0 + 929 - temp * f[i] % 929) % 929]) ++ post').toArray := by
      simp [List.set_append_right]
    have htake : (f.take (i + 1)).reverse = f[i] :: (f.take i).reverse := by
      rw [List.take_succ_eq_append_getElem (by omega), List.reverse_append]; rfl
    rw [hset, ih _ post' hp' (by simp; omega) (by omega), htake]
    cases post' with
    | nil => simp at hp'; subst hp'; simp
    | cons q r => simp

/-- the register update of `Compute` on lists: shift up by one position, subtract `temp` times the factors
    (the factor list is indexed from the low end, the register from the high end) -/
def lfsrStep (f reg : List Nat) (v : Nat) : List Nat :=
  List.zipWith (fun a fj => (a + 929 - (((v + reg.headD 0) % 929) * fj) % 929) % 929) (reg.tail ++ [0]) f.reverse

theorem lfsrStep_length (f reg : List Nat) (v : Nat) (h : f.length = reg.length) (hpos : 0 < reg.length) :
    (lfsrStep f reg v).length = reg.length := by
  simp [lfsrStep, h]; omega

theorem computeStep_eq (f reg : List Nat) (v : Nat) (h : f.length = reg.length) :
    computeStep f.toArray reg.length reg.toArray v = .ok (lfsrStep f reg v).toArray := by
  have hgo := computeStep_go_eq f reg.length ((v + reg.toArray.getD 0 0) % 929) reg.length [] reg rfl (by simp) (by omega)
  have e : reg.toArray.getD 0 0 = reg.headD 0 := by cases reg <;> simp
  rw [← h, List.take_length] at hgo
  rw [← h, lfsrStep, ← e]
  exact hgo

theorem zipWith_mod_lt (g : Nat → Nat → Nat) : ∀ (A B : List Nat),
    ∀ x ∈ List.zipWith (fun a b => g a b % 929) A B, x < 929
  | [], _, x, hx => by simp at hx
  | _ :: _, [], x, hx => by simp at hx
  | a :: A, b :: B, x, hx => by
    rw [List.zipWith_cons_cons, List.mem_cons] at hx
    rcases hx with rfl | hx
    · exact Nat.mod_lt _ (by omega)
    · exact zipWith_mod_lt g A B x hx

theorem lfsrStep_lt (f reg : List Nat) (v : Nat) : ∀ x ∈ lfsrStep f reg v, x < 929 :=
  zipWith_mod_lt (fun a fj => a + 929 - (((v + reg.headD 0) % 929) * fj) % 929) _ _

theorem foldl_lfsrStep_length (f : List Nat) (data : List Nat) : ∀ (reg : List Nat), f.length = reg.length →
    0 < reg.length → (data.foldl (lfsrStep f) reg).length = reg.length := by
  induction data with
  | nil => intro reg _ _; rfl
  | cons v rest ih =>
    intro reg h hpos
    simp only [List.foldl_cons]
    have hl := lfsrStep_length f reg v h hpos
    rw [ih _ (by omega) (by omega), hl]

theorem foldl_lfsrStep_lt (f : List Nat) (data : List Nat) : ∀ (reg : List Nat), (∀ x ∈ reg, x < 929) →
    ∀ x ∈ data.foldl (lfsrStep f) reg, x < 929 := by
  induction data with
  | nil => intro reg h; exact h
  | cons v rest ih => intro reg _; exact ih _ (lfsrStep_lt f reg v)

/-- certificate: there are nine levels and level k has 2^(k+1) factors -/
theorem factors_length_cert :
    v_correctionFactors.length = 9 ∧ (List.range 9).all (fun k => (factorsOf k).length == 2 ^ (k + 1)) = true := by
  decide +kernel

theorem factorsOf_length (level : Nat) (h : level ≤ 8) : (factorsOf level).length = 2 ^ (level + 1) := by
  have := List.all_eq_true.mp factors_length_cert.2 level (List.mem_range.mpr (by omega))
  simpa using this

theorem eccCount_eq (level : Nat) : errorCorrectionWordCount level = 2 ^ (level + 1) := by
  simp [errorCorrectionWordCount, Nat.shiftLeft_eq]

/-- the outer loop of `Compute` is a fold of `lfsrStep` and never panics -/
theorem compute_go_eq (f : List Nat) (n : Nat) (hf : f.length = n) (hn : 0 < n) :
    ∀ (data reg : List Nat), reg.length = n →
    compute.go f.toArray n data reg.toArray = .ok (data.foldl (lfsrStep f) reg).toArray := by
  intro data
  induction data with
  | nil => intro reg _; rfl
  | cons v rest ih =>
    intro reg hr
    unfold compute.go
    have := computeStep_eq f reg v (by omega)
    rw [hr] at this
    rw [this]
    simp only [List.foldl_cons]
    exact ih _ (by rw [lfsrStep_length f reg v (by omega) (by omega)]; exact hr)

/-- the check words `Compute` returns: the negated final register -/
def checkWords (level : Nat) (data : List Nat) : List Nat :=
  (data.foldl (lfsrStep (factorsOf level)) (List.replicate (2 ^ (level + 1)) 0)).map
    (fun word => if word > 0 then 929 - word else word)

/-- `Compute` for the levels 0..8 never fails and returns `checkWords` -/
theorem compute_eq (level : Nat) (h : level ≤ 8) (data : List Nat) :
    compute level data = .ok (checkWords level data) := by
  have hlen := factors_length_cert.1
  have hget : v_correctionFactors[level]? = some (v_correctionFactors.getD level []) := by
    rw [List.getD_eq_getElem?_getD, List.getElem?_eq_getElem (by omega)]; rfl
  have hpos : 0 < 2 ^ (level + 1) := Nat.pow_pos (by omega)
  unfold compute
  simp only [hget, eccCount_eq]
  have e : Array.replicate (2 ^ (level + 1)) 0 = (List.replicate (2 ^ (level + 1)) 0).toArray := by simp
  have := compute_go_eq (factorsOf level) (2 ^ (level + 1)) (factorsOf_length level h) hpos data
    (List.replicate (2 ^ (level + 1)) 0) (by simp)
  unfold factorsOf at this
  rw [e, this]
  rfl

theorem checkWords_length (level : Nat) (h : level ≤ 8) (data : List Nat) :
    (checkWords level data).length = 2 ^ (level + 1) := by
  have hpos : 0 < 2 ^ (level + 1) := Nat.pow_pos (by omega)
  unfold checkWords
  rw [List.length_map, foldl_lfsrStep_length _ _ _ (by simp [factorsOf_length level h]) (by simpa using hpos)]
  simp

theorem checkWords_lt (level : Nat) (data : List Nat) : ∀ c ∈ checkWords level data, c < 929 := by
  intro c hc
  unfold checkWords at hc
  obtain ⟨w, _, rfl⟩ := List.mem_map.mp hc
  split <;> omega

end BV.Proofs.PdfRS
