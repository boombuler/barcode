/-
  QR matrix layer: the number of data modules of every version.
  * `walk_count` — the number of walk points satisfying a predicate as a double sum over (column pair, row);
  * `fastCount` — a kernel-friendly evaluation of the number of non-function modules on the walk
    (`fastCount_eq`: equal to the count for every `dim`, `version`, `cs`);
  * `dataModuleCount` — for the 40 versions × 4 levels the number of data modules is `8·total + r` with
    `r < 8` (certificate by kernel evaluation of `fastCount`).
-/
import BV.Proofs.QrMatrixDefs
import BV.Proofs.QrBlocks
namespace BV.Proofs.QrMatrix
open BV

/-- `sumTo n f = f 0 + … + f (n-1)`, a recursion on `n` rather than a sum over a list because the kernel
    evaluates it in `countCheck_all` -/
def sumTo : Nat → (Nat → Nat) → Nat
  | 0, _ => 0
  | n + 1, f => sumTo n f + f n

def b2n (b : Bool) : Nat := if b then 1 else 0

theorem sumTo_congr {n : Nat} {f g : Nat → Nat} (h : ∀ i, i < n → f i = g i) : sumTo n f = sumTo n g := by
  induction n with
  | zero => rfl
  | succ n ih =>
    simp only [sumTo]
    rw [ih (fun i hi => h i (by omega)), h n (by omega)]

theorem sumTo_add (n : Nat) (f g : Nat → Nat) : sumTo n f + sumTo n g = sumTo n (fun i => f i + g i) := by
  induction n with
  | zero => rfl
  | succ n ih => simp only [sumTo, ← ih]; omega

theorem sumTo_shift (n : Nat) (f : Nat → Nat) : sumTo (n + 1) f = f 0 + sumTo n (fun i => f (i + 1)) := by
  induction n with
  | zero => simp [sumTo]
  | succ n ih =>
    rw [sumTo, ih]
    simp only [sumTo]
    omega

theorem sumTo_reverse (n : Nat) (f : Nat → Nat) : sumTo n (fun t => f (n - 1 - t)) = sumTo n f := by
  induction n generalizing f with
  | zero => rfl
  | succ n ih =>
    rw [sumTo_shift n f, ← ih (fun i => f (i + 1))]
    simp only [sumTo]
    have e : sumTo n (fun t => f (n + 1 - 1 - t)) = sumTo n (fun t => f (n - 1 - t + 1)) :=
      sumTo_congr (fun i hi => by congr 1; omega)
    rw [e]
    have : n + 1 - 1 - n = 0 := by omega
    rw [this]
    omega

theorem length_filter_flatMap_range {α : Type} (p : α → Bool) (n : Nat) (F : Nat → List α) :
    (((List.range n).flatMap F).filter p).length = sumTo n (fun i => ((F i).filter p).length) := by
  induction n with
  | zero => rfl
  | succ n ih =>
    rw [List.range_succ, List.flatMap_append, List.filter_append, List.length_append, ih]
    simp [sumTo]

/-- the number of walk points satisfying `p`: sum over the column pairs and the rows (in either direction) of
    the two cells of the pair -/
theorem walk_count (dim : Nat) (p : Nat × Nat → Bool) :
    ((walk dim).filter p).length =
      sumTo ((dim - 1) / 2) (fun k => sumTo dim (fun Y =>
        b2n (p (walkCol dim k, Y)) + b2n (p (walkCol dim k - 1, Y)))) := by
  unfold walk
  rw [length_filter_flatMap_range]
  apply sumTo_congr
  intro k _
  rw [length_filter_flatMap_range]
  have e : ∀ t, ([(walkCol dim k, walkRow dim k t), (walkCol dim k - 1, walkRow dim k t)].filter p).length =
      (fun Y => b2n (p (walkCol dim k, Y)) + b2n (p (walkCol dim k - 1, Y))) (walkRow dim k t) := by
    intro t
    simp only [List.filter, b2n]
    cases p (walkCol dim k, walkRow dim k t) <;> cases p (walkCol dim k - 1, walkRow dim k t) <;> rfl
  rw [sumTo_congr (fun t _ => e t)]
  unfold walkRow
  by_cases hk : (k % 2 == 0) = true
  · simp only [hk, if_true]
    exact sumTo_reverse dim (fun Y => b2n (p (walkCol dim k, Y)) + b2n (p (walkCol dim k - 1, Y)))
  · simp only [hk]
    rfl

/-! The count in a form meant for kernel evaluation.  The kernel substitutes unevaluated arguments;
`forceN`/`forceB`/`forceL` are identities (`forceN_eq` …) that evaluate a value to a literal before passing it on. -/

/-- `f n`, with `n` evaluated first -/
def forceN {α : Type} (n : Nat) (f : Nat → α) : α :=
  match n with
  | 0 => f 0
  | k + 1 => f (Nat.succ k)

/-- `f b`, with `b` evaluated first -/
def forceB {α : Type} (b : Bool) (f : Bool → α) : α :=
  match b with
  | true => f true
  | false => f false

/-- `f l`, with the list `l` and its elements evaluated first -/
def forceL {α : Type} (l : List Nat) (f : List Nat → α) : α :=
  match l with
  | [] => f []
  | a :: t => forceN a (fun a => forceL t (fun t => f (a :: t)))

theorem forceN_eq {α : Type} (n : Nat) (f : Nat → α) : forceN n f = f n := by
  cases n <;> rfl

theorem forceB_eq {α : Type} (b : Bool) (f : Bool → α) : forceB b f = f b := by
  cases b <;> rfl

theorem forceL_eq {α : Type} (l : List Nat) (f : List Nat → α) : forceL l f = f l := by
  induction l generalizing f with
  | nil => rfl
  | cons a t ih => simp only [forceL, forceN_eq, ih]

theorem ble_eq_decide (a b : Nat) : Nat.ble a b = decide (a ≤ b) := by
  rw [Bool.eq_iff_iff]; simp

theorem beq_eq_beq (a b : Nat) : Nat.beq a b = (a == b) := by
  rw [Bool.eq_iff_iff]; simp

/-- `inSq` with accelerated comparisons -/
def inSqF (c X : Nat) : Bool := Nat.ble c (X + 2) && Nat.ble X (c + 2)

theorem inSqF_eq (c X : Nat) : inSqF c X = inSq c X := by
  simp only [inSqF, inSq, ble_eq_decide]

/-- the three centre combinations that carry a finder pattern instead of an alignment pattern -/
def exclF (last cx cy : Nat) : Bool :=
  (Nat.beq cx 6 && Nat.beq cy 6) || (Nat.beq cx 6 && Nat.beq cy last) || (Nat.beq cx last && Nat.beq cy 6)

/-- the rows `Y` with `inSq c Y`, as a bit mask -/
def sqMask (c : Nat) : Nat := ((2 ^ (c + 3) - 1) >>> (c - 2)) <<< (c - 2)

theorem testBit_sqMask (c Y : Nat) : (sqMask c).testBit Y = inSq c Y := by
  unfold sqMask inSq
  rw [Nat.testBit_shiftLeft, Nat.testBit_shiftRight, Nat.testBit_two_pow_sub_one, Bool.eq_iff_iff]
  simp only [Bool.and_eq_true, decide_eq_true_eq]
  omega

theorem testBit_foldl_or {α : Type} (g : α → Nat) (i : Nat) (l : List α) (m : Nat) :
    (l.foldl (fun m a => m ||| g a) m).testBit i = (m.testBit i || l.any (fun a => (g a).testBit i)) := by
  induction l generalizing m with
  | nil => simp
  | cons a l ih => rw [List.foldl_cons, ih, List.any_cons, Nat.testBit_or, Bool.or_assoc]

/-- the rows of the alignment squares in a column that meets the squares of the centres `L`, as a bit mask
    (the kernel tests a bit of a literal in one step, membership in a list by walking it) -/
def alignMask (cs : List Nat) (last : Nat) (L : List Nat) : Nat :=
  L.foldl (fun m cx => m ||| cs.foldl (fun m cy => m ||| bif exclF last cx cy then 0 else sqMask cy) 0) 0

/-- the alignment squares column-wise: first the centres whose square meets column `X`, then the rows of their
    squares -/
theorem alignAt_positions (cs : List Nat) (X Y : Nat) :
    alignAt (Spec.Qr.alignmentPositions cs) X Y =
      (alignMask cs (cs.getLastD 0) (cs.filter (fun c => inSqF c X))).testBit Y := by
  have hg : ∀ (b : Bool) (c : Nat), (bif b then 0 else sqMask c).testBit Y = (!b && inSq c Y) := by
    intro b c; cases b <;> simp [testBit_sqMask]
  unfold alignMask
  rw [Bool.eq_iff_iff]
  simp only [testBit_foldl_or, hg, Nat.zero_testBit, Bool.false_or, alignAt, Spec.Qr.alignmentPositions,
    List.any_eq_true, List.mem_filter, List.mem_flatMap, List.mem_map, Bool.and_eq_true, inSqF_eq, exclF, beq_eq_beq]
  constructor
  · rintro ⟨p, ⟨⟨cx, hcx, cy, hcy, rfl⟩, hp⟩, hX, hY⟩
    exact ⟨cx, ⟨hcx, hX⟩, cy, hcy, hp, hY⟩
  · rintro ⟨cx, ⟨hcx, hX⟩, cy, hcy, hp, hY⟩
    exact ⟨(cx, cy), ⟨⟨cx, hcx, cy, hcy, rfl⟩, hp⟩, hX, hY⟩

/-- `isFn` of the cell (X, Y), with everything that depends only on the column passed in evaluated:
    `a1 = X ≤ 8`, `a2 = dim-8 ≤ X`, `a3 = X == 6`, `a4 = dim-11 ≤ X ≤ dim-9`, `a5 = X ≤ 5`,
    `M` = the rows of the alignment squares that meet column `X` -/
def cellFn (d8 d9 d11 : Nat) (v7 a1 a2 a3 a4 a5 : Bool) (M Y : Nat) : Bool :=
  (a1 && Nat.ble Y 8) || (a2 && Nat.ble Y 8) || (a1 && Nat.ble d8 Y) || a3 || Nat.beq Y 6 || M.testBit Y ||
  (v7 && ((a4 && Nat.ble Y 5) || (a5 && Nat.ble d11 Y && Nat.ble Y d9)))

/-- number of non-function cells of column `X` -/
def colCount (dim d8 d9 d11 : Nat) (v7 : Bool) (cs : List Nat) (last X : Nat) : Nat :=
  forceN X fun X =>
  forceB (Nat.ble X 8) fun a1 =>
  forceB (Nat.ble d8 X) fun a2 =>
  forceB (Nat.beq X 6) fun a3 =>
  forceB (Nat.ble d11 X && Nat.ble X d9) fun a4 =>
  forceB (Nat.ble X 5) fun a5 =>
  forceN (alignMask cs last (cs.filter (fun c => inSqF c X))) fun M =>
  sumTo dim (fun Y => b2n (!cellFn d8 d9 d11 v7 a1 a2 a3 a4 a5 M Y))

/-- number of non-function cells on the walk, in a form the kernel evaluates quickly -/
def fastCount (dim version : Nat) (cs : List Nat) : Nat :=
  forceN dim fun dim =>
  forceN (dim - 8) fun d8 =>
  forceN (dim - 9) fun d9 =>
  forceN (dim - 11) fun d11 =>
  forceB (Nat.ble 7 version) fun v7 =>
  forceL cs fun cs =>
  forceN (cs.getLastD 0) fun last =>
  sumTo ((dim - 1) / 2) fun k =>
    forceN (walkCol dim k) fun X =>
      colCount dim d8 d9 d11 v7 cs last X + colCount dim d8 d9 d11 v7 cs last (X - 1)

theorem colCount_eq (dim version : Nat) (cs : List Nat) (X : Nat) :
    colCount dim (dim - 8) (dim - 9) (dim - 11) (Nat.ble 7 version) cs (cs.getLastD 0) X =
      sumTo dim (fun Y => b2n (!isFn dim version (Spec.Qr.alignmentPositions cs) X Y)) := by
  simp only [colCount, forceN_eq, forceB_eq]
  apply sumTo_congr
  intro Y _
  simp only [cellFn, isFn, alignAt_positions, ble_eq_decide, beq_eq_beq, ge_iff_le]

theorem fastCount_eq (dim version : Nat) (cs : List Nat) :
    fastCount dim version cs =
      ((walk dim).filter (fun p => !isFn dim version (Spec.Qr.alignmentPositions cs) p.1 p.2)).length := by
  rw [walk_count]
  simp only [fastCount, forceN_eq, forceB_eq, forceL_eq, colCount_eq]
  apply sumTo_congr
  intro k _
  simp only [sumTo_add]

/-- remainder bits of a version (Table 1 of the standard): data modules minus 8 × codewords -/
def remainderBits (v : Nat) : Nat :=
  if v ≤ 1 then 0 else if v ≤ 6 then 7 else if v ≤ 13 then 0 else if v ≤ 20 then 3 else if v ≤ 27 then 4
  else if v ≤ 34 then 3 else 0

/-- the check for one version: for each of the four levels the number of data modules is
    8 × (total codewords of Table 9) + remainder bits -/
def countCheck (v : Nat) : Bool :=
  match Spec.Qr.alignmentCentres.lookup v with
  | none => false
  | some cs =>
    forceN (fastCount (17 + 4 * v) v cs) fun n =>
      (List.range 4).all fun l =>
        match BV.Proofs.QrBlocks.isoBlocks v l with
        | none => true
        | some (ec, lens) => Nat.beq n (8 * (lens.foldl (· + ·) 0 + lens.length * ec) + remainderBits v)

/-- certificate: the check holds for the 40 versions (kernel evaluation of `fastCount`) -/
theorem countCheck_all : ∀ v : Nat, v < 41 → 1 ≤ v → countCheck v = true := by
  decide +kernel

theorem remainderBits_lt (v : Nat) : remainderBits v < 8 := by
  unfold remainderBits
  repeat' split
  all_goals omega

/-- For every version 1..40 and level, the number of data modules (walk cells that are not function modules,
    with the alignment patterns of Annex E) is exactly 8 × (total number of codewords of Table 9) plus the
    remainder bits of the version. -/
theorem dataModuleCount_exact (v l : Nat) (h1 : 1 ≤ v) (h40 : v ≤ 40) (hl : l ≤ 3) (cs : List Nat)
    (hcs : Spec.Qr.alignmentCentres.lookup v = some cs) (ec : Nat) (lens : List Nat)
    (hiso : BV.Proofs.QrBlocks.isoBlocks v l = some (ec, lens)) :
    let dim := 17 + 4 * v
    let n := ((walk dim).filter (fun p => !isFn dim v (Spec.Qr.alignmentPositions cs) p.1 p.2)).length
    let total := lens.foldl (· + ·) 0 + lens.length * ec
    n = 8 * total + remainderBits v := by
  intro dim n total
  have hc := countCheck_all v (by omega) h1
  unfold countCheck at hc
  rw [hcs] at hc
  simp only [forceN_eq] at hc
  have hlv := List.all_eq_true.mp hc l (List.mem_range.mpr (by omega))
  rw [hiso] at hlv
  rw [fastCount_eq] at hlv
  exact Nat.eq_of_beq_eq_true hlv

/-- The geometric fact checked by `Spec.Qr.decode` ("number of data modules matches the codeword capacity"):
    for every version 1..40 and level the number of data modules `n` satisfies `8·total ≤ n < 8·total + 8`,
    where `total` is the number of codewords of the (version, level) row of Table 9. -/
theorem dataModuleCount (v l : Nat) (h1 : 1 ≤ v) (h40 : v ≤ 40) (hl : l ≤ 3) (cs : List Nat)
    (hcs : Spec.Qr.alignmentCentres.lookup v = some cs) (ec : Nat) (lens : List Nat)
    (hiso : BV.Proofs.QrBlocks.isoBlocks v l = some (ec, lens)) :
    let dim := 17 + 4 * v
    let n := ((walk dim).filter (fun p => !isFn dim v (Spec.Qr.alignmentPositions cs) p.1 p.2)).length
    let total := lens.foldl (· + ·) 0 + lens.length * ec
    8 * total ≤ n ∧ n < 8 * total + 8 := by
  intro dim n total
  have h : n = 8 * total + remainderBits v := dataModuleCount_exact v l h1 h40 hl cs hcs ec lens hiso
  have hr := remainderBits_lt v
  omega

-- The hypotheses are satisfiable, and the values are the ones of the standard:

/-- version 7, level L: 2 blocks of 78 data + 20 check codewords, 196 codewords, 1568 data modules -/
example : Spec.Qr.alignmentCentres.lookup 7 = some [6, 22, 38] ∧
    BV.Proofs.QrBlocks.isoBlocks 7 0 = some (20, [78, 78]) := by decide +kernel

example : ((walk 45).filter (fun p => !isFn 45 7 (Spec.Qr.alignmentPositions [6, 22, 38]) p.1 p.2)).length
    = 8 * 196 + 0 :=
  dataModuleCount_exact 7 0 (by decide) (by decide) (by decide) [6, 22, 38] (by decide +kernel) 20 [78, 78]
    (by decide +kernel)

/-- version 2 evaluated directly from the definitions, without `fastCount`: 44 codewords and 7 remainder bits -/
example : ((walk 25).filter (fun p => !isFn 25 2 (Spec.Qr.alignmentPositions [6, 18]) p.1 p.2)).length
    = 8 * 44 + 7 := by decide +kernel

/-- version 40: 3706 codewords, no remainder bits -/
example : fastCount 177 40 [6, 30, 58, 86, 114, 142, 170] = 8 * 3706 := by decide +kernel

end BV.Proofs.QrMatrix
