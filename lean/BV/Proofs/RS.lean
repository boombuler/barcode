/-
  Proofs for C17, part 3: evaluation of polynomials and the Reed–Solomon encoder (`reedsolomon.go`).

  * `fpow`, `EV` (evaluation as a XOR-sum over coefficient functions), `ev` (Horner evaluation of a list);
    `EV` is additive and turns the Cauchy product `conv` into the product of the values.
  * `genPoly f d`: the generator polynomial `∏_{i<d} (x + α^(i+base))`; `CacheInv`: the cache of the encoder holds
    `genPoly f 0 … genPoly f (len-1)`.
  * `checkSymbols_spec`, `ok_encode`: the check symbols make the codeword vanish at the roots of the generator
    polynomial, whatever the cache held before; `ok_encode_unique`: no other check symbols do.
-/
import BV.Proofs.GFPoly
namespace BV.Proofs.GF
open BV BV.Model.GF

/-! ### powers and evaluation -/

/-- `x^k` in the field -/
def fpow (f : Field) (x : Nat) : Nat → Nat
  | 0 => 1
  | k + 1 => f.mul (fpow f x k) x

/-- evaluation of the polynomial with coefficient function `g` (degrees `< N`) at `x` -/
def EV (f : Field) (g : Nat → Nat) (N x : Nat) : Nat := xs N (fun d => f.mul (g d) (fpow f x d))

/-- Horner evaluation of a coefficient list (highest degree first), the shape of the specification's `eval` -/
def ev (f : Field) (p : Poly) (x : Nat) : Nat := p.foldl (fun acc c => f.mul acc x ^^^ c) 0

section laws
variable {f : Field} {n : Nat} (L : Laws f n)
include L

theorem fpow_lt (x : Nat) (hx : x < n) : ∀ k, fpow f x k < n
  | 0 => L.two_le
  | k + 1 => L.mul_lt _ _ (fpow_lt x hx k) hx

theorem fpow_add (x : Nat) (hx : x < n) (a : Nat) : ∀ b, fpow f x (a + b) = f.mul (fpow f x a) (fpow f x b)
  | 0 => (L.mul_one _ (fpow_lt L x hx a)).symm
  | b + 1 => by
    show f.mul (fpow f x (a + b)) x = f.mul (fpow f x a) (f.mul (fpow f x b) x)
    rw [fpow_add x hx a b, L.mul_assoc _ _ _ (fpow_lt L x hx a) (fpow_lt L x hx b) hx]

theorem EV_lt (g : Nat → Nat) (hg : ∀ d, g d < n) (N x : Nat) (hx : x < n) : EV f g N x < n :=
  xs_lt L N (fun d _ => L.mul_lt _ _ (hg d) (fpow_lt L x hx d))

theorem EV_xor (g h : Nat → Nat) (hg : ∀ d, g d < n) (hh : ∀ d, h d < n) (N x : Nat) (hx : x < n) :
    EV f (fun d => g d ^^^ h d) N x = EV f g N x ^^^ EV f h N x := by
  unfold EV
  rw [← xs_xor]
  exact xs_congr N (fun d _ => L.mul_xor_left _ _ _ (hg d) (hh d) (fpow_lt L x hx d))

omit L in
theorem EV_congr (g h : Nat → Nat) (N x : Nat) (H : ∀ d, d < N → g d = h d) : EV f g N x = EV f h N x :=
  xs_congr N (fun d hd => by show f.mul (g d) _ = f.mul (h d) _; rw [H d hd])

omit L in
theorem EV_extend (g : Nat → Nat) (N N' x : Nat) (hN : N ≤ N') (H : ∀ d, N ≤ d → g d = 0) :
    EV f g N' x = EV f g N x :=
  xs_extend N N' hN (fun d hd _ => by show f.mul (g d) _ = 0; rw [H d hd, mul_zero_left])

omit L in
theorem EV_zero (g : Nat → Nat) (N x : Nat) (H : ∀ d, d < N → g d = 0) : EV f g N x = 0 :=
  xs_zero N (fun d hd => by show f.mul (g d) _ = 0; rw [H d hd, mul_zero_left])

theorem foldl_ev (x : Nat) (hx : x < n) : ∀ (p : Poly) (acc : Nat), acc < n → AllLt n p →
    p.foldl (fun acc c => f.mul acc x ^^^ c) acc =
      f.mul acc (fpow f x p.length) ^^^ EV f (cf p) p.length x
  | [], acc, ha, _ => by
    show acc = f.mul acc 1 ^^^ 0
    rw [L.mul_one acc ha, Nat.xor_zero]
  | c :: p, acc, ha, hp => by
    obtain ⟨hc, hp'⟩ := allLt_cons.mp hp
    have hxp := fpow_lt L x hx
    rw [List.foldl_cons, foldl_ev x hx p _ (L.xor_lt _ _ (L.mul_lt _ _ ha hx) hc) hp',
      L.mul_xor_left _ _ _ (L.mul_lt _ _ ha hx) hc (hxp _), List.length_cons]
    show _ = f.mul acc (f.mul (fpow f x p.length) x) ^^^
      (xs p.length (fun d => f.mul (cf (c :: p) d) (fpow f x d)) ^^^ f.mul (cf (c :: p) p.length) (fpow f x p.length))
    rw [xs_congr p.length (g := fun d => f.mul (cf (c :: p) d) (fpow f x d))
        (h := fun d => f.mul (cf p d) (fpow f x d))
        (fun d hd => by show f.mul (cf (c :: p) d) _ = _; rw [cf_cons, if_neg (by omega)]),
      cf_cons, if_pos rfl, L.mul_assoc _ _ _ ha hx (hxp _), mul_comm f x]
    show _ ^^^ _ ^^^ EV f (cf p) p.length x = _ ^^^ (EV f (cf p) p.length x ^^^ _)
    rw [Nat.xor_assoc, Nat.xor_comm (f.mul c _)]

theorem ev_eq_EV (p : Poly) (hp : AllLt n p) (x : Nat) (hx : x < n) : ev f p x = EV f (cf p) p.length x := by
  unfold ev
  rw [foldl_ev L x hx p 0 L.pos hp, mul_zero_left, Nat.zero_xor]

theorem ev_eq_EV_of_le (p : Poly) (hp : AllLt n p) (x : Nat) (hx : x < n) (N : Nat) (hN : p.length ≤ N) :
    ev f p x = EV f (cf p) N x := by
  rw [ev_eq_EV L p hp x hx, EV_extend (cf p) p.length N x hN (fun d hd => cf_ge p d hd)]

theorem ev_lt (p : Poly) (hp : AllLt n p) (x : Nat) (hx : x < n) : ev f p x < n := by
  rw [ev_eq_EV L p hp x hx]; exact EV_lt L _ (fun d => cf_lt L.pos p d hp) _ x hx

theorem ev_cons (a : Nat) (p : Poly) (ha : a < n) (hp : AllLt n p) (x : Nat) (hx : x < n) :
    ev f (a :: p) x = f.mul a (fpow f x p.length) ^^^ ev f p x := by
  show p.foldl _ (f.mul 0 x ^^^ a) = _
  rw [mul_zero_left, Nat.zero_xor, foldl_ev L x hx p a ha hp, ev_eq_EV L p hp x hx]

/-! ### evaluation depends on the coefficients only, and respects sums and products -/

theorem ev_of_cf (p q : Poly) (hp : AllLt n p) (hq : AllLt n q) (h : ∀ d, cf p d = cf q d) (x : Nat) (hx : x < n) :
    ev f p x = ev f q x := by
  rw [ev_eq_EV_of_le L p hp x hx (p.length + q.length) (by omega),
    ev_eq_EV_of_le L q hq x hx (p.length + q.length) (by omega)]
  exact EV_congr _ _ _ x (fun d _ => h d)

theorem ev_xor_of_cf (p q r : Poly) (hp : AllLt n p) (hq : AllLt n q) (hr : AllLt n r)
    (h : ∀ d, cf r d = cf p d ^^^ cf q d) (x : Nat) (hx : x < n) : ev f r x = ev f p x ^^^ ev f q x := by
  rw [ev_eq_EV_of_le L p hp x hx (p.length + q.length + r.length) (by omega),
    ev_eq_EV_of_le L q hq x hx (p.length + q.length + r.length) (by omega),
    ev_eq_EV_of_le L r hr x hx (p.length + q.length + r.length) (by omega),
    ← EV_xor L _ _ (fun d => cf_lt L.pos p d hp) (fun d => cf_lt L.pos q d hq) _ x hx]
  exact EV_congr _ _ _ x (fun d _ => h d)

/-- the value of `a·x^l` times a polynomial -/
theorem EV_shift (a l : Nat) (h : Nat → Nat) (M x : Nat) (ha : a < n) (hx : x < n) (hh : ∀ d, h d < n) :
    EV f (fun d => if d < l then 0 else f.mul a (h (d - l))) (l + M) x =
      f.mul (f.mul a (fpow f x l)) (EV f h M x) := by
  have hxp := fpow_lt L x hx
  unfold EV
  rw [xs_add, xs_zero l (fun d hd => by show f.mul (if d < l then 0 else _) _ = 0; rw [if_pos hd, mul_zero_left]),
    Nat.zero_xor, xs_mul L _ (L.mul_lt _ _ ha (hxp l)) M (fun i _ => L.mul_lt _ _ (hh i) (hxp i))]
  refine xs_congr M (fun j _ => ?_)
  show f.mul (if l + j < l then 0 else f.mul a (h (l + j - l))) (fpow f x (l + j)) = _
  rw [if_neg (by omega), Nat.add_sub_cancel_left, fpow_add L x hx,
    L.mul_mul_mul_comm _ _ _ _ ha (hh j) (hxp l) (hxp j)]

/-- evaluation is multiplicative: the value of the Cauchy product is the product of the values -/
theorem EV_conv (q : Poly) (hq : AllLt n q) (x : Nat) (hx : x < n) : ∀ (p : Poly), AllLt n p →
    ∀ N, p.length + q.length ≤ N → EV f (conv f (cf p) (cf q)) N x = f.mul (ev f p x) (ev f q x)
  | [], _, N, _ => by
    rw [EV_zero _ N x (fun d _ => conv_zero_left f _ _ cf_nil d)]
    exact (mul_zero_left f _).symm
  | a :: p, hp, N, hN => by
    obtain ⟨ha, hp'⟩ := allLt_cons.mp hp
    obtain ⟨M, rfl⟩ : ∃ M, N = p.length + M := ⟨N - p.length, by rw [List.length_cons] at hN; omega⟩
    rw [List.length_cons] at hN
    have hcq := fun i => cf_lt L.pos q i hq
    rw [EV_congr _ _ _ x (fun d _ => conv_cons L a p (cf q) ha hp' hcq d),
      EV_xor L _ _ (conv_lt L _ _ (fun i => cf_lt L.pos p i hp') hcq)
        (fun d => by split; exact L.pos; exact L.mul_lt _ _ ha (hcq _)) _ x hx,
      EV_conv q hq x hx p hp' _ (by omega), EV_shift L a p.length (cf q) M x ha hx hcq,
      ← ev_eq_EV_of_le L q hq x hx M (by omega), ev_cons L a p ha hp' x hx,
      L.mul_xor_left _ _ _ (L.mul_lt _ _ ha (fpow_lt L x hx _)) (ev_lt L p hp' x hx) (ev_lt L q hq x hx),
      Nat.xor_comm]

/-- evaluation of a division identity `p = quo · g + rem` -/
theorem ev_divide (p quo g rem : Poly) (hp : AllLt n p) (hq : AllLt n quo) (hg : AllLt n g) (hr : AllLt n rem)
    (h : ∀ d, cf p d = conv f (cf quo) (cf g) d ^^^ cf rem d) (x : Nat) (hx : x < n) :
    ev f p x = f.mul (ev f quo x) (ev f g x) ^^^ ev f rem x := by
  rw [ev_eq_EV_of_le L p hp x hx (p.length + (quo.length + g.length) + rem.length) (by omega),
    ev_eq_EV_of_le L rem hr x hx (p.length + (quo.length + g.length) + rem.length) (by omega),
    EV_congr _ _ _ x (fun d _ => h d),
    EV_xor L _ _ (conv_lt L _ _ (fun i => cf_lt L.pos quo i hq) (fun i => cf_lt L.pos g i hg))
      (fun d => cf_lt L.pos rem d hr) _ x hx,
    EV_conv L g hg x hx quo hq _ (by omega)]

theorem ev_of_cf_conv (w p q : Poly) (hw : AllLt n w) (hp : AllLt n p) (hq : AllLt n q)
    (h : ∀ d, cf w d = conv f (cf p) (cf q) d) (x : Nat) (hx : x < n) :
    ev f w x = f.mul (ev f p x) (ev f q x) := by
  have := ev_divide L w p q [] hw hp hq allLt_nil (fun d => by rw [h d, cf_nil, Nat.xor_zero]) x hx
  rwa [show ev f [] x = 0 from rfl, Nat.xor_zero] at this

end laws

/-! ### the generator polynomials and the cache -/

/-- the linear factor `x + α^j` as the encoder builds it -/
def linFactor (f : Field) (j : Nat) : Poly := newPoly [1, f.alog.getD j 0]

/-- `∏_{i<d} (x + α^(i+base))`, computed as `getPolynomial` does -/
def genPoly (f : Field) : Nat → Poly
  | 0 => newPoly [1]
  | d + 1 => polyMul f (genPoly f d) (linFactor f (d + f.base))

/-- the cache holds the generator polynomials of degree `0 … len-1` -/
def CacheInv (f : Field) (c : Cache) : Prop := c ≠ [] ∧ ∀ d, d < c.length → c[d]? = some (genPoly f d)

theorem linFactor_eq (f : Field) (j : Nat) : linFactor f j = [1, f.alog.getD j 0] := by
  unfold linFactor
  rw [newPoly_cons_cons, if_neg (by decide)]

theorem ev_lin {f : Field} {n : Nat} (L : Laws f n) (a x : Nat) (hx : x < n) : ev f [1, a] x = x ^^^ a := by
  show f.mul (f.mul 0 x ^^^ 1) x ^^^ a = _
  rw [mul_zero_left, Nat.zero_xor, L.one_mul x hx]

theorem allLt_lin {f : Field} {n : Nat} (L : Laws f n) {a : Nat} (ha : a < n) : AllLt n [1, a] :=
  allLt_cons.mpr ⟨L.two_le, allLt_cons.mpr ⟨ha, allLt_nil⟩⟩

/-- the generator polynomial of degree `d` is monic of degree `d` and vanishes at `α^base … α^(base+d-1)` -/
theorem genPoly_spec {f : Field} {n : Nat} (L : Laws f n) : ∀ d, (∀ i, i < d → f.alog.getD (i + f.base) 0 < n) →
    Norm (genPoly f d) ∧ AllLt n (genPoly f d) ∧ (genPoly f d).length = d + 1 ∧ (genPoly f d).headD 0 = 1 ∧
    ∀ i, i < d → ev f (genPoly f d) (f.alog.getD (i + f.base) 0) = 0
  | 0, _ => by
    exact ⟨Or.inl rfl, allLt_cons.mpr ⟨L.two_le, allLt_nil⟩, rfl, rfl, fun i hi => by omega⟩
  | d + 1, hal => by
    obtain ⟨g1, g2, g3, g4, g5⟩ := genPoly_spec L d (fun i hi => hal i (by omega))
    have ha := hal d (by omega)
    have hlin := allLt_lin L ha
    have hgen : genPoly f (d + 1) = polyMul f (genPoly f d) [1, f.alog.getD (d + f.base) 0] := by
      show polyMul f (genPoly f d) (linFactor f (d + f.base)) = _
      rw [linFactor_eq]
    rw [hgen]
    obtain ⟨m1, m2, m3, m4⟩ := polyMul_spec L _ [1, _] g1 (Or.inr Nat.one_ne_zero) g2 hlin
    obtain ⟨m5, m6⟩ := m4 (by rw [g4]; exact Nat.one_ne_zero) Nat.one_ne_zero
    refine ⟨m2, m3, ?_, ?_, fun i hi => ?_⟩
    · rw [m5, g3]; rfl
    · rw [m6, g4]; exact L.mul_one 1 L.two_le
    · have hx := hal i hi
      rw [ev_of_cf_conv L _ _ _ m3 g2 hlin m1 _ hx]
      by_cases hid : i < d
      · rw [g5 i hid, mul_zero_left]
      · have : i = d := by omega
        rw [this, ev_lin L _ _ ha, Nat.xor_self, mul_zero_right]

theorem cacheInv_new (f : Field) : CacheInv f newEncoder := by
  refine ⟨by simp [newEncoder], fun d hd => ?_⟩
  have : d = 0 := by simp [newEncoder] at hd; omega
  subst this; rfl

theorem extend_succ (f : Field) (k d : Nat) (last : Poly) (cache : Cache) :
    getPolynomial.extend f (k + 1) d last cache =
      getPolynomial.extend f k (d + 1) (polyMul f last (newPoly [1, f.alog.getD (d - 1 + f.base) 0]))
        (cache ++ [polyMul f last (newPoly [1, f.alog.getD (d - 1 + f.base) 0])]) := rfl

theorem extend_spec (f : Field) : ∀ (k d : Nat) (last : Poly) (cache : Cache), CacheInv f cache →
    cache.length = d → last = genPoly f (d - 1) →
    CacheInv f (getPolynomial.extend f k d last cache) ∧ (getPolynomial.extend f k d last cache).length = d + k
  | 0, d, _, cache, hc, hl, _ => ⟨hc, hl⟩
  | k + 1, d, last, cache, hc, hl, hlast => by
    have hd : 0 < d := by rw [← hl]; exact List.length_pos_iff.mpr hc.1
    have hnext : polyMul f last (newPoly [1, f.alog.getD (d - 1 + f.base) 0]) = genPoly f d := by
      obtain ⟨e, rfl⟩ : ∃ e, d = e + 1 := ⟨d - 1, by omega⟩
      rw [hlast]; rfl
    rw [extend_succ, hnext]
    have hc' : CacheInv f (cache ++ [genPoly f d]) := by
      refine ⟨by simp, fun i hi => ?_⟩
      rw [List.length_append, List.length_singleton] at hi
      by_cases hid : i < cache.length
      · rw [List.getElem?_append_left hid]; exact hc.2 i hid
      · have : i = cache.length := by omega
        rw [this, List.getElem?_concat_length, hl]
    obtain ⟨r1, r2⟩ := extend_spec f k (d + 1) (genPoly f d) (cache ++ [genPoly f d]) hc'
      (by rw [List.length_append, List.length_singleton, hl]) rfl
    exact ⟨r1, by rw [r2]; omega⟩

/-- `getPolynomial` returns the generator polynomial of the requested degree whatever the cache holds, and keeps
    the cache invariant -/
theorem getPolynomial_spec (f : Field) (c : Cache) (hc : CacheInv f c) (k : Nat) :
    (getPolynomial f c k).1 = genPoly f k ∧ CacheInv f (getPolynomial f c k).2 := by
  unfold getPolynomial
  by_cases h : k ≥ c.length
  · simp only [if_pos h]
    have hl := List.length_pos_iff.mpr hc.1
    have hlast : c.getLastD [] = genPoly f (c.length - 1) := by
      rw [List.getLastD_eq_getLast?, List.getLast?_eq_getElem?, hc.2 _ (by omega)]; rfl
    obtain ⟨r1, r2⟩ := extend_spec f (k + 1 - c.length) c.length _ c hc rfl hlast
    refine ⟨?_, r1⟩
    rw [List.getD_eq_getElem?_getD, r1.2 k (by rw [r2]; omega)]; rfl
  · simp only [if_neg h]
    refine ⟨?_, hc⟩
    rw [List.getD_eq_getElem?_getD, hc.2 k (by omega)]; rfl

/-! ### `Encode` -/

theorem encodeWith_eq (f : Field) (c : Cache) (data : List Nat) (k : Nat) :
    encodeWith f c data k =
      (List.replicate (k - (polyDiv f (mulMonomial f (newPoly data) k 1) (getPolynomial f c k).1).2.length) 0 ++
        (polyDiv f (mulMonomial f (newPoly data) k 1) (getPolynomial f c k).1).2, (getPolynomial f c k).2) := rfl

/-- the check symbols for `data`, computed from the generator polynomial directly (no cache) -/
def checkSymbols (f : Field) (data : List Nat) (k : Nat) : List Nat :=
  List.replicate (k - (polyDiv f (mulMonomial f (newPoly data) k 1) (genPoly f k)).2.length) 0 ++
    (polyDiv f (mulMonomial f (newPoly data) k 1) (genPoly f k)).2

theorem encodeWith_fst (f : Field) (c : Cache) (hc : CacheInv f c) (data : List Nat) (k : Nat) :
    (encodeWith f c data k).1 = checkSymbols f data k := by
  rw [encodeWith_eq, (getPolynomial_spec f c hc k).1]; rfl

theorem rsEncode_eq (f : Field) (data : List Nat) (k : Nat) : rsEncode f data k = checkSymbols f data k :=
  encodeWith_fst f newEncoder (cacheInv_new f) data k

theorem encodeWith_snd (f : Field) (c : Cache) (hc : CacheInv f c) (data : List Nat) (k : Nat) :
    CacheInv f (encodeWith f c data k).2 := by
  rw [encodeWith_eq]; exact (getPolynomial_spec f c hc k).2

theorem checkSymbols_spec {f : Field} {n : Nat} (L : Laws f n) (k : Nat) (hk : 1 ≤ k)
    (hal : ∀ i, i < k → f.alog.getD (i + f.base) 0 < n) (data : List Nat) (hd : AllLt n data) :
    (checkSymbols f data k).length = k ∧ AllLt n (checkSymbols f data k) ∧
    ∀ i, i < k → ev f (data ++ checkSymbols f data k) (f.alog.getD (i + f.base) 0) = 0 := by
  obtain ⟨g1, g2, g3, g4, g5⟩ := genPoly_spec L k hal
  obtain ⟨i1, i2, i3⟩ := mulMonomial_spec L (newPoly data) k 1
  have i2 := i2 (Or.inr (by omega))
  have i3 := i3 (newPoly_allLt _ hd) L.two_le
  have hinfo : ∀ d, cf (mulMonomial f (newPoly data) k 1) d = if d < k then 0 else cf data (d - k) := by
    intro d
    rw [i1 d, cf_newPoly]
    split
    · rfl
    · exact L.mul_one _ (cf_lt L.pos _ _ hd)
  obtain ⟨q1, q2, q3, q4, q5, q6⟩ := polyDiv_spec L _ (genPoly f k) i2 i3 g2 (by rw [g4]; decide)
  unfold checkSymbols
  generalize (polyDiv f (mulMonomial f (newPoly data) k 1) (genPoly f k)).2 = rem at q2 q4 q5 q6
  generalize (polyDiv f (mulMonomial f (newPoly data) k 1) (genPoly f k)).1 = quo at q1 q3 q6
  have hrl : rem.length ≤ k := by
    rcases q5 with h | h
    · rw [h]; exact hk
    · rw [g3] at h; omega
  have hlen : (List.replicate (k - rem.length) 0 ++ rem).length = k := by
    rw [List.length_append, List.length_replicate]; omega
  have hall : AllLt n (List.replicate (k - rem.length) 0 ++ rem) :=
    allLt_append.mpr ⟨allLt_replicate_zero L.pos _, q4⟩
  refine ⟨hlen, hall, fun i hi => ?_⟩
  have hx := hal i hi
  have hroot := g5 i hi
  generalize f.alog.getD (i + f.base) 0 = x at hx hroot
  -- the codeword is the product quotient × generator
  have hword : ∀ d, cf (data ++ (List.replicate (k - rem.length) 0 ++ rem)) d =
      conv f (cf quo) (cf (genPoly f k)) d := by
    intro d
    have h6 := q6 d
    rw [hinfo d] at h6
    rw [cf_append, hlen]
    by_cases hdk : d < k
    · rw [if_pos hdk] at h6 ⊢
      rw [cf_pad]
      exact (eq_of_xor_eq_zero _ _ h6.symm).symm
    · rw [if_neg hdk] at h6 ⊢
      rw [cf_ge rem d (by omega), Nat.xor_zero] at h6
      exact h6
  rw [ev_of_cf_conv L _ quo (genPoly f k) (allLt_append.mpr ⟨hd, hall⟩) q3 g2 hword x hx, hroot, mul_zero_right]

/-! ### the specification's validity predicate -/

theorem spec_foldl_eq {pp n : Nat} (h : FieldOK pp n) (b x : Nat) (hx : x < n) :
    ∀ (word : List Nat) (acc : Nat), acc < n → AllLt n word →
      word.foldl (fun acc c => (Spec.RS.BinField.mk pp n).mul acc x ^^^ c) acc =
        word.foldl (fun acc c => (newField pp n b).mul acc x ^^^ c) acc
  | [], _, _, _ => rfl
  | c :: w, acc, ha, hw => by
    have L := laws_of_ok h b
    rw [List.foldl_cons, List.foldl_cons, ← ok_mul_eq_spec h b acc x ha hx]
    exact spec_foldl_eq h b x hx w _ (L.xor_lt _ _ (L.mul_lt _ _ ha hx) (allLt_cons.mp hw).1) (allLt_cons.mp hw).2

theorem spec_eval_eq {pp n : Nat} (h : FieldOK pp n) (b : Nat) (word : List Nat) (hw : AllLt n word) (x : Nat)
    (hx : x < n) : (Spec.RS.BinField.mk pp n).eval word x = ev (newField pp n b) word x :=
  spec_foldl_eq h b x hx word 0 (laws_of_ok h b).pos hw

theorem ok_alog_base (pp n b i : Nat) (hi : i + b < n) :
    (newField pp n b).alog.getD (i + (newField pp n b).base) 0 = pw pp n (b + i) := by
  rw [newField_base, newField_alog _ _ _ _ hi, Nat.add_comm]

theorem valid_iff {pp n : Nat} (h : FieldOK pp n) (b k : Nat) (w : List Nat) :
    (Spec.RS.BinField.mk pp n).valid b k w = true ↔
      AllLt n w ∧ ∀ i, i < k → ev (newField pp n b) w (pw pp n (b + i)) = 0 := by
  unfold Spec.RS.BinField.valid
  rw [Bool.and_eq_true, List.all_eq_true, List.all_eq_true, and_comm]
  simp only [decide_eq_true_eq]
  refine and_congr_right fun (hw : AllLt n w) => ?_
  have key : ∀ i, ((Spec.RS.BinField.mk pp n).eval w ((Spec.RS.BinField.mk pp n).pow 2 (b + i)) == 0) = true ↔
      ev (newField pp n b) w (pw pp n (b + i)) = 0 := fun i => by
    rw [beq_iff_eq, ok_spec_pow h, spec_eval_eq h b _ hw _ (pw_lt h.prim _)]
  exact ⟨fun h1 i hi => (key i).mp (h1 i (List.mem_range.mpr hi)),
    fun h1 i hi => (key i).mpr (h1 i (List.mem_range.mp hi))⟩

/-- the encoder over a field given by `FieldOK`: length, range, validity, independence of the cache, cache invariant -/
theorem ok_encode {pp n : Nat} (h : FieldOK pp n) (b k : Nat) (hk : 1 ≤ k) (hkb : k + b ≤ n) (c : Cache)
    (hc : CacheInv (newField pp n b) c) (data : List Nat) (hd : AllLt n data) :
    ((encodeWith (newField pp n b) c data k).1).length = k ∧
    AllLt n (encodeWith (newField pp n b) c data k).1 ∧
    (Spec.RS.BinField.mk pp n).valid b k (data ++ (encodeWith (newField pp n b) c data k).1) = true ∧
    (encodeWith (newField pp n b) c data k).1 = rsEncode (newField pp n b) data k ∧
    CacheInv (newField pp n b) (encodeWith (newField pp n b) c data k).2 := by
  have L := laws_of_ok h b
  have hal : ∀ i, i < k → _ = pw pp n (b + i) := fun i hi => ok_alog_base pp n b i (by omega)
  obtain ⟨s1, s2, s3⟩ := checkSymbols_spec L k hk (fun i hi => by rw [hal i hi]; exact pw_lt h.prim _) data hd
  rw [encodeWith_fst _ c hc data k]
  exact ⟨s1, s2, (valid_iff h b k _).mpr ⟨allLt_append.mpr ⟨hd, s2⟩, fun i hi => hal i hi ▸ s3 i hi⟩,
    (rsEncode_eq _ data k).symm, encodeWith_snd _ c hc data k⟩

/-- the generator polynomial in the specification's terms -/
theorem ok_genPoly {pp n : Nat} (h : FieldOK pp n) (b k : Nat) (hkb : k + b ≤ n) :
    (genPoly (newField pp n b) k).length = k + 1 ∧ (genPoly (newField pp n b) k).headD 0 = 1 ∧
    AllLt n (genPoly (newField pp n b) k) ∧
    ∀ i, i < k → (Spec.RS.BinField.mk pp n).eval (genPoly (newField pp n b) k)
      ((Spec.RS.BinField.mk pp n).pow 2 (b + i)) = 0 := by
  have L := laws_of_ok h b
  have hal : ∀ i, i < k → _ = pw pp n (b + i) := fun i hi => ok_alog_base pp n b i (by omega)
  obtain ⟨_, g2, g3, g4, g5⟩ := genPoly_spec L k (fun i hi => by rw [hal i hi]; exact pw_lt h.prim _)
  refine ⟨g3, g4, g2, fun i hi => ?_⟩
  rw [ok_spec_pow h, spec_eval_eq h b _ g2 _ (pw_lt h.prim _), ← hal i hi]
  exact g5 i hi

/-! ### uniqueness of the check symbols (root counting) -/

section unique
variable {f : Field} {n : Nat} (L : Laws f n)
include L

omit L in
theorem ev_singleton (c x : Nat) : ev f [c] x = c := by
  show f.mul 0 x ^^^ c = c
  rw [mul_zero_left, Nat.zero_xor]

/-- a polynomial with at most `k` coefficients (degree `< k`) and `k` distinct roots is zero -/
theorem roots_zero : ∀ (k : Nat) (x : Nat → Nat) (p : Poly), Norm p → AllLt n p → p.length ≤ k →
    (∀ i, i < k → x i < n) → (∀ i j, i < j → j < k → x i ≠ x j) → (∀ i, i < k → ev f p (x i) = 0) → p = [0]
  | 0, _, p, hp, _, hl, _, _, _ => by have := hp.length_pos; omega
  | k + 1, x, p, hp, hap, hl, hx, hdist, hroot => by
    have hr := hx k (by omega)
    have hlinA := allLt_lin L hr
    obtain ⟨r1, r2, r3, r4, r5, r6⟩ := polyDiv_spec L p [1, x k] hp hap hlinA Nat.one_ne_zero
    generalize (polyDiv f p [1, x k]).1 = quo at r1 r3 r6
    generalize (polyDiv f p [1, x k]).2 = rem at r2 r4 r5 r6
    -- the remainder is a constant
    obtain ⟨c, rfl⟩ : ∃ c, rem = [c] := by
      rcases r5 with h | h
      · exact ⟨0, h⟩
      · match rem, r2.length_pos, h with
        | [c], _, _ => exact ⟨c, rfl⟩
    have hev : ∀ y, y < n → ev f p y = f.mul (ev f quo y) (y ^^^ x k) ^^^ c := fun y hy => by
      rw [ev_divide L p quo _ _ hap r3 hlinA r4 r6 y hy, ev_lin L _ _ hy, ev_singleton]
    -- it is the value at `x k`
    have hc : c = 0 := by
      have := hev _ hr
      rwa [hroot k (by omega), Nat.xor_self, mul_zero_right, Nat.zero_xor, eq_comm] at this
    subst hc
    -- so the quotient vanishes at the other points; it is shorter than `p`, hence zero, and so is `p`
    have hquo : quo = [0] := by
      by_cases hz : quo.headD 0 = 0
      · exact (isZero_iff r1).mp (isZero_iff_head.mpr hz)
      refine roots_zero k x quo r1 r3 ?_ (fun i hi => hx i (by omega))
        (fun i j hij hj => hdist i j hij (by omega)) (fun i hi => ?_)
      · obtain ⟨i, hi⟩ : ∃ i, quo.length = i + 1 := ⟨quo.length - 1, by have := r1.length_pos; omega⟩
        have htop := r6 (i + 1)
        rw [conv_top f quo [1, x k] i 1 hi rfl, show ([1, x k] : Poly).headD 0 = 1 from rfl,
          L.mul_one _ (r3.headD_lt L.pos), cf_ge [0] _ (Nat.succ_pos i), Nat.xor_zero] at htop
        have : i + 1 < p.length := Nat.lt_of_not_le fun hle => hz (by rw [← htop, cf_ge p _ hle])
        omega
      · have hxi := hx i (by omega)
        have h0 := hev _ hxi
        rw [hroot i (by omega), Nat.xor_zero] at h0
        rcases L.mul_eq_zero _ _ (ev_lt L quo r3 _ hxi) (L.xor_lt _ _ hxi hr) h0.symm with h | h
        · exact h
        · exact absurd (eq_of_xor_eq_zero _ _ h) (hdist i k hi (by omega))
    refine norm_eq_zero_of_cf hp fun d => ?_
    rw [r6 d, hquo, ← pZero_eq, conv_zero_left f _ _ cf_pZero, cf_pZero]; rfl

/-- two words with the same data part and `k` check symbols each that vanish at the same `k` distinct points
    have the same check symbols -/
theorem check_unique (k : Nat) (x : Nat → Nat) (hx : ∀ i, i < k → x i < n)
    (hdist : ∀ i j, i < j → j < k → x i ≠ x j) (data e e' : List Nat) (hd : AllLt n data) (he : AllLt n e)
    (he' : AllLt n e') (hl : e.length = k) (hl' : e'.length = k)
    (h0 : ∀ i, i < k → ev f (data ++ e) (x i) = 0) (h0' : ∀ i, i < k → ev f (data ++ e') (x i) = 0) :
    e = e' := by
  rcases Nat.eq_zero_or_pos k with hk | hk
  · subst hk
    rw [List.length_eq_zero_iff.mp hl, List.length_eq_zero_iff.mp hl']
  have happ : ∀ t, AllLt n t → AllLt n (data ++ t) := fun t ht => allLt_append.mpr ⟨hd, ht⟩
  -- the difference of the two check sequences
  generalize hδ : List.zipWith (· ^^^ ·) e e' = δ
  have hδa : AllLt n δ := hδ ▸ allLt_zipWith_xor L e e' he he'
  have hδl : δ.length = k := by rw [← hδ, List.length_zipWith, hl, hl', Nat.min_self]
  have hδc : ∀ d, cf δ d = cf e d ^^^ cf e' d := fun d => hδ ▸ cf_zipWith_xor e e' d (by rw [hl, hl'])
  have hcf : ∀ d, cf δ d = cf (data ++ e) d ^^^ cf (data ++ e') d := by
    intro d
    rw [cf_append, cf_append, hl, hl']
    split
    · exact hδc d
    · rw [Nat.xor_self, cf_ge _ d (by omega)]
  have hz : newPoly δ = [0] := by
    apply roots_zero L k x _ (newPoly_norm _ (by rintro rfl; rw [List.length_nil] at hδl; omega)) (newPoly_allLt _ hδa)
      (by have := newPoly_length_le δ; omega) hx hdist
    intro i hi
    rw [ev_of_cf L _ _ (newPoly_allLt _ hδa) hδa (cf_newPoly _) _ (hx i hi),
      ev_xor_of_cf L _ _ _ (happ e he) (happ e' he') hδa hcf _ (hx i hi), h0 i hi, h0' i hi]; rfl
  refine eq_of_cf_of_length e e' (by rw [hl, hl']) fun d => eq_of_xor_eq_zero _ _ ?_
  rw [← hδc, ← cf_newPoly, hz, cf_cons]
  split <;> rfl

end unique

theorem roots_distinct {pp n : Nat} (h : FieldOK pp n) (b k : Nat) (hkn : k ≤ n - 1) (i j : Nat) (hij : i < j)
    (hj : j < k) : pw pp n (b + i) ≠ pw pp n (b + j) := by
  intro he
  have hm := pw_inj_mod h.prim _ _ he
  have := Nat.sub_mod_eq_zero_of_mod_eq hm.symm
  have e : b + j - (b + i) = j - i := by omega
  rw [e, Nat.mod_eq_of_lt (by omega)] at this
  omega

/-- uniqueness: the encoder's output is the only sequence of `k` symbols that completes `data` to a valid word -/
theorem ok_encode_unique {pp n : Nat} (h : FieldOK pp n) (b k : Nat) (hk : 1 ≤ k) (hkb : k + b ≤ n)
    (hkn : k ≤ n - 1) (data : List Nat) (hd : AllLt n data) (e' : List Nat) (hl' : e'.length = k)
    (hv : (Spec.RS.BinField.mk pp n).valid b k (data ++ e') = true) :
    e' = rsEncode (newField pp n b) data k := by
  have L := laws_of_ok h b
  obtain ⟨s1, s2, s3, s4, _⟩ := ok_encode h b k hk hkb newEncoder (cacheInv_new _) data hd
  rw [← s4]
  obtain ⟨hw', hr'⟩ := (valid_iff h b k _).mp hv
  obtain ⟨_, hr⟩ := (valid_iff h b k _).mp s3
  have he' : AllLt n e' := (allLt_append.mp hw').2
  exact (check_unique L k (fun i => pw pp n (b + i)) (fun i _ => pw_lt h.prim _)
    (fun i j hij hj => roots_distinct h b k hkn i j hij hj) data _ e' hd s2 he' s1 hl' hr hr').symm

end BV.Proofs.GF
