/-
  BV.Proofs.ShiftCode — what Code 39 and Code 93 have in common, stated about variables (tables, shift characters,
  loops; only the start/stop character `*` = 42, which both refuse in a text, is a constant): table lookup, the
  accumulating loops (`prepare`, `drawData`), the full-ASCII expansion read back by `resolvePairs`, the start/stop
  frame, and the encoder `encodeVia` of which both `EncodeWithColor` functions are instances.
-/
import BV.Model.Util
import BV.Proofs.OneD
import BV.Proofs.Pairs
namespace BV.Proofs.ShiftCode
open BV BV.Model BV.Spec.OneD BV.Proofs.Utf8 BV.Proofs.Pairs
open BV.Proofs.OneD (loop_ok loop_fail)

theorem mem_of_mapGet {α} {tbl : List (Int × α)} {k : Int} {v : α} (h : mapGet tbl k = some v) : (k, v) ∈ tbl := by
  obtain ⟨l₁, l₂, rfl, _⟩ := List.lookup_eq_some_iff.1 h
  simp

/-- `prepare` of either package: one piece per rune, none if a rune is above 127 -/
theorem prepare_spec {go : List (Nat × Nat) → Bytes → Option Bytes} {pieceB : Nat → Bytes}
    (hnil : ∀ acc, go [] acc = some acc)
    (hcons : ∀ q rest acc, go (q :: rest) acc = if q.2 > 127 then none else go rest (acc ++ pieceB q.2))
    (text : Bytes) :
    go (runes text) [] = if ∀ r ∈ runeList text, r ≤ 127 then some ((runeList text).flatMap pieceB) else none := by
  have hcons' : ∀ q rest acc, go (q :: rest) acc =
      (if q.2 > 127 then none else some (pieceB q.2)).bind fun bs => go rest (acc ++ bs) := by
    intro q rest acc
    rw [hcons]
    split <;> rfl
  split
  · rename_i h
    rw [loop_ok (fin := []) (by simpa using hnil) hcons' (fun q => pieceB q.2)]
    · simp [runeList, List.flatMap_map]
    · intro q hq
      rw [if_neg (Nat.not_lt.2 (h q.2 (List.mem_map.2 ⟨q, hq, rfl⟩)))]
  · rename_i h
    obtain ⟨r, hr, hn⟩ : ∃ r ∈ runeList text, ¬ r ≤ 127 := by simpa using h
    obtain ⟨q, hq, rfl⟩ := List.mem_map.1 hr
    exact loop_fail hcons' _ _ ⟨q, hq, if_pos (by omega)⟩

/-- `drawData` of either package gives up at a rune that is not a key of the table -/
theorem draw_fail {α} {tbl : List (Int × α)} {go : List (Nat × Nat) → List Bool → Option (List Bool)}
    {g : Nat × Nat → α → List Bool}
    (hcons : ∀ q rest acc, go (q :: rest) acc =
      ((mapGet tbl (q.2 : Int)).map (g q)).bind fun bs => go rest (acc ++ bs))
    (data : Bytes) (h : ∃ r ∈ runeList data, ¬ (mapGet tbl (r : Int)).isSome = true) : go (runes data) [] = none := by
  obtain ⟨r, hr, hn⟩ := h
  obtain ⟨q, hq, rfl⟩ := List.mem_map.1 hr
  refine loop_fail hcons _ _ ⟨q, hq, ?_⟩
  cases hb : mapGet tbl (q.2 : Int) with
  | none => rfl
  | some e => rw [hb] at hn; exact absurd rfl hn

/-! ### mapping characters to values and back -/

theorem map_map_cancel {α β} {f : α → β} {g : β → α} {l : List α} (h : ∀ a ∈ l, g (f a) = a) :
    (l.map f).map g = l := by
  rw [List.map_map]
  conv => rhs; rw [← List.map_id l]
  exact List.map_congr_left h

theorem any_beq_map {α β} [BEq β] [LawfulBEq β] {f : α → β} {l : List α} {s : β} (h : ∀ a ∈ l, f a ≠ s) :
    (l.map f).any (· == s) = false := by
  rw [List.any_eq_false]
  intro b hb
  obtain ⟨a, ha, rfl⟩ := List.mem_map.1 hb
  simpa using h a ha

/-! ### the start/stop frame -/

theorem forall_mem_frame {α} {P : α → Prop} {a : α} {rs cc : List α} (ha : P a) (hrs : ∀ r ∈ rs, P r)
    (hcc : ∀ r ∈ cc, P r) : ∀ r ∈ a :: (rs ++ cc) ++ [a], P r := by
  intro r hr
  simp only [List.cons_append, List.mem_cons, List.mem_append, List.not_mem_nil, or_false] at hr
  rcases hr with rfl | (hr | hr) | rfl
  · exact ha
  · exact hrs r hr
  · exact hcc r hr
  · exact ha

theorem forall_mem_ite {α} {P : α → Prop} (b : Bool) {l : List α} (h : ∀ r ∈ l, P r) :
    ∀ r ∈ (if b then l else []), P r := by
  cases b
  · simp
  · simpa using h

/-- what the reference decoders check of a character list `s, body…, s`, and the body they cut out of it -/
theorem startStop_frame {α} [DecidableEq α] (s : α) (body : List α) :
    ¬ ((s :: (body ++ [s])).length < 2 ∨ (s :: (body ++ [s])).head? ≠ some s ∨
        (s :: (body ++ [s])).getLast? ≠ some s) ∧
    ((s :: (body ++ [s])).drop 1).dropLast = body := by
  have : (s :: (body ++ [s])).getLast? = some s := by rw [← List.cons_append, List.getLast?_append]; rfl
  simp [this]

/-! ### the full-ASCII expansion -/

/-- the last step of `c39Decode` and `c93Decode`: in full-ASCII mode resolve the shift pairs -/
def resolveFull {ι} (sD sP sS sPl : Nat) (mk : List Nat → List Nat → ι) (full : Bool) (basic : List Nat) :
    Except String ι :=
  if full then
    match resolvePairs sD sP sS sPl (basic.length + 1) basic with
    | some t => pure (mk t basic)
    | none => throw "invalid full-ASCII pair"
  else pure (mk basic basic)

theorem resolveFull_ok {ι} (sD sP sS sPl : Nat) (mk : List Nat → List Nat → ι) (full : Bool) (basic text : List Nat)
    (hf : full = true → resolvePairs sD sP sS sPl (basic.length + 1) basic = some text)
    (hb : full = false → basic = text) : resolveFull sD sP sS sPl mk full basic = .ok (mk text basic) := by
  unfold resolveFull
  cases full with
  | false => rw [← hb rfl]; rfl
  | true => rw [if_pos rfl, hf rfl]; rfl

theorem cleanStart_flatMap (pieceB : Nat → Bytes) (rs : List Nat) (h : ∀ r ∈ rs, CleanStart (pieceB r)) :
    CleanStart (rs.flatMap pieceB) := by
  induction rs with
  | nil => exact cleanStart_nil
  | cons r t ih => exact cleanStart_append (h r (by simp)) (ih fun x hx => h x (by simp [hx]))

theorem runeList_flatMap (pieceB : Nat → Bytes) (rs : List Nat) (h : ∀ r ∈ rs, CleanStart (pieceB r)) :
    runeList (rs.flatMap pieceB) = rs.flatMap fun r => runeList (pieceB r) := by
  induction rs with
  | nil => rfl
  | cons r t ih =>
    have ht : ∀ x ∈ t, CleanStart (pieceB x) := fun x hx => h x (by simp [hx])
    rw [List.flatMap_cons, List.flatMap_cons, runeList_append _ _ (cleanStart_flatMap pieceB t ht), ih ht]

/-- The expansions of the characters `≤ 127` are valid UTF-8 for one or two data characters which the reference pair
    rules resolve to the character: then the expanded text consists of data characters and resolves to the text. -/
theorem expansion_spec {sD sP sS sPl : Nat} {pieceB : Nat → Bytes} {Alpha : Nat → Prop}
    (cert : ∀ r < 128, CleanStart (pieceB r) ∧ (∀ x ∈ runeList (pieceB r), Alpha x) ∧
      goodPiece sD sP sS sPl r (runeList (pieceB r)) = true)
    (rs : List Nat) (h : ∀ r ∈ rs, r ≤ 127) :
    (∀ x ∈ runeList (rs.flatMap pieceB), Alpha x) ∧
    resolvePairs sD sP sS sPl ((runeList (rs.flatMap pieceB)).length + 1) (runeList (rs.flatMap pieceB)) =
      some rs := by
  have hc : ∀ r ∈ rs, r < 128 := fun r hr => Nat.lt_succ_of_le (h r hr)
  rw [runeList_flatMap pieceB rs fun r hr => (cert r (hc r hr)).1]
  constructor
  · intro x hx
    obtain ⟨r, hr, hxr⟩ := List.mem_flatMap.1 hx
    exact (cert r (hc r hr)).2.1 x hxr
  · exact resolve_flatMap sD sP sS sPl _ rs _ (fun r hr => (cert r (hc r hr)).2.2) (Nat.le_succ _)

/-! ### the encoder -/

/-- `EncodeWithColor` of Code 39 and of Code 93: expand the text in full-ASCII mode, refuse `*` in basic mode, then
    draw the content. -/
def encodeVia (prepare : Bytes → Option Bytes) (draw : Bytes → Option (List Bool)) (mk : Bytes → List Bool → Barcode)
    (text : Bytes) (full : Bool) : Res Barcode :=
  match (if full then prepare text else if containsRune text 42 then none else some text) with
  | none => .error .rejected
  | some content =>
    match draw content with
    | none => .error .rejected
    | some bits => .ok (mk content bits)

section encoder
variable {prepare : Bytes → Option Bytes} {draw : Bytes → Option (List Bool)} {mk : Bytes → List Bool → Barcode}

theorem encodeVia_total (text : Bytes) (full : Bool) :
    (∃ bc, encodeVia prepare draw mk text full = .ok bc) ∨ encodeVia prepare draw mk text full = .error .rejected := by
  unfold encodeVia
  split
  · exact Or.inr rfl
  · split
    · exact Or.inr rfl
    · exact Or.inl ⟨_, rfl⟩

variable {InTable : Nat → Prop} {pieceB : Nat → Bytes} {sD sP sS sPl : Nat}
  (hprep : ∀ text, prepare text =
    if ∀ r ∈ runeList text, r ≤ 127 then some ((runeList text).flatMap pieceB) else none)
  (cert : ∀ r < 128, CleanStart (pieceB r) ∧ (∀ x ∈ runeList (pieceB r), InTable x ∧ x ≠ 42) ∧
    goodPiece sD sP sS sPl r (runeList (pieceB r)) = true)
  (hdraw : ∀ c, (∀ r ∈ runeList c, InTable r ∧ r ≠ 42) → ∃ bits, draw c = some bits)
  (hinv : ∀ c, draw c ≠ none → ∀ r ∈ runeList c, InTable r)
include hprep cert hinv

/-- the content that a returned symbol was drawn from: data characters, which are the text or resolve to it -/
theorem content_of_ok {text : Bytes} {full : Bool} {bc : Barcode} (h : encodeVia prepare draw mk text full = .ok bc) :
    ∃ content bits, draw content = some bits ∧ bc = mk content bits ∧
      (∀ r ∈ runeList content, InTable r ∧ r ≠ 42) ∧ (full = false → content = text) ∧
      (full = true → (∀ r ∈ runeList text, r ≤ 127) ∧
        resolvePairs sD sP sS sPl ((runeList content).length + 1) (runeList content) = some (runeList text)) := by
  unfold encodeVia at h
  split at h
  · cases h
  · rename_i content hcont
    split at h
    · cases h
    · rename_i bits hd
      cases h
      refine ⟨content, bits, hd, rfl, ?_⟩
      cases full with
      | false =>
        simp only [Bool.false_eq_true, if_false, Option.ite_none_left_eq_some, Option.some.injEq] at hcont
        obtain ⟨hc, rfl⟩ := hcont
        refine ⟨fun r hr => ⟨hinv _ (by simp [hd]) r hr, ?_⟩, fun _ => rfl, fun hh => absurd hh (by simp)⟩
        rintro rfl
        exact hc ((containsRune_iff _ 42).2 hr)
      | true =>
        simp only [if_true, hprep, Option.ite_none_right_eq_some, Option.some.injEq] at hcont
        obtain ⟨h127, rfl⟩ := hcont
        obtain ⟨hA, hres⟩ := expansion_spec cert _ h127
        exact ⟨hA, fun hh => absurd hh (by simp), fun _ => ⟨h127, hres⟩⟩

include hdraw

/-- Basic mode accepts exactly the texts over the data characters (the table without `*`), full-ASCII mode exactly
    the texts of runes `≤ 127`; everything else is rejected. -/
theorem accepts (text : Bytes) :
    ((∃ bc, encodeVia prepare draw mk text false = .ok bc) ↔ ∀ r ∈ runeList text, InTable r ∧ r ≠ 42) ∧
    ((∃ bc, encodeVia prepare draw mk text true = .ok bc) ↔ ∀ r ∈ runeList text, r ≤ 127) ∧
    (∀ full, (¬ ∃ bc, encodeVia prepare draw mk text full = .ok bc) →
      encodeVia prepare draw mk text full = .error .rejected) := by
  refine ⟨⟨?_, ?_⟩, ⟨?_, ?_⟩, fun full hn => (encodeVia_total text full).resolve_left hn⟩
  · rintro ⟨bc, h⟩
    obtain ⟨content, _, _, _, hA, hb, _⟩ := content_of_ok hprep cert hinv h
    rw [← hb rfl]; exact hA
  · intro hA
    have hc : containsRune text 42 = false := by
      cases hc : containsRune text 42 with
      | false => rfl
      | true => exact absurd rfl (hA 42 ((containsRune_iff text 42).1 hc)).2
    obtain ⟨bits, hd⟩ := hdraw text hA
    refine ⟨mk text bits, ?_⟩
    unfold encodeVia
    simp only [Bool.false_eq_true, if_false, hc, hd]
  · rintro ⟨bc, h⟩
    obtain ⟨_, _, _, _, _, _, hf⟩ := content_of_ok hprep cert hinv h
    exact (hf rfl).1
  · intro h127
    obtain ⟨bits, hd⟩ := hdraw _ (expansion_spec cert _ h127).1
    refine ⟨mk ((runeList text).flatMap pieceB) bits, ?_⟩
    unfold encodeVia
    simp only [if_true, hprep, if_pos h127, hd]

end encoder

end BV.Proofs.ShiftCode
