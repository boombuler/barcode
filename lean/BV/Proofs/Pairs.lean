/-
  BV.Proofs.Pairs — `Spec.OneD.resolvePairs` inverts a character-wise full-ASCII expansion (shared by Code 39 and 93).
-/
import BV.Spec.OneD
namespace BV.Proofs.Pairs
open BV BV.Spec.OneD

variable (sD sP sS sPl : Nat)

def isShift (c : Nat) : Bool := c == sD || c == sP || c == sS || c == sPl

theorem isShift_iff (c : Nat) : isShift sD sP sS sPl c = true ↔ (c = sD ∨ c = sP ∨ c = sS ∨ c = sPl) := by
  unfold isShift; simp only [Bool.or_eq_true, beq_iff_eq]; constructor
  · rintro (((h | h) | h) | h) <;> simp [h]
  · rintro (h | h | h | h) <;> simp [h]

/-- `p` is an admissible expansion of the character `r`: the character itself if it is not a shift character, or a
    shift character and a letter that the reference resolves to `r` -/
def goodPiece (r : Nat) (p : List Nat) : Bool :=
  match p with
  | [c] => c == r && !(isShift sD sP sS sPl c)
  | [s, l] => isShift sD sP sS sPl s && (resolvePairs sD sP sS sPl 2 [s, l] == some [r])
  | _ => false

theorem resolve_nil (f : Nat) : resolvePairs sD sP sS sPl f [] = some [] := by
  cases f <;> rfl

theorem resolve_plain (f c : Nat) (rest : List Nat) (hc : isShift sD sP sS sPl c = false) :
    resolvePairs sD sP sS sPl (f + 1) (c :: rest) = (resolvePairs sD sP sS sPl f rest).map (c :: ·) := by
  have : ¬ (c = sD ∨ c = sP ∨ c = sS ∨ c = sPl) := by
    rw [← isShift_iff]; simp [hc]
  rw [resolvePairs.eq_def]
  simp only [this, if_false]

theorem resolve_pair (f s l r : Nat) (rest : List Nat) (hs : isShift sD sP sS sPl s = true)
    (h2 : resolvePairs sD sP sS sPl 2 [s, l] = some [r]) :
    resolvePairs sD sP sS sPl (f + 1) (s :: l :: rest) = (resolvePairs sD sP sS sPl f rest).map (r :: ·) := by
  have hs' := (isShift_iff sD sP sS sPl s).1 hs
  rw [resolvePairs.eq_def] at h2
  rw [resolvePairs.eq_def]
  simp only [hs', if_true] at h2 ⊢
  by_cases hl : l < 65 ∨ l > 90
  · rw [if_pos hl] at h2; exact absurd h2 (by simp)
  · rw [if_neg hl] at h2 ⊢
    rw [resolve_nil] at h2
    generalize hv : (if s = sD then some (l - 65 + 1) else _) = v at h2 ⊢
    cases v with
    | none => exact absurd h2 (by simp)
    | some v =>
      simp only [Option.some.injEq, List.cons.injEq, and_true] at h2
      subst h2
      cases resolvePairs sD sP sS sPl f rest <;> rfl

theorem goodPiece_length {r : Nat} {p : List Nat} (h : goodPiece sD sP sS sPl r p = true) : 1 ≤ p.length := by
  unfold goodPiece at h
  split at h
  · simp
  · simp
  · exact absurd h (by simp)

theorem resolve_piece (f r : Nat) (p rest : List Nat) (h : goodPiece sD sP sS sPl r p = true) :
    resolvePairs sD sP sS sPl (f + 1) (p ++ rest) = (resolvePairs sD sP sS sPl f rest).map (r :: ·) := by
  unfold goodPiece at h
  split at h
  · rename_i c
    simp only [Bool.and_eq_true, beq_iff_eq, Bool.not_eq_true'] at h
    obtain ⟨rfl, hc⟩ := h
    exact resolve_plain sD sP sS sPl f c rest hc
  · rename_i s l
    simp only [Bool.and_eq_true, beq_iff_eq] at h
    exact resolve_pair sD sP sS sPl f s l r rest h.1 h.2
  · exact absurd h (by simp)

/-- resolving the concatenated expansions gives back the characters; fuel `≥` their total length suffices -/
theorem resolve_flatMap (piece : Nat → List Nat) : ∀ (rs : List Nat) (fuel : Nat),
    (∀ r ∈ rs, goodPiece sD sP sS sPl r (piece r) = true) → (rs.flatMap piece).length ≤ fuel →
    resolvePairs sD sP sS sPl fuel (rs.flatMap piece) = some rs := by
  intro rs
  induction rs with
  | nil => intro fuel _ _; exact resolve_nil sD sP sS sPl fuel
  | cons r t ih =>
    intro fuel h hf
    have := goodPiece_length sD sP sS sPl (h r (by simp))
    rw [List.flatMap_cons, List.length_append] at hf
    obtain ⟨f, rfl⟩ : ∃ f, fuel = f + 1 := ⟨fuel - 1, by omega⟩
    rw [List.flatMap_cons, resolve_piece sD sP sS sPl f r _ _ (h r (by simp)),
      ih f (fun x hx => h x (by simp [hx])) (by omega)]
    rfl

end BV.Proofs.Pairs
