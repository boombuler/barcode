/-
  BV.Proofs.PdfDims — dimensions of a PDF417 symbol (`dimensions.go`, `getPadding`): lemmas for C13 / C04.
-/
import BV.Model.Pdf417
namespace BV.Proofs.PdfDims
open BV BV.Model.Pdf417 BV.Gen.Pdf417

/-- the quotient, and one more unless the division is exact -/
theorem rows_eq (m k c : Nat) (hc : 0 < c) :
    calculateNumberOfRows m k c = (m + 1 + k) / c + if (m + 1 + k) % c = 0 then 0 else 1 := by
  have h := Nat.div_add_mod (m + 1 + k) c
  have hm := Nat.mod_lt (m + 1 + k) hc
  have e := Nat.mul_succ c ((m + 1 + k) / c)
  unfold calculateNumberOfRows
  simp only []
  generalize (m + 1 + k) / c = q at *
  generalize (m + 1 + k) % c = r at *
  generalize c * (q + 1) = x at *
  generalize c * q = p at *
  split <;> split <;> omega

/-- closed form: `calculateNumberOfRows m k c = ⌈(m+1+k)/c⌉ = (m+1+k + c - 1) / c` -/
theorem rows_eq_ceil (m k c : Nat) (hc : 0 < c) :
    calculateNumberOfRows m k c = (m + 1 + k + c - 1) / c := by
  have h := Nat.div_add_mod (m + 1 + k) c
  have hm := Nat.mod_lt (m + 1 + k) hc
  rw [rows_eq m k c hc, eq_comm, Nat.div_eq_iff hc, Nat.add_mul, Nat.mul_comm _ c]
  generalize (m + 1 + k) / c = q at *
  generalize (m + 1 + k) % c = r at *
  generalize c * q = p at *
  split <;> omega

theorem rows_le_iff (m k c j : Nat) (hc : 0 < c) :
    calculateNumberOfRows m k c ≤ j ↔ m + 1 + k ≤ c * j := by
  rw [rows_eq_ceil m k c hc, Nat.div_le_iff_le_mul_add_pred hc]
  omega

/-- the rows hold the `m + 1 + k` codewords, and one row fewer does not -/
theorem rows_bounds (m k c : Nat) (hc : 0 < c) :
    m + 1 + k ≤ c * calculateNumberOfRows m k c ∧ c * (calculateNumberOfRows m k c - 1) < m + 1 + k := by
  have h1 := (rows_le_iff m k c _ hc).mp (Nat.le_refl _)
  have h2 := mt (rows_le_iff m k c (calculateNumberOfRows m k c - 1) hc).mpr
  generalize calculateNumberOfRows m k c = r at *
  have h3 : r ≠ 0 := by
    rintro rfl
    omega
  exact ⟨h1, Nat.lt_of_not_le (fun h => h2 (by omega) h)⟩

/-- the padding fills the last row: total = rows·cols, fewer than `cols` pads -/
theorem padding_spec (m k c : Nat) (hc : 0 < c) :
    (getPadding m k c).length < c ∧
    calculateNumberOfRows m k c * c = 1 + m + (getPadding m k c).length + k ∧
    (∀ x ∈ getPadding m k c, x = 900) := by
  have h := Nat.div_add_mod (m + 1 + k) c
  have hm := Nat.mod_lt (m + 1 + k) hc
  have hlen : (getPadding m k c).length = if (m + 1 + k) % c = 0 then 0 else c - (m + 1 + k) % c := by
    simp only [getPadding, show m + k + 1 = m + 1 + k by omega]
    split <;> split <;> simp <;> omega
  refine ⟨by rw [hlen]; split <;> omega, ?_, ?_⟩
  · rw [hlen, rows_eq m k c hc, Nat.add_mul, Nat.mul_comm _ c]
    generalize (m + 1 + k) / c = q at *
    generalize (m + 1 + k) % c = r at *
    generalize c * q = p at *
    split <;> omega
  · intro x hx
    unfold getPadding at hx
    simp only [] at hx
    split at hx
    · exact (List.mem_replicate.mp hx).2
    · cases hx

/-- a state of the search loop is either "nothing found" or a candidate within the limits -/
def GoodState (m k : Nat) (st : Ratio × Nat × Nat) : Prop :=
  (st.2.1 = 0 ∧ st.2.2 = 0) ∨
  (2 ≤ st.2.1 ∧ st.2.1 ≤ 30 ∧ st.2.2 = calculateNumberOfRows m k st.2.1 ∧ 2 ≤ st.2.2 ∧ st.2.2 ≤ 30)

/-- the float value `newRatio` of the loop body -/
def newRatio (cols rows : Nat) : Ratio :=
  if rows * c_moduleHeight == 0 then none else some (17 * cols + 69, rows * c_moduleHeight)

/-- one iteration of the column loop, with the constants spelled out -/
theorem calcDimensionsLoop_succ (m k n c : Nat) (ratio : Ratio) (cols rows : Nat) :
    calcDimensionsLoop m k (n + 1) c (ratio, cols, rows) =
      if calculateNumberOfRows m k c < 2 then (ratio, cols, rows)
      else if calculateNumberOfRows m k c > 30 then calcDimensionsLoop m k n (c + 1) (ratio, cols, rows)
      else if (rows != 0 && fartherFrom3 (newRatio cols rows) ratio) = true then
        calcDimensionsLoop m k n (c + 1) (ratio, cols, rows)
      else calcDimensionsLoop m k n (c + 1) (newRatio cols rows, c, calculateNumberOfRows m k c) := rfl

theorem loop_good (m k : Nat) : ∀ (n c : Nat) (st : Ratio × Nat × Nat), 2 ≤ c → c + n ≤ 31 →
    GoodState m k st → GoodState m k (calcDimensionsLoop m k n c st) := by
  intro n
  induction n with
  | zero => intro c st _ _ h; simpa [calcDimensionsLoop] using h
  | succ n ih =>
    intro c st hc hn h
    obtain ⟨ratio, cols, rows⟩ := st
    rw [calcDimensionsLoop_succ]
    split
    · exact h
    · split
      · exact ih (c + 1) _ (by omega) (by omega) h
      · split
        · exact ih (c + 1) _ (by omega) (by omega) h
        · apply ih (c + 1) _ (by omega) (by omega)
          right
          show 2 ≤ c ∧ c ≤ 30 ∧ calculateNumberOfRows m k c = calculateNumberOfRows m k c ∧
            2 ≤ calculateNumberOfRows m k c ∧ calculateNumberOfRows m k c ≤ 30
          exact ⟨hc, by omega, rfl, by omega, by omega⟩

/-- if the column count `c0` gives 2..30 rows and no column count up to it gives fewer than two rows (the
    `break`), the loop ends with a candidate: it holds one from `c0` on and never loses it -/
theorem loop_finds (m k c0 : Nat) (h3 : c0 < m + 1 + k) (h4 : m + 1 + k ≤ 30 * c0) :
    ∀ (n c : Nat) (st : Ratio × Nat × Nat), 2 ≤ c → c0 < c + n → (st.2.2 ≠ 0 ∨ c ≤ c0) →
    (calcDimensionsLoop m k n c st).2.2 ≠ 0 := by
  intro n
  induction n with
  | zero => intro c st _ h1 h; simpa [calcDimensionsLoop] using h.resolve_right (by omega)
  | succ n ih =>
    intro c st hc h1 h
    obtain ⟨ratio, cols, rows⟩ := st
    rw [calcDimensionsLoop_succ]
    split
    · rename_i hlt
      refine h.resolve_right (fun hle => ?_)
      have := (rows_le_iff m k c 1 (by omega)).mp (by omega)
      omega
    · split
      · rename_i hgt
        refine ih (c + 1) _ (by omega) (by omega) (h.imp_right (fun hle => ?_))
        have := (rows_le_iff m k c0 30 (by omega)).mpr (by omega)
        have : c ≠ c0 := by rintro rfl; omega
        omega
      · split
        · rename_i hh
          simp only [Bool.and_eq_true, bne_iff_ne, ne_eq] at hh
          exact ih (c + 1) _ (by omega) (by omega) (Or.inl hh.1)
        · exact ih (c + 1) _ (by omega) (by omega) (Or.inl (by show calculateNumberOfRows m k c ≠ 0; omega))

/-- the part of `calcDimensions` after the loop -/
def finish (m k : Nat) (st : Ratio × Nat × Nat) : Nat × Nat :=
  if (st.2.2 == 0) = true then
    (if calculateNumberOfRows m k 2 < 2 then (2, 2) else (st.2.1, st.2.2))
  else (st.2.1, st.2.2)

theorem calcDimensions_eq (m k : Nat) :
    calcDimensions m k = finish m k (calcDimensionsLoop m k 29 2 (some (0, 1), 0, 0)) := by
  unfold calcDimensions
  show finish m k (calcDimensionsLoop m k (30 + 1 - 2) 2 (some (0, 1), 0, 0)) = _
  rfl

/-- `calcDimensions` returns (0, 0), or the dead-branch default (2, 2) (only if `m+1+k ≤ 2`), or a pair
    within the limits whose row count is the ceiling for its column count -/
theorem calcDimensions_cases (m k : Nat) :
    calcDimensions m k = (0, 0) ∨ (calcDimensions m k = (2, 2) ∧ m + 1 + k ≤ 2) ∨
    (2 ≤ (calcDimensions m k).1 ∧ (calcDimensions m k).1 ≤ 30 ∧
      (calcDimensions m k).2 = calculateNumberOfRows m k (calcDimensions m k).1 ∧
      2 ≤ (calcDimensions m k).2 ∧ (calcDimensions m k).2 ≤ 30) := by
  have hg := loop_good m k 29 2 (some (0, 1), 0, 0) (by omega) (by omega) (Or.inl ⟨rfl, rfl⟩)
  rw [calcDimensions_eq]
  generalize calcDimensionsLoop m k 29 2 (some (0, 1), 0, 0) = st at *
  obtain ⟨ratio, cols, rows⟩ := st
  simp only [finish]
  rcases hg with ⟨h1, h2⟩ | h
  · simp only [] at h1 h2
    subst h1; subst h2
    simp only [beq_self_eq_true, if_true]
    split
    · rename_i hh
      right; left
      refine ⟨rfl, ?_⟩
      have := (rows_le_iff m k 2 1 (by omega)).mp (by omega)
      omega
    · left; rfl
  · simp only [] at h
    have : ¬ (rows == 0) = true := by simp; omega
    rw [if_neg this]
    right; right
    exact h

/-- for `k ≥ 2` check words a row count other than 0 is the ceiling for the column count -/
theorem calcDimensions_rows (m k cols rows : Nat) (hk : 2 ≤ k) (h : calcDimensions m k = (cols, rows))
    (hr : rows ≠ 0) : rows = calculateNumberOfRows m k cols := by
  rcases calcDimensions_cases m k with hz | ⟨_, hz⟩ | hz
  · rw [h] at hz; exact absurd (congrArg Prod.snd hz) hr
  · omega
  · rw [h] at hz; exact hz.2.2.1

/-- acceptance: for `k ≥ 2` check words the dimensions pass the limit test iff everything fits in 900
    codewords -/
theorem calcDimensions_accept_iff (m k : Nat) (hk : 2 ≤ k) :
    (2 ≤ (calcDimensions m k).1 ∧ (calcDimensions m k).1 ≤ 30 ∧
      2 ≤ (calcDimensions m k).2 ∧ (calcDimensions m k).2 ≤ 30) ↔ m + 1 + k ≤ 900 := by
  constructor
  · intro h
    rcases calcDimensions_cases m k with h0 | ⟨_, h2⟩ | ⟨hc2, hc, hr, _, hr30⟩
    · rw [h0] at h; omega
    · omega
    · -- rows·cols ≤ 30·30 codewords hold everything
      have h1 := (rows_bounds m k (calcDimensions m k).1 (by omega)).1
      rw [← hr] at h1
      exact Nat.le_trans h1 (Nat.mul_le_mul hc hr30)
  · intro hsmall
    -- the column count max 2 ⌈(m+1+k)/30⌉ is acceptable
    have hf : (calcDimensionsLoop m k 29 2 (some (0, 1), 0, 0)).2.2 ≠ 0 := by
      by_cases h60 : m + 1 + k ≤ 60
      · exact loop_finds m k 2 (by omega) (by omega) 29 2 _ (by omega) (by omega) (Or.inr (by omega))
      · exact loop_finds m k ((m + 1 + k + 29) / 30) (by omega) (by omega) 29 2 _ (by omega) (by omega)
          (Or.inr (by omega))
    rw [calcDimensions_eq, finish, if_neg (by simpa using hf)]
    rcases loop_good m k 29 2 (some (0, 1), 0, 0) (by omega) (by omega) (Or.inl ⟨rfl, rfl⟩) with ⟨_, h0⟩ | h
    · exact absurd h0 hf
    · exact ⟨h.1, h.2.1, h.2.2.2.1, h.2.2.2.2⟩

end BV.Proofs.PdfDims
