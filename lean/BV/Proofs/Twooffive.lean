/-
  BV.Proofs.Twooffive — lemmas for C08 (2 of 5): the encoder model against `Spec.OneD.tofDecodeStandard`,
  `tofDecodeInterleaved`, `tofWeightedSum`.
-/
import BV.Model.Twooffive
import BV.Proofs.OneD
import BV.Proofs.Kind
namespace BV.Proofs.Twooffive
open BV BV.Model BV.Model.Twooffive BV.Spec.OneD BV.Proofs.Ascii BV.Proofs.OneD

/-! ### vocabulary -/

/-- the five wide flags of a digit (weights 1-2-4-7-parity), from the reference -/
def pat (d : Nat) : List Bool := twoOfFive d
/-- element width: wide = 3 modules, narrow = 1 -/
def wOf (b : Bool) : Nat := if b then 3 else 1
/-- standard 2 of 5: five bars carrying the digit, each followed by a narrow space -/
def stdW (d : Nat) : List Nat := (pat d).flatMap (fun b => [wOf b, 1])
/-- interleaved 2 of 5: bars carry the first digit, spaces the second -/
def ilW (d1 d2 : Nat) : List Nat := (List.zipWith (fun a b => [wOf a, wOf b]) (pat d1) (pat d2)).flatten
def startStd : List Nat := [2, 1, 2, 1, 1, 1]
def stopStd : List Nat := [2, 1, 1, 1, 2]
def startIl : List Nat := [1, 1, 1, 1]
def stopIl : List Nat := [3, 1, 1]

def pairs : List Nat → List (Nat × Nat)
  | a :: b :: rest => (a, b) :: pairs rest
  | _ => []

/-- element widths of a standard symbol -/
def widthsStd (ds : List Nat) : List Nat := startStd ++ (ds.map stdW).flatten ++ stopStd
/-- element widths of an interleaved symbol -/
def widthsIl (ds : List Nat) : List Nat := startIl ++ ((pairs ds).map (fun p => ilW p.1 p.2)).flatten ++ stopIl

/-! ### table certificates -/

theorem table_keys : table.map (·.1) = digitKeys := by decide

theorem table_digit : ∀ d : Fin 10, mapGet table ((48 + d.val : Nat) : Int) = some (pat d.val) := by decide

theorem mapGet_byte (b : UInt8) (h : isDigitByte b = true) : mapGet table (b.toNat : Int) = some (pat (b.toNat - 48)) :=
  OneD.mapGet_byte table_digit b h

theorem pat_facts : ∀ d : Fin 10, (pat d.val).length = 5 ∧ tofDigit (pat d.val) = some d.val := by decide

theorem pat_length (d : Nat) (h : d < 10) : (pat d).length = 5 := (pat_facts ⟨d, h⟩).1

theorem modes_draw :
    (modeOf false).start = drawW startStd ∧ (modeOf false).stop = drawW stopStd ∧
    (modeOf true).start = drawW startIl ∧ (modeOf true).stop = drawW stopIl := by decide

theorem width_modeOf : ∀ il x, (modeOf il).width x = wOf x := by decide

/-! ### five bars interleaved with five spaces -/

/-- element widths of the bars `a` interleaved with the spaces `b`: a digit pair of the interleaved mode, and a
    digit of the standard mode when `b` is all narrow -/
def zipW (a b : List Bool) : List Nat := (List.zipWith (fun x y => [wOf x, wOf y]) a b).flatten

theorem ilW_eq (d1 d2 : Nat) : ilW d1 d2 = zipW (pat d1) (pat d2) := rfl

theorem stdW_eq (d : Nat) (h : d < 10) : stdW d = zipW (pat d) (List.replicate 5 false) := by
  have hl := pat_length d h
  unfold stdW
  generalize pat d = a at hl
  match a, hl with
  | [a0, a1, a2, a3, a4], _ => rfl

theorem wOf_or (x : Bool) : wOf x = 1 ∨ wOf x = 3 := by cases x <;> simp [wOf]

theorem wOf_beq (x : Bool) : (wOf x == 3) = x := by cases x <;> rfl

theorem zipW_length (a b : List Bool) (ha : a.length = 5) (hb : b.length = 5) : (zipW a b).length = 10 := by
  match a, b, ha, hb with
  | [a0, a1, a2, a3, a4], [b0, b1, b2, b3, b4], _, _ => rfl

theorem zipW_mem (a b : List Bool) : ∀ w ∈ zipW a b, w = 1 ∨ w = 3 := by
  induction a generalizing b with
  | nil => intro w hw; simp [zipW] at hw
  | cons x a ih =>
    cases b with
    | nil => intro w hw; simp [zipW] at hw
    | cons y b =>
      intro w hw
      simp only [zipW, List.zipWith_cons_cons, List.flatten_cons, List.cons_append, List.nil_append,
        List.mem_cons] at hw
      rcases hw with rfl | rfl | hw
      · exact wOf_or x
      · exact wOf_or y
      · exact ih b w hw

/-- the inner double loop of the encoder draws these element widths, in either mode -/
theorem drawPair_zipW (il : Bool) (a b : List Bool) (ha : a.length = 5) (hb : b.length = 5) :
    drawPair (modeOf il) a b = drawW (zipW a b) := by
  match a, b, ha, hb with
  | [a0, a1, a2, a3, a4], [b0, b1, b2, b3, b4], _, _ =>
    simp only [drawPair, width_modeOf]
    simp [Gen.Twooffive.c_patternWidth, List.range, List.range.loop, zipW, drawW, barsFrom, expand]

theorem std_draw (d : Nat) (h : d < 10) :
    drawPair (modeOf false) (pat d) Gen.Twooffive.v_nonInterleavedSpace = drawW (stdW d) := by
  rw [stdW_eq d h]
  exact drawPair_zipW false _ _ (pat_length d h) rfl

theorem il_draw (d1 d2 : Nat) (h1 : d1 < 10) (h2 : d2 < 10) :
    drawPair (modeOf true) (pat d1) (pat d2) = drawW (ilW d1 d2) :=
  drawPair_zipW true _ _ (pat_length d1 h1) (pat_length d2 h2)

/-! ### the reference decoders on element-width lists -/

/-- the per-group step of the standard decoder -/
def stdStep (grp : List Nat) : Except String Nat := do
    let bars := (List.range 5).map (fun i => grp.getD (2 * i) 0)
    let spaces := (List.range 5).map (fun i => grp.getD (2 * i + 1) 0)
    if spaces.any (· ≠ 1) then throw "space is not narrow"
    if bars.any (fun w => w ≠ 1 ∧ w ≠ 3) then throw "bar is neither narrow nor wide"
    match tofDigit (bars.map (· == 3)) with
    | some d => pure (48 + d)
    | none => throw "not a 2-of-5 pattern"

theorem wOf_valid (x : Bool) : ¬ (wOf x ≠ 1 ∧ wOf x ≠ 3) := by cases x <;> decide

theorem stdStep_zipW (a : List Bool) (ha : a.length = 5) :
    stdStep (zipW a (List.replicate 5 false)) =
      match tofDigit a with
      | some d => pure (48 + d)
      | none => throw "not a 2-of-5 pattern" := by
  match a, ha with
  | [a0, a1, a2, a3, a4], _ =>
    have hbars : (List.range 5).map (fun i => (zipW [a0, a1, a2, a3, a4] (List.replicate 5 false)).getD (2 * i) 0) =
        [wOf a0, wOf a1, wOf a2, wOf a3, wOf a4] := rfl
    have hspaces : (List.range 5).map (fun i => (zipW [a0, a1, a2, a3, a4] (List.replicate 5 false)).getD (2 * i + 1) 0) =
        [1, 1, 1, 1, 1] := rfl
    simp only [stdStep, hbars, hspaces]
    simp [wOf_valid, wOf_beq]

theorem stdStep_digit (d : Nat) (h : d < 10) : stdStep (stdW d) = .ok (48 + d) := by
  rw [stdW_eq d h, stdStep_zipW _ (pat_length d h), (pat_facts ⟨d, h⟩).2]
  rfl

theorem tofDecodeStandard_eq (bits : List Bool) : tofDecodeStandard bits = (do
  let ws ← match widthsFromBar (runLengths bits) with
    | some ws => pure ws
    | none => throw "does not start with a bar"
  if ws.take 6 ≠ [2, 1, 2, 1, 1, 1] then throw "start pattern"
  if ws.length < 11 ∨ ws.drop (ws.length - 5) ≠ [2, 1, 1, 1, 2] then throw "stop pattern"
  let body := (ws.drop 6).take (ws.length - 11)
  if body.length % 10 ≠ 0 then throw "data elements are not groups of ten"
  (splitEvery 10 body).mapM stdStep) := rfl

theorem tofDecodeStandard_widths (bits : List Bool) (body : List Nat)
    (h : widthsFromBar (runLengths bits) = some (startStd ++ body ++ stopStd)) (hb : body.length % 10 = 0) :
    tofDecodeStandard bits = (splitEvery 10 body).mapM stdStep := by
  obtain ⟨f1, fk, f2, f3⟩ := frame3 startStd body stopStd 6 5 11 rfl rfl rfl
  rw [tofDecodeStandard_eq, h]
  simp only [startStd, stopStd] at f1 fk f2 f3 ⊢
  simp only [f1, fk, f2, f3, hb, ne_eq, not_true_eq_false, false_or, if_false, pure_bind]

/-- the per-group step of the interleaved decoder -/
def ilStep (grp : List Nat) : Except String (List Nat) := do
    let bars := (List.range 5).map (fun i => grp.getD (2 * i) 0 == 3)
    let spaces := (List.range 5).map (fun i => grp.getD (2 * i + 1) 0 == 3)
    match tofDigit bars, tofDigit spaces with
    | some a, some b => pure [48 + a, 48 + b]
    | _, _ => throw "not a 2-of-5 pattern"

theorem ilStep_zipW (a b : List Bool) (ha : a.length = 5) (hb : b.length = 5) :
    ilStep (zipW a b) =
      match tofDigit a, tofDigit b with
      | some x, some y => pure [48 + x, 48 + y]
      | _, _ => throw "not a 2-of-5 pattern" := by
  match a, b, ha, hb with
  | [a0, a1, a2, a3, a4], [b0, b1, b2, b3, b4], _, _ =>
    have hbars : (List.range 5).map (fun i => (zipW [a0, a1, a2, a3, a4] [b0, b1, b2, b3, b4]).getD (2 * i) 0 == 3) =
        [wOf a0 == 3, wOf a1 == 3, wOf a2 == 3, wOf a3 == 3, wOf a4 == 3] := rfl
    have hspaces :
        (List.range 5).map (fun i => (zipW [a0, a1, a2, a3, a4] [b0, b1, b2, b3, b4]).getD (2 * i + 1) 0 == 3) =
        [wOf b0 == 3, wOf b1 == 3, wOf b2 == 3, wOf b3 == 3, wOf b4 == 3] := rfl
    simp only [ilStep, hbars, hspaces, wOf_beq]

theorem ilStep_digits (d1 d2 : Nat) (h1 : d1 < 10) (h2 : d2 < 10) :
    ilStep (ilW d1 d2) = .ok [48 + d1, 48 + d2] := by
  rw [ilW_eq, ilStep_zipW _ _ (pat_length d1 h1) (pat_length d2 h2), (pat_facts ⟨d1, h1⟩).2, (pat_facts ⟨d2, h2⟩).2]
  rfl

theorem tofDecodeInterleaved_eq (bits : List Bool) : tofDecodeInterleaved bits = (do
  let ws ← match widthsFromBar (runLengths bits) with
    | some ws => pure ws
    | none => throw "does not start with a bar"
  if ws.take 4 ≠ [1, 1, 1, 1] then throw "start pattern"
  if ws.length < 7 ∨ ws.drop (ws.length - 3) ≠ [3, 1, 1] then throw "stop pattern"
  let body := (ws.drop 4).take (ws.length - 7)
  if body.length % 10 ≠ 0 then throw "data elements are not groups of ten"
  if body.any (fun w => w ≠ 1 ∧ w ≠ 3) then throw "element is neither narrow nor wide"
  let pairs ← (splitEvery 10 body).mapM ilStep
  pure pairs.flatten) := rfl

theorem tofDecodeInterleaved_widths (bits : List Bool) (body : List Nat)
    (h : widthsFromBar (runLengths bits) = some (startIl ++ body ++ stopIl)) (hb : body.length % 10 = 0)
    (hw : body.any (fun w => w ≠ 1 ∧ w ≠ 3) = false) :
    tofDecodeInterleaved bits = (do let pairs ← (splitEvery 10 body).mapM ilStep; pure pairs.flatten) := by
  obtain ⟨f1, fk, f2, f3⟩ := frame3 startIl body stopIl 4 3 7 rfl rfl rfl
  rw [tofDecodeInterleaved_eq, h]
  simp only [startIl, stopIl] at f1 fk f2 f3 ⊢
  simp only [f1, fk, f2, f3, hb, hw, ne_eq, not_true_eq_false, false_or, if_false, pure_bind, Bool.false_eq_true]

/-! ### the encoder loops on digit strings -/

theorem go_std (bs : Bytes) (hd : AllDigits bs) (off : Nat) (acc : List Bool) :
    encodeWithColor.go false (modeOf false) (asciiRunes off bs) none acc =
      some (acc ++ ((digitsOf bs).map (fun d => drawW (stdW d))).flatten) := by
  induction bs generalizing off acc with
  | nil => simp [asciiRunes, encodeWithColor.go, digitsOf]
  | cons b bs ih =>
    obtain ⟨hb, hbs⟩ := hd.cons
    have hlt : b.toNat - 48 < 10 := by rw [isDigitByte_iff] at hb; omega
    simp only [asciiRunes, encodeWithColor.go, mapGet_byte b hb, Bool.false_eq_true, if_false]
    rw [ih hbs, std_draw _ hlt]
    simp [digitsOf]

theorem go_il (n : Nat) : ∀ (bs : Bytes), bs.length = 2 * n → AllDigits bs → ∀ (off : Nat) (acc : List Bool),
    encodeWithColor.go true (modeOf true) (asciiRunes off bs) none acc =
      some (acc ++ ((pairs (digitsOf bs)).map (fun p => drawW (ilW p.1 p.2))).flatten) := by
  induction n with
  | zero =>
    intro bs hl _ off acc
    have : bs = [] := by simpa using hl
    subst this
    simp [asciiRunes, encodeWithColor.go, digitsOf, pairs]
  | succ n ih =>
    intro bs hl hd off acc
    match bs, hl with
    | b1 :: b2 :: bs, hl =>
      obtain ⟨hb1, hd'⟩ := hd.cons
      obtain ⟨hb2, hbs⟩ := hd'.cons
      have hlt1 : b1.toNat - 48 < 10 := by rw [isDigitByte_iff] at hb1; omega
      have hlt2 : b2.toNat - 48 < 10 := by rw [isDigitByte_iff] at hb2; omega
      simp only [asciiRunes, encodeWithColor.go, mapGet_byte b1 hb1, mapGet_byte b2 hb2, if_true]
      rw [ih bs (by simp only [List.length_cons] at hl; omega) hbs, il_draw _ _ hlt1 hlt2]
      simp [digitsOf, pairs]

/-! ### rejection -/

/-- a loop that succeeds has found every rune, and in interleaved mode the pending one, in the table -/
theorem go_keys (il : Bool) (m : Mode) (rs : List (Nat × Nat)) (last : Option Nat) (acc out : List Bool)
    (h : encodeWithColor.go il m rs last acc = some out) :
    (∀ p ∈ rs, mapGet table (p.2 : Int) ≠ none) ∧ (il = true → ∀ l ∈ last, mapGet table (l : Int) ≠ none) := by
  induction rs generalizing last acc with
  | nil =>
    cases last with
    | none => exact ⟨fun _ hp => (nomatch hp), fun _ _ hl => (nomatch hl)⟩
    | some l => rw [encodeWithColor.go] at h; cases h
  | cons q rs ih =>
    obtain ⟨k, r⟩ := q
    rw [List.forall_mem_cons]
    show (mapGet table (r : Int) ≠ none ∧ _) ∧ _
    cases il with
    | false =>
      simp only [encodeWithColor.go, Bool.false_eq_true, if_false] at h
      cases hr : mapGet table (r : Int) with
      | none => rw [hr] at h; cases h
      | some a => rw [hr] at h; exact ⟨⟨Option.some_ne_none a, (ih _ _ h).1⟩, fun hil => (nomatch hil)⟩
    | true =>
      cases last with
      | none =>
        simp only [encodeWithColor.go, if_true] at h
        exact ⟨⟨(ih _ _ h).2 rfl r rfl, (ih _ _ h).1⟩, fun _ _ hl => (nomatch hl)⟩
      | some l =>
        simp only [encodeWithColor.go, if_true] at h
        cases hl : mapGet table (l : Int) with
        | none => rw [hl] at h; cases h
        | some a =>
          cases hr : mapGet table (r : Int) with
          | none => rw [hl, hr] at h; cases h
          | some b =>
            rw [hl, hr] at h
            exact ⟨⟨Option.some_ne_none b, (ih _ _ h).1⟩, fun _ l' hl' => by cases hl'; rw [hl]; exact Option.some_ne_none a⟩

theorem encode_nondigit (content : Bytes) (il : Bool) (s : Scheme) (h : ¬ AllDigits content) :
    encodeWithColor content il s = .error .rejected := by
  unfold encodeWithColor
  split
  · rfl
  · split
    · rfl
    · cases hg : encodeWithColor.go il (modeOf il) (runes content) none (modeOf il).start with
      | none => simp only [hg]
      | some bits =>
        obtain ⟨p, hp, hn⟩ := exists_bad_key table_keys content h
        exact absurd hn ((go_keys _ _ _ _ _ _ hg).1 p hp)

/-! ### `EncodeWithColor` on accepted inputs -/


theorem pairs_lt (ds : List Nat) (hd : ∀ d ∈ ds, d < 10) : ∀ p ∈ pairs ds, p.1 < 10 ∧ p.2 < 10 := by
  match ds with
  | [] => simp [pairs]
  | [_] => simp [pairs]
  | a :: b :: rest =>
    intro p hp
    simp only [pairs, List.mem_cons] at hp
    rcases hp with hp | hp
    · rw [hp]; exact ⟨hd a (by simp), hd b (by simp)⟩
    · exact pairs_lt rest (fun d h => hd d (by simp [h])) p hp

/-- the data part of a symbol: groups of ten elements, each narrow (1) or wide (3) -/
def Groups (gs : List (List Nat)) : Prop := ∀ g ∈ gs, g.length = 10 ∧ ∀ w ∈ g, w = 1 ∨ w = 3

theorem groups_std (ds : List Nat) (hd : ∀ d ∈ ds, d < 10) : Groups (ds.map stdW) := by
  intro g hg
  obtain ⟨d, hd', rfl⟩ := List.mem_map.1 hg
  have h := hd d hd'
  rw [stdW_eq d h]
  exact ⟨zipW_length _ _ (pat_length d h) rfl, zipW_mem _ _⟩

theorem groups_il (ds : List Nat) (hd : ∀ d ∈ ds, d < 10) : Groups ((pairs ds).map (fun p => ilW p.1 p.2)) := by
  intro g hg
  obtain ⟨p, hp, rfl⟩ := List.mem_map.1 hg
  obtain ⟨h1, h2⟩ := pairs_lt ds hd p hp
  exact ⟨zipW_length _ _ (pat_length _ h1) (pat_length _ h2), zipW_mem _ _⟩

theorem Groups.even {gs : List (List Nat)} (h : Groups gs) : ∀ g ∈ gs, g.length % 2 = 0 := by
  intro g hg
  rw [(h g hg).1]

theorem Groups.pos {gs : List (List Nat)} (h : Groups gs) (a z : List Nat) (ha : ∀ w ∈ a, 0 < w)
    (hz : ∀ w ∈ z, 0 < w) : ∀ w ∈ a ++ gs.flatten ++ z, 0 < w := by
  intro w hw
  simp only [List.mem_append, List.mem_flatten] at hw
  rcases hw with (hw | ⟨g, hg, hw⟩) | hw
  · exact ha w hw
  · have := (h g hg).2 w hw
    omega
  · exact hz w hw

theorem Groups.narrow_or_wide {gs : List (List Nat)} (h : Groups gs) :
    gs.flatten.any (fun w => w ≠ 1 ∧ w ≠ 3) = false := by
  rw [List.any_eq_false]
  intro w hw
  obtain ⟨g, hg, hw⟩ := List.mem_flatten.1 hw
  have := (h g hg).2 w hw
  simp only [decide_eq_true_eq]
  omega

theorem Groups.draw {gs : List (List Nat)} (h : Groups gs) (a z : List Nat) (ha : a.length % 2 = 0) :
    drawW (a ++ gs.flatten ++ z) = drawW a ++ (gs.map drawW).flatten ++ drawW z := by
  have := flatten_length_even _ h.even
  rw [drawW_append _ _ (by rw [List.length_append]; omega), drawW_append _ _ ha, drawW_flatten _ h.even]

theorem encode_std (content : Bytes) (s : Scheme) (hne : content ≠ []) (hd : AllDigits content) :
    encodeWithColor content false s =
      .ok (mk1D "2 of 5" content (drawW (widthsStd (digitsOf content))) none s) := by
  unfold encodeWithColor
  have h0 : content.isEmpty = false := by cases content <;> simp_all
  simp only [h0, Bool.false_eq_true, if_false, Bool.false_and, runes_ascii _ hd.ascii, go_std content hd, Render.kind_2of5]
  congr 2
  rw [modes_draw.1, modes_draw.2.1, widthsStd, (groups_std _ (digitsOf_lt hd)).draw _ _ rfl, List.map_map]
  rfl

theorem encode_il (content : Bytes) (s : Scheme) (hne : content ≠ []) (hd : AllDigits content)
    (he : content.length % 2 = 0) :
    encodeWithColor content true s =
      .ok (mk1D "2 of 5 (interleaved)" content (drawW (widthsIl (digitsOf content))) none s) := by
  unfold encodeWithColor
  have h0 : content.isEmpty = false := by cases content <;> simp_all
  have h1 : ¬ ((true && content.length % 2 == 1) = true) := by simp [he]
  simp only [h0, Bool.false_eq_true, if_false, h1, runes_ascii _ hd.ascii,
    go_il (content.length / 2) content (by omega) hd, Render.kind_2of5il, if_true]
  congr 2
  rw [modes_draw.2.2.1, modes_draw.2.2.2, widthsIl, (groups_il _ (digitsOf_lt hd)).draw _ _ rfl, List.map_map]
  rfl

/-! ### decoding the drawn symbols -/

theorem digitsOf_runes (content : Bytes) (hd : AllDigits content) :
    (digitsOf content).map (48 + ·) = content.map (·.toNat) := by
  simp only [digitsOf, List.map_map]
  apply List.map_congr_left
  intro b hb
  have := (isDigitByte_iff b).1 (hd b hb)
  simp only [Function.comp]
  omega

theorem decode_std (ds : List Nat) (hd : ∀ d ∈ ds, d < 10) :
    tofDecodeStandard (drawW (widthsStd ds)) = .ok (ds.map (48 + ·)) := by
  have hg := groups_std ds hd
  have hlen : ∀ g ∈ ds.map stdW, g.length = 10 := fun g h => (hg g h).1
  rw [tofDecodeStandard_widths (drawW (widthsStd ds)) ((ds.map stdW).flatten)
    (widths_drawW _ (hg.pos startStd stopStd (by decide) (by decide)))
    (by rw [flatten_length_const 10 _ hlen]; omega)]
  exact mapM_splitEvery 10 (by omega) stdStep stdW _ ds fun d hd' =>
    ⟨hlen _ (List.mem_map_of_mem hd'), stdStep_digit d (hd d hd')⟩

theorem flatten_pairs (ds : List Nat) (h : ds.length % 2 = 0) :
    ((pairs ds).map (fun p => [48 + p.1, 48 + p.2])).flatten = ds.map (48 + ·) := by
  match ds with
  | [] => rfl
  | [_] => simp at h
  | a :: b :: rest =>
    simp only [pairs, List.map_cons, List.flatten_cons, List.cons_append, List.nil_append]
    rw [flatten_pairs rest (by simp only [List.length_cons] at h; omega)]

theorem decode_il (ds : List Nat) (hd : ∀ d ∈ ds, d < 10) (he : ds.length % 2 = 0) :
    tofDecodeInterleaved (drawW (widthsIl ds)) = .ok (ds.map (48 + ·)) := by
  have hp := pairs_lt ds hd
  have hg := groups_il ds hd
  have hlen : ∀ g ∈ (pairs ds).map (fun p => ilW p.1 p.2), g.length = 10 := fun g h => (hg g h).1
  rw [tofDecodeInterleaved_widths (drawW (widthsIl ds)) _
      (widths_drawW _ (hg.pos startIl stopIl (by decide) (by decide)))
      (by rw [flatten_length_const 10 _ hlen]; omega) hg.narrow_or_wide,
    mapM_splitEvery 10 (by omega) ilStep _ (fun p : Nat × Nat => [48 + p.1, 48 + p.2]) _ fun p hp' =>
      ⟨hlen _ (List.mem_map_of_mem hp'), ilStep_digits p.1 p.2 (hp p hp').1 (hp p hp').2⟩]
  show Except.ok _ = _
  rw [flatten_pairs ds he]

/-! ### `AddCheckSum` -/

theorem addCheckSum_go_digits (bs : Bytes) (hd : AllDigits bs) (off : Nat) (even : Bool) (sum : Int) :
    addCheckSum.go (asciiRunes off bs) even sum = some (sum + (altB (digitsOf bs) even : Nat)) := by
  induction bs generalizing off even sum with
  | nil => simp [asciiRunes, addCheckSum.go, digitsOf, altB]
  | cons b bs ih =>
    obtain ⟨hb, hbs⟩ := hd.cons
    simp only [asciiRunes, addCheckSum.go, mapGet_byte b hb, runeToInt_digit b hb]
    rw [ih hbs]
    congr 1
    simp only [digitsOf, List.map_cons, altB]
    cases even <;> simp <;> omega

theorem addCheckSum_go_keys (rs : List (Nat × Nat)) (even : Bool) (sum out : Int)
    (h : addCheckSum.go rs even sum = some out) : ∀ p ∈ rs, mapGet table (p.2 : Int) ≠ none := by
  induction rs generalizing even sum with
  | nil => intro p hp; cases hp
  | cons q rs ih =>
    obtain ⟨k, r⟩ := q
    rw [addCheckSum.go] at h
    rw [List.forall_mem_cons]
    show mapGet table (r : Int) ≠ none ∧ _
    cases hr : mapGet table (r : Int) with
    | none => rw [hr] at h; cases h
    | some a => rw [hr] at h; exact ⟨Option.some_ne_none a, ih _ _ h⟩

/-- the digit `AddCheckSum` appends -/
def checkDigit (ds : List Nat) : Nat := (10 - alt ds.reverse 3 % 10) % 10

theorem checkDigit_lt (ds : List Nat) : checkDigit ds < 10 := by unfold checkDigit; omega

/-- it is the GS1 check digit of the reference -/
theorem checkDigit_eq_gs1Check (ds : List Nat) : checkDigit ds = gs1Check ds := by
  rw [gs1Check, gs1_go_eq, Nat.zero_add, checkDigit]

theorem checkDigit_spec (ds : List Nat) : tofWeightedSum (ds ++ [checkDigit ds]) % 10 = 0 := by
  rw [tofWeightedSum, List.reverse_append, List.reverse_singleton, List.singleton_append, tof_go_eq, alt]
  simp only [checkDigit, Nat.zero_add, Nat.mul_one, show 4 - 1 = 3 from rfl]
  omega

theorem addCheckSum_digits (content : Bytes) (hne : content ≠ []) (hd : AllDigits content) :
    addCheckSum content = some (content ++ [digitByte (checkDigit (digitsOf content))]) := by
  unfold addCheckSum
  have h0 : content.isEmpty = false := by cases content <;> simp_all
  simp only [h0, Bool.false_eq_true, if_false, runes_ascii _ hd.ascii, addCheckSum_go_digits content hd]
  have hw : wt ((content.length % 2 == 1) ^^ ((digitsOf content).length % 2 == 0)) = 3 := by
    rw [digitsOf_length]
    rcases Nat.mod_two_eq_zero_or_one content.length with h | h <;> simp [h, wt]
  rw [altB_eq_alt_reverse, hw, Int.zero_add, intToRune_check]
  show some (content ++ encodeRune (48 + checkDigit (digitsOf content))) = _
  rw [encodeRune_digit _ (checkDigit_lt _)]

theorem addCheckSum_bad (content : Bytes) (h : content = [] ∨ ¬ AllDigits content) : addCheckSum content = none := by
  rcases h with h | h
  · subst h; rfl
  · unfold addCheckSum
    split
    · rfl
    · cases hg : addCheckSum.go (runes content) (content.length % 2 == 1) 0 with
      | none => rfl
      | some sum =>
        obtain ⟨p, hp, hn⟩ := exists_bad_key table_keys content h
        exact absurd hn (addCheckSum_go_keys _ _ _ _ hg p hp)

/-! ### vocabulary of the property -/

/-- the inputs the 2-of-5 encoder must accept: a non-empty ASCII digit string, of even length when interleaved -/
def Accepts (c : Bytes) (interleaved : Bool) : Prop :=
  c ≠ [] ∧ AllDigits c ∧ (interleaved = true → c.length % 2 = 0)

instance (c : Bytes) (il : Bool) : Decidable (Accepts c il) := by unfold Accepts; infer_instance

/-- the barcode the encoder must return -/
def expected (c : Bytes) (interleaved : Bool) (s : Scheme) : Barcode :=
  mk1D (if interleaved then "2 of 5 (interleaved)" else "2 of 5") c
    (drawW (if interleaved then widthsIl (digitsOf c) else widthsStd (digitsOf c))) none s

theorem encode_accepts (c : Bytes) (il : Bool) (s : Scheme) (h : Accepts c il) :
    encodeWithColor c il s = .ok (expected c il s) := by
  obtain ⟨hne, hd, he⟩ := h
  cases il with
  | false => rw [encode_std c s hne hd]; rfl
  | true => rw [encode_il c s hne hd (he rfl)]; rfl

theorem encode_rejects (c : Bytes) (il : Bool) (s : Scheme) (h : ¬ Accepts c il) :
    encodeWithColor c il s = .error .rejected := by
  by_cases hd : AllDigits c
  · by_cases hne : c = []
    · subst hne; rfl
    · have he : ¬ (il = true → c.length % 2 = 0) := fun he => h ⟨hne, hd, he⟩
      have hil : il = true := by cases il <;> simp_all
      have hodd : c.length % 2 = 1 := by
        have : ¬ c.length % 2 = 0 := fun h0 => he (fun _ => h0)
        omega
      unfold encodeWithColor
      simp [hil, hodd]
  · exact encode_nondigit c il s hd

end BV.Proofs.Twooffive
