/-
  Symbolic placement run for the DataMatrix proofs (C02, item 6).

  `DmSym.run nrow ncol ncw` walks the mapping matrix exactly like `CodeLayout.setValues` and like the Annex F
  program of the reference, but instead of bits it records *which* codeword bit goes to which cell:
  a log of `(cell, tag)` with `tag = 10·chr + bit` (chr = 1…, bit = 1…8; 1 = fixed dark module) plus an
  occupancy bitmask (a `Nat`, bit `i` for cell `i`).
  It answers `none` whenever anything happens on which the implementation and the reference could differ:
  a cell written twice, a cell or an occupancy test outside the matrix, more codewords than expected, fuel
  exhausted.  `BV.Proofs.DmPlaceM` / `DmPlaceS` prove that a run answering `some` describes both.
-/
import BV.Base
namespace BV.Proofs.DmSym

structure PS where
  occ : Nat                  -- bit i set ⇔ cell i (row-major) has been written
  log : List (Nat × Nat)     -- (cell, tag), newest first

/-- the tag recorded for a cell (0 = never written) -/
def tagAt : List (Nat × Nat) → Nat → Nat
  | [], _ => 0
  | (j, t) :: rest, i => if j = i then t else tagAt rest i

/-- the two wrap-around rules of `Set` / `module` for negative coordinates -/
def wrap (nrow ncol : Nat) (row col : Int) : Int × Int :=
  match (if row < 0 then (row + nrow, col + (4 - (((nrow + 4) % 8 : Nat) : Int))) else (row, col) : Int × Int) with
  | (r, c) => if c < 0 then (r + (4 - (((ncol + 4) % 8 : Nat) : Int)), c + ncol) else (r, c)

/-- `Set` / `module`: wrap negative coordinates, then record `tag` at the cell, which must be inside the
    matrix and free -/
def PS.set (nrow ncol : Nat) (st : PS) (row col : Int) (tag : Nat) : Option PS :=
  match wrap nrow ncol row col with
  | (r, c) =>
    match c + r * ncol with
    | .ofNat i =>
      if i < nrow * ncol then
        if st.occ.testBit i then none
        else some { occ := st.occ ||| (1 <<< i), log := (i, tag) :: st.log }
      else none
    | .negSucc _ => none

/-- the eight bits of codeword `chr` on the listed positions -/
def PS.shape (nrow ncol : Nat) (st : PS) (ps : List ((Int × Int) × Nat)) (chr : Nat) : Option PS :=
  ps.foldlM (fun st p => st.set nrow ncol p.1.1 p.1.2 (10 * chr + (p.2 + 1))) st

def utahPos (row col : Int) : List (Int × Int) :=
  [(row - 2, col - 2), (row - 2, col - 1), (row - 1, col - 2), (row - 1, col - 1), (row - 1, col),
   (row, col - 2), (row, col - 1), (row, col)]

def corner1Pos (n m : Int) : List (Int × Int) :=
  [(n-1, 0), (n-1, 1), (n-1, 2), (0, m-2), (0, m-1), (1, m-1), (2, m-1), (3, m-1)]
def corner2Pos (n m : Int) : List (Int × Int) :=
  [(n-3, 0), (n-2, 0), (n-1, 0), (0, m-4), (0, m-3), (0, m-2), (0, m-1), (1, m-1)]
def corner3Pos (n m : Int) : List (Int × Int) :=
  [(n-3, 0), (n-2, 0), (n-1, 0), (0, m-2), (0, m-1), (1, m-1), (2, m-1), (3, m-1)]
def corner4Pos (n m : Int) : List (Int × Int) :=
  [(n-1, 0), (n-1, m-1), (0, m-3), (0, m-2), (0, m-1), (1, m-3), (1, m-2), (1, m-1)]

/-- `if guard { shape(ps, data[idx]); idx++ }` -/
def stepIf (nrow ncol ncw : Nat) (guard : Bool) (st : PS × Nat) (ps : List (Int × Int)) : Option (PS × Nat) :=
  if guard then
    if st.2 < ncw then (st.1.shape nrow ncol ps.zipIdx (st.2 + 1)).map (fun s => (s, st.2 + 1)) else none
  else some st

/-- `if inRange && !occupied(row, col) { utah(row, col, data[idx]); idx++ }` -/
def place (nrow ncol ncw : Nat) (inRange : Bool) (st : PS) (idx : Nat) (row col : Int) : Option (PS × Nat) :=
  if inRange then
    match col + row * ncol with
    | .ofNat i =>
      if i < nrow * ncol then
        if st.occ.testBit i then some (st, idx)
        else stepIf nrow ncol ncw true (st, idx) (utahPos row col)
      else none
    | .negSucc _ => none
  else some (st, idx)

abbrev WS := PS × Nat × Int × Int

def sweepUp (nrow ncol ncw : Nat) : Nat → WS → Option WS
  | 0, _ => none
  | fuel + 1, (st, idx, row, col) =>
    match place nrow ncol ncw (decide (row < nrow ∧ col ≥ 0)) st idx row col with
    | none => none
    | some (st, idx) =>
      let row := row - 2
      let col := col + 2
      if row < 0 ∨ col ≥ ncol then some (st, idx, row, col)
      else sweepUp nrow ncol ncw fuel (st, idx, row, col)

def sweepDown (nrow ncol ncw : Nat) : Nat → WS → Option WS
  | 0, _ => none
  | fuel + 1, (st, idx, row, col) =>
    match place nrow ncol ncw (decide (row ≥ 0 ∧ col < ncol)) st idx row col with
    | none => none
    | some (st, idx) =>
      let row := row + 2
      let col := col - 2
      if row ≥ nrow ∨ col < 0 then some (st, idx, row, col)
      else sweepDown nrow ncol ncw fuel (st, idx, row, col)

/-- one round of the outer loop (the caller has checked `row < nrow ∨ col < ncol`) -/
def round (nrow ncol ncw : Nat) (w : WS) : Option WS :=
  let (st, idx, row, col) := w
  let n : Int := nrow
  let m : Int := ncol
  match stepIf nrow ncol ncw (decide (row = n ∧ col = 0)) (st, idx) (corner1Pos n m) with
  | none => none
  | some s1 =>
  match stepIf nrow ncol ncw (decide (row = n - 2 ∧ col = 0 ∧ ncol % 4 ≠ 0)) s1 (corner2Pos n m) with
  | none => none
  | some s2 =>
  match stepIf nrow ncol ncw (decide (row = n - 2 ∧ col = 0 ∧ ncol % 8 = 4)) s2 (corner3Pos n m) with
  | none => none
  | some s3 =>
  match stepIf nrow ncol ncw (decide (row = n + 4 ∧ col = 2 ∧ ncol % 8 = 0)) s3 (corner4Pos n m) with
  | none => none
  | some s4 =>
  if row.toNat / 2 + 2 > nrow + ncol then none else
  match sweepUp nrow ncol ncw (row.toNat / 2 + 2) (s4.1, s4.2, row, col) with
  | none => none
  | some (st, idx, row, col) =>
  let row := row + 1
  let col := col + 3
  if col.toNat / 2 + 2 > nrow + ncol then none else
  match sweepDown nrow ncol ncw (col.toNat / 2 + 2) (st, idx, row, col) with
  | none => none
  | some (st, idx, row, col) => some (st, idx, row + 3, col + 1)

def mainLoop (nrow ncol ncw : Nat) : Nat → WS → Option (PS × Nat)
  | 0, _ => none
  | fuel + 1, w =>
    if w.2.2.1 < nrow ∨ w.2.2.2 < ncol then
      match round nrow ncol ncw w with
      | none => none
      | some w' => mainLoop nrow ncol ncw fuel w'
    else some (w.1, w.2.1)

/-- the whole run: the walk, then the fixed pattern in the lower right corner if that corner is still free;
    answers `some` only if exactly `ncw` codewords were placed and every cell is accounted for -/
def run (nrow ncol ncw : Nat) : Option PS :=
  if nrow < 2 ∨ ncol < 2 then none else
  match mainLoop nrow ncol ncw (nrow + ncol) ({ occ := 0, log := [] }, 0, 4, 0) with
  | none => none
  | some (st, idx) =>
    let total := nrow * ncol
    let last := total - 1
    if idx ≠ ncw ∨ st.log.length ≠ 8 * idx then none
    else if st.occ.testBit last then
      if st.log.length = total then some st else none
    else if st.log.length + 4 = total ∧ !st.occ.testBit (last - 1) ∧ !st.occ.testBit (last - ncol) ∧
        !st.occ.testBit (last - ncol - 1) then
      match st.set nrow ncol ((nrow : Int) - 1) ((ncol : Int) - 1) 1 with
      | none => none
      | some st => st.set nrow ncol ((nrow : Int) - 2) ((ncol : Int) - 2) 1
    else none

end BV.Proofs.DmSym
