/-
  RenderQr — C11 for QR Code: the colour scheme only ever sits in the `color` field of the nine bitmaps of
  `render`; every drawing step commutes with recolouring, the walk over the free modules and the penalties
  do not read it.
-/
import BV.Proofs.Render
import BV.Proofs.QrRender
namespace BV.Proofs.RenderQr
open BV BV.Model BV.Model.Qr BV.Gen.Qr BV.Proofs.Render BV.Proofs.QrRender

def qrecolor (s : Scheme) (q : QRCode) : QRCode := { q with color := s }

def srecolor (s : Scheme) (st : RenderState) : RenderState :=
  { occupied := qrecolor s st.occupied, results := st.results.map (qrecolor s) }

theorem modify_map (s : Scheme) (a : Array QRCode) (i : Nat) (g : QRCode → QRCode)
    (hg : ∀ q, g (qrecolor s q) = qrecolor s (g q)) :
    (a.map (qrecolor s)).modify i g = (a.modify i g).map (qrecolor s) := by
  apply Array.ext
  · simp
  · intro j h1 h2
    simp only [Array.getElem_modify, Array.getElem_map]
    split
    · exact hg _
    · rfl

theorem set_qrecolor (s : Scheme) (x y : Nat) (v : Bool) (q : QRCode) :
    QRCode.set x y v (qrecolor s q) = qrecolor s (QRCode.set x y v q) := rfl

theorem setMasked_qrecolor (s : Scheme) (x y : Nat) (v : Bool) (m : Nat) (q : QRCode) :
    setMasked x y v m QRCode.set (qrecolor s q) = qrecolor s (setMasked x y v m QRCode.set q) := rfl

theorem modifyAll_map (s : Scheme) (g : Nat → QRCode → QRCode)
    (hg : ∀ i q, g i (qrecolor s q) = qrecolor s (g i q)) (l : List Nat) (a : Array QRCode) :
    l.foldl (fun (rs : Array QRCode) i => rs.modify i (g i)) (a.map (qrecolor s)) =
      (l.foldl (fun (rs : Array QRCode) i => rs.modify i (g i)) a).map (qrecolor s) :=
  foldl_comm (Array.map (qrecolor s)) _ (fun a i => modify_map s a i (g i) (hg i)) l a

theorem setAll_comm (s : Scheme) (x y : Nat) (v : Bool) (st : RenderState) :
    setAll x y v (srecolor s st) = srecolor s (setAll x y v st) := by
  unfold setAll srecolor
  simp only []
  rw [modifyAll_map s (fun _ => QRCode.set x y v) (fun _ _ => rfl)]
  rfl

theorem setResult_comm (s : Scheme) (i x y : Nat) (v : Bool) (st : RenderState) :
    setResult i x y v (srecolor s st) = srecolor s (setResult i x y v st) := by
  unfold setResult srecolor
  simp only []
  rw [modify_map s _ i (QRCode.set x y v) (fun _ => rfl)]

theorem setOccupied_comm (s : Scheme) (x y : Nat) (v : Bool) (st : RenderState) :
    setOccupied x y v (srecolor s st) = srecolor s (setOccupied x y v st) := rfl

theorem pushN_map (s s0 : Scheme) (dim : Nat) : ∀ (n : Nat),
    (List.range n).foldl (fun (a : Array QRCode) _ => a.push (newBarCodeWithColor dim s)) #[] =
      ((List.range n).foldl (fun (a : Array QRCode) _ => a.push (newBarCodeWithColor dim s0)) #[]).map (qrecolor s) := by
  intro n
  induction n with
  | zero => simp
  | succ n ih =>
    rw [List.range_succ, List.foldl_append, List.foldl_append, ih]
    simp only [List.foldl_cons, List.foldl_nil, Array.map_push]
    rfl

/-- the function-pattern phase: the two runs start in states that differ in the colour scheme only, and every
    closure of `render` commutes with recolouring -/
theorem drawn_recolor (vi : VersionInfo) (s s0 : Scheme) : drawn vi s = srecolor s (drawn vi s0) := by
  have h0 : blankState vi.modulWidth s = srecolor s (blankState vi.modulWidth s0) := by
    unfold srecolor blankState
    rw [pushN_map s s0]
    rfl
  rw [drawn_eq_drawnG, drawn_eq_drawnG]
  exact QrCoords.drawnG_rel (fun a b => a = srecolor s b) (fun _ => True) vi (fun _ _ => trivial)
    (fun _ _ _ _ _ h => h ▸ rfl) (fun x y v _ _ _ h => h ▸ setAll_comm s x y v _)
    (fun x y v _ _ _ h => h ▸ setOccupied_comm s x y v _) (fun i x y v _ _ _ _ h => h ▸ setResult_comm s i x y v _)
    _ _ h0

theorem iterateModules_qrecolor (s : Scheme) (q : QRCode) : iterateModules (qrecolor s q) = iterateModules q := rfl

theorem written_recolor (data : List Nat) (s : Scheme) (st : RenderState) :
    written data (srecolor s st) = ((written data st).1.map (qrecolor s), (written data st).2) := by
  unfold written
  simp only
  rw [show (srecolor s st).occupied = qrecolor s st.occupied from rfl, iterateModules_qrecolor,
    ← Array.foldl_toList, ← Array.foldl_toList]
  exact foldl_comm (fun acc : Array QRCode × Nat => (acc.1.map (qrecolor s), acc.2)) _ (by
    intro acc pos
    obtain ⟨rs, n⟩ := acc
    simp only
    rw [modifyAll_map s (fun i => setMasked pos.1 pos.2 _ i QRCode.set) (fun _ _ => rfl)]) _ (st.results, 0)

theorem calcPenalty_qrecolor (s : Scheme) (q : QRCode) : (qrecolor s q).calcPenalty = q.calcPenalty := by
  cases q; rfl

theorem penStep_recolor (s s0 : Scheme) (rs : Array QRCode) (acc : Option Nat × Option Nat) (i : Nat) :
    penStep s (rs.map (qrecolor s)) acc i = penStep s0 rs acc i := by
  unfold penStep
  have : (rs.map (qrecolor s)).getD i (newBarCodeWithColor 0 s) = qrecolor s (rs.getD i (newBarCodeWithColor 0 s0)) := by
    simp only [Array.getD_eq_getD_getElem?, Array.getElem?_map]
    cases rs[i]? <;> rfl
  rw [this, calcPenalty_qrecolor]

theorem selectMask_recolor (s s0 : Scheme) (rs : Array QRCode) (n : Nat) :
    selectMask s (rs.map (qrecolor s), n) = (selectMask s0 (rs, n)).map (fun p => (qrecolor s p.1, p.2)) := by
  unfold selectMask
  simp only
  have : (List.range 8).foldl (penStep s (rs.map (qrecolor s))) (none, none) =
      (List.range 8).foldl (penStep s0 rs) (none, none) := by
    rw [show penStep s (rs.map (qrecolor s)) = penStep s0 rs from
      funext fun acc => funext fun i => penStep_recolor s s0 rs acc i]
  rw [this]
  split
  · rfl
  · rw [Array.getElem?_map]
    rename_i i _
    cases rs[i]? <;> rfl

theorem renderWithMask_recolor (data : List Nat) (vi : VersionInfo) (s s0 : Scheme) :
    renderWithMask data vi s = (renderWithMask data vi s0).map (fun p => (qrecolor s p.1, p.2)) := by
  rw [renderWithMask_eq, renderWithMask_eq, drawn_recolor vi s s0, written_recolor, selectMask_recolor s s0]

theorem toBarcode_qrecolor (s : Scheme) (q : QRCode) : (qrecolor s q).toBarcode = Barcode.recolor s q.toBarcode := rfl

theorem qr_map (content : Bytes) (level mode : Nat) (s : Scheme) :
    Qr.encodeWithColor content level mode s = (Qr.encode content level mode).map (Barcode.recolor s) := by
  unfold Qr.encode Qr.encodeWithColor encodeQR
  split
  · rfl
  · split
    · rfl
    · rename_i bits vi _
      simp only [bind, Except.bind]
      cases splitToBlocks (iterateBytes bits) vi with
      | error e => rfl
      | ok blocks =>
        simp only []
        rw [renderWithMask_recolor _ _ s scheme16]
        cases renderWithMask (interleave blocks vi) vi scheme16 with
        | error e => rfl
        | ok r => rfl

end BV.Proofs.RenderQr
