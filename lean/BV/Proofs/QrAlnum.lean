/-
  BV.Proofs.QrAlnum — alphanumeric mode of the QR bit stream (property C01): what `Model.Qr.encodeAlphaNumeric`
  writes for a content made of the 45 characters is the sequence of pairs (and a trailing single character) of
  their values, and the segment is read back by `Spec.Qr.parseAlnum` as the same bytes.
-/
import BV.Proofs.QrStream
import BV.Proofs.QrAccept
namespace BV.Proofs.QrAlnum
open BV BV.Model.Qr BV.Spec.Qr BV.Proofs.Bits BV.Proofs.QrStreamA BV.Proofs.QrStream BV.Proofs.QrAccept
open BV.Gen.Qr

/-- the bits of an alphanumeric segment: pairs in 11 bits, a trailing single character in 6 -/
def pairBits : List Nat → List Bool
  | a :: b :: rest => msbBits (a * 45 + b) 11 ++ pairBits rest
  | [a] => msbBits a 6
  | [] => []

theorem alnumSeg_vals (vals : List Nat) :
    alnumSeg vals.length (vals.map (fun v : Nat => (v : Int))) = some (pairBits vals) := by
  rw [alnumSeg_eq, if_pos (fun i _ => getD_natCast_nonneg vals _ i)]
  congr 1
  induction vals using pairBits.induct with
  | case1 a b rest ih =>
    have e1 : (rest.length + 1 + 1) / 2 = rest.length / 2 + 1 := by omega
    have e2 : (rest.length + 1 + 1) % 2 = rest.length % 2 := by omega
    have e3 : 2 * (rest.length / 2 + 1) = 2 + 2 * (rest.length / 2) := by omega
    have e4 : ∀ ch : List Int, ch.getD (2 + 2 * (rest.length / 2)) 0 = (ch.drop 2).getD (2 * (rest.length / 2)) 0 :=
      fun ch => (getD_drop ch 2 _).symm
    simp only [List.length_cons, e1, e2, e3, e4, List.range_succ_eq_map, List.flatMap_cons, List.flatMap_map,
      pairAt_succ, List.map_cons, List.drop_succ_cons, List.drop_zero, pairBits, List.append_assoc]
    rw [← ih]
    congr 1
  | case2 a => simp [pairBits]
  | case3 => rfl

theorem parseAlnum_zero (bits : Array Bool) (fuel p : Nat) : parseAlnum bits fuel 0 p = .ok ([], p) := by
  cases fuel <;> simp [parseAlnum]

theorem parseAlnum_pair (bits : Array Bool) (fuel n p : Nat) (hn : 2 ≤ n) (hfit : p + 11 ≤ bits.size)
    (hv : bitsToNatAt bits p 11 < 45 * 45) (rest : Bytes) (p' : Nat)
    (hrec : parseAlnum bits fuel (n - 2) (p + 11) = .ok (rest, p')) :
    parseAlnum bits (fuel + 1) n p =
      .ok (alnumChars.getD (bitsToNatAt bits p 11 / 45) 0 :: alnumChars.getD (bitsToNatAt bits p 11 % 45) 0 :: rest,
        p') := by
  rw [parseAlnum]
  have e : (n == 0) = false := by simp; omega
  simp only [e, Bool.false_eq_true, if_false]
  rw [if_pos (by omega), if_neg (by omega), if_neg (by omega), hrec]
  rfl

theorem parseAlnum_single (bits : Array Bool) (fuel p : Nat) (hfit : p + 6 ≤ bits.size)
    (hv : bitsToNatAt bits p 6 < 45) :
    parseAlnum bits (fuel + 1) 1 p = .ok ([alnumChars.getD (bitsToNatAt bits p 6) 0], p + 6) := by
  rw [parseAlnum]
  simp only [show (1 == 0) = false from rfl, Bool.false_eq_true, if_false]
  rw [if_neg (by omega), if_neg (by omega), if_neg (by omega)]

theorem parseAlnum_body (vals : List Nat) : (∀ v ∈ vals, v < 45) →
    ∀ (pfuel : Nat) (pre post : List Bool), vals.length < pfuel →
      parseAlnum (pre ++ (pairBits vals ++ post)).toArray pfuel vals.length pre.length =
        .ok (vals.map (fun v => alnumChars.getD v 0), pre.length + (pairBits vals).length) := by
  induction vals using pairBits.induct with
  | case1 a b rest ih =>
    intro hv pfuel pre post hp
    obtain ⟨pf, rfl⟩ : ∃ pf, pfuel = pf + 1 := ⟨pfuel - 1, by omega⟩
    have ha := hv a (by simp)
    have hb := hv b (by simp)
    have hread := readAt_msbBits pre (pairBits rest ++ post) (a * 45 + b) 11 (by omega)
    have hrec := ih (fun v h => hv v (by simp [h])) pf (pre ++ msbBits (a * 45 + b) 11) post
      (by simp at hp; omega)
    simp only [List.length_append, length_msbBits, List.append_assoc] at hrec
    simp only [pairBits, List.append_assoc, List.length_cons, List.length_append, length_msbBits,
      List.map_cons]
    have := parseAlnum_pair (pre ++ (msbBits (a * 45 + b) 11 ++ (pairBits rest ++ post))).toArray pf
      (rest.length + 1 + 1) pre.length (by omega) (by simp) (by rw [bitsToNatAt_eq, hread]; omega) _ _
      (by simpa using hrec)
    rw [bitsToNatAt_eq, hread] at this
    rw [this]
    have e1 : (a * 45 + b) / 45 = a := by omega
    have e2 : (a * 45 + b) % 45 = b := by omega
    rw [e1, e2]
    congr 2
    omega
  | case2 a =>
    intro hv pfuel pre post hp
    obtain ⟨pf, rfl⟩ : ∃ pf, pfuel = pf + 1 := ⟨pfuel - 1, by omega⟩
    have ha := hv a (by simp)
    have hread := readAt_msbBits pre post a 6 (by omega)
    have := parseAlnum_single (pre ++ (msbBits a 6 ++ post)).toArray pf pre.length (by simp)
      (by rw [bitsToNatAt_eq, hread]; exact ha)
    rw [bitsToNatAt_eq, hread] at this
    simpa [pairBits] using this
  | case3 =>
    intro _ pfuel pre post _
    simpa [pairBits] using parseAlnum_zero _ pfuel pre.length

theorem map_alnumChars_alnumVal {content : Bytes} (h : ∀ b ∈ content, b ∈ c_charSet) :
    (content.map alnumVal).map (fun v => alnumChars.getD v 0) = content := by
  rw [List.map_map]
  conv => rhs; rw [← List.map_id content]
  exact List.map_congr_left (fun b hb => (alnumVal_spec (h b hb)).2)

/-- the payload of an accepted content is `pairBits` of the values of its bytes, and `parseAlnum` reads it back
    as the content, wherever it stands -/
theorem alnumSeg_accepted {content : Bytes} {p : List Bool}
    (h : alnumSeg content.length (stringToAlphaIdx content) = some p) :
    (∀ b ∈ content, b ∈ c_charSet) ∧ p = pairBits (content.map alnumVal) ∧
    ∀ pre post : List Bool, parseAlnum (pre ++ (p ++ post)).toArray (content.length + 1) content.length
      pre.length = .ok (content, pre.length + p.length) := by
  have hmem : ∀ b ∈ content, b ∈ c_charSet := by
    rw [← alpha_receives_ok]
    rw [alnumSeg_eq] at h
    split at h
    · assumption
    · cases h
  have hp : p = pairBits (content.map alnumVal) := by
    rw [stringToAlphaIdx_of_mem hmem] at h
    have := alnumSeg_vals (content.map alnumVal)
    rw [List.length_map, List.map_map] at this
    exact Option.some.inj (h.symm.trans this)
  refine ⟨hmem, hp, fun pre post => ?_⟩
  have := parseAlnum_body (content.map alnumVal)
    (fun v hv => by
      obtain ⟨b, hb, rfl⟩ := List.mem_map.mp hv
      exact (alnumVal_spec (hmem b hb)).1)
    (content.length + 1) pre post (by simp)
  rwa [List.length_map, map_alnumChars_alnumVal hmem, ← hp] at this

end BV.Proofs.QrAlnum
