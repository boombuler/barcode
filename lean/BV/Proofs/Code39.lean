/-
  BV.Proofs.Code39 — Code 39: table certificates, drawing, check character, full-ASCII pairs, round trip through
  `Spec.OneD.c39Decode`.
-/
import BV.Model.Code39
import BV.Proofs.Bars
import BV.Proofs.ShiftCode
namespace BV.Proofs.Code39
open BV BV.Model BV.Model.Code39 BV.Spec.OneD BV.Proofs.Utf8 BV.Proofs.Bars BV.Proofs.Pairs BV.Proofs.ShiftCode

/-! ### table certificates -/

/-- decoding of one 13-module group (12-module character + gap), as in `c39Decode` -/
def c39Group (grp : List Bool) : Except String Char := do
  if grp.getLastD true then throw "inter-character gap is not a narrow space"
  let ws ← match widthsFromBar (runLengths grp.dropLast) with
    | some ws => pure ws
    | none => throw "character does not start with a bar"
  if ws.length ≠ 9 ∨ ws.any (fun w => w ≠ 1 ∧ w ≠ 2) then throw "character is not 9 narrow/wide elements"
  match c39Lookup (ws.map (· == 2)) with
  | some c => pure c
  | none => throw "unknown character pattern"

/-- certificate (44 entries): every table entry is an ASCII character with a 12-module pattern that, followed by a
    narrow gap, the reference decoder reads as this character; the pattern consists of the nine elements of the
    reference pattern `c39Pattern` (bar first; narrow = 1 module, wide = 2 modules); its value is the reference value
    `c39Value`; only `*` has no value -/
theorem cert_table : ∀ e ∈ table, e.1 < 128 ∧ (Char.ofNat e.1.toNat).toNat = e.1.toNat ∧ e.2.2.length = 12 ∧
    OneD.isOk (c39Group (e.2.2 ++ [false])) (Char.ofNat e.1.toNat) = true ∧
    (c39Pattern (Char.ofNat e.1.toNat)).map (fun p => expand true (p.map (fun w => if w then 2 else 1))) =
      some e.2.2 ∧
    (e.1 ≠ 42 → 0 ≤ e.2.1 ∧ e.2.1 < 43 ∧ c39Value (Char.ofNat e.1.toNat) = some e.2.1.toNat) := by
  decide +kernel

def barsOf (r : Nat) : List Bool := match mapGet table (r : Int) with | some (_, b) => b | none => []
def valOf (r : Nat) : Int := match mapGet table (r : Int) with | some (v, _) => v | none => -1
def InTable (r : Nat) : Prop := (mapGet table (r : Int)).isSome = true
/-- the 43 data characters -/
def Alpha43 (r : Nat) : Prop := InTable r ∧ r ≠ 42

instance (r : Nat) : Decidable (InTable r) := by unfold InTable; infer_instance
instance (r : Nat) : Decidable (Alpha43 r) := by unfold Alpha43; infer_instance

/-- what `cert_table` says of the entry `(v, b)` of the rune `r` -/
structure Entry (r : Nat) (v : Int) (b : List Bool) : Prop where
  barsOf_eq : barsOf r = b
  valOf_eq : valOf r = v
  lt : r < 128
  toNat_ofNat : (Char.ofNat r).toNat = r
  length : b.length = 12
  group : c39Group (b ++ [false]) = .ok (Char.ofNat r)
  pattern : (c39Pattern (Char.ofNat r)).map (fun p => expand true (p.map (fun w => if w then 2 else 1))) = some b
  value : r ≠ 42 → 0 ≤ v ∧ v < 43 ∧ c39Value (Char.ofNat r) = some v.toNat

theorem entry {r : Nat} {v : Int} {b : List Bool} (h : mapGet table (r : Int) = some (v, b)) : Entry r v b := by
  have hb : barsOf r = b := by unfold barsOf; rw [h]
  have hv : valOf r = v := by unfold valOf; rw [h]
  have := cert_table _ (mem_of_mapGet h)
  simp only [Int.toNat_natCast] at this
  obtain ⟨h1, h2, h3, h4, h5, h6⟩ := this
  exact ⟨hb, hv, by omega, h2, h3, OneD.eq_of_isOk _ _ h4, h5, fun hne => h6 (by omega)⟩

/-- what `cert_table` says of a data character, in terms of `valOf` -/
structure DataChar (r : Nat) : Prop where
  lt : r < 128
  toNat_ofNat : (Char.ofNat r).toNat = r
  val_nonneg : 0 ≤ valOf r
  val_lt : valOf r < 43
  value : c39Value (Char.ofNat r) = some (valOf r).toNat
  ne_star : Char.ofNat r ≠ '*'

theorem dataChar {r : Nat} (h : Alpha43 r) : DataChar r := by
  obtain ⟨⟨v, b⟩, hb⟩ := Option.isSome_iff_exists.1 h.1
  have e := entry hb
  obtain ⟨h7, h8, h9⟩ := e.value h.2
  rw [← e.valOf_eq] at h7 h8 h9
  refine ⟨e.lt, e.toNat_ofNat, h7, h8, h9, fun hs => h.2 ?_⟩
  rw [← e.toNat_ofNat, hs]; rfl

/-! ### drawing -/

theorem draw_go_nil (acc : List Bool) : drawData.go [] acc = some (acc ++ []) := by rw [drawData.go, List.append_nil]

theorem draw_go_cons (q : Nat × Nat) (rest : List (Nat × Nat)) (acc : List Bool) :
    drawData.go (q :: rest) acc =
      ((mapGet table (q.2 : Int)).map fun e => (if (q.1 != 0) = true then [false] else []) ++ e.2).bind
        fun bs => drawData.go rest (acc ++ bs) := by
  obtain ⟨i, r⟩ := q
  rw [drawData.go]
  cases mapGet table (r : Int) with
  | none => rfl
  | some e => simp only [Option.map_some, Option.bind_some]; split <;> simp

/-- the module row of a character sequence: 12-module patterns separated by one narrow space -/
def drawBits : List Nat → List Bool
  | [] => []
  | r :: tl => barsOf r ++ tl.flatMap (fun r => false :: barsOf r)

theorem drawData_ok (data : Bytes) (h : ∀ r ∈ runeList data, InTable r) :
    drawData data = some (drawBits (runeList data)) := by
  unfold drawData
  rw [OneD.loop_ok draw_go_nil draw_go_cons (fun q => (if (q.1 != 0) = true then [false] else []) ++ barsOf q.2)]
  · rw [List.nil_append, List.append_nil]
    cases data with
    | nil => rfl
    | cons b rest =>
      obtain ⟨r, tl, hr, h0⟩ := runes_cons_offsets b rest
      unfold runeList
      rw [hr, List.flatMap_cons, List.map_cons, drawBits, List.flatMap_map]
      have htl : ∀ q ∈ tl, (if (q.1 != 0) = true then [false] else []) ++ barsOf q.2 = false :: barsOf q.2 := by
        intro q hq
        simp [h0 q hq]
      simp only [bne_self_eq_false, Bool.false_eq_true, if_false, List.nil_append, List.flatMap_def]
      rw [List.map_congr_left htl]
  · intro q hq
    obtain ⟨⟨v, b⟩, hb⟩ := Option.isSome_iff_exists.1 (h q.2 (List.mem_map.2 ⟨q, hq, rfl⟩))
    rw [hb, (entry hb).barsOf_eq]; rfl

theorem drawData_fail (data : Bytes) (h : ∃ r ∈ runeList data, ¬ InTable r) : drawData data = none :=
  draw_fail draw_go_cons data h

/-! ### the reference decoder, split into its module-level and its character-level part -/

/-- the character-level part of `c39Decode` -/
def c39Tail (withCheck fullASCII : Bool) (chars : List Char) : Except String C39Info := do
  if chars.length < 2 ∨ chars.head? ≠ some '*' ∨ chars.getLast? ≠ some '*' then throw "start/stop"
  let inner := (chars.drop 1).dropLast
  if inner.any (· == '*') then throw "start/stop character inside the data"
  let (data, check) ←
    if withCheck then
      match inner.getLast? with
      | none => throw "no check character"
      | some c =>
        let d := inner.dropLast
        let sum := (d.map (fun ch => (c39Value ch).getD 0)).foldl (· + ·) 0
        if c39Value c ≠ some (sum % 43) then throw "wrong modulo-43 check character"
        pure (d, some (sum % 43))
    else pure (inner, none)
  resolveFull 36 37 47 43 (fun t b => { text := t, basic := b, check := check }) fullASCII (data.map Char.toNat)

theorem c39Decode_eq (withCheck fullASCII : Bool) (bits : List Bool) :
    c39Decode withCheck fullASCII bits =
      if (bits.length + 1) % 13 ≠ 0 then throw "length is not 13n-1"
      else (splitEvery 13 (bits ++ [false])).mapM c39Group >>= c39Tail withCheck fullASCII := by
  rfl


/-- module level: a row of table characters with narrow gaps is read back character by character -/
theorem decode_drawBits (cs full : Bool) (rs : List Nat) (hne : rs ≠ []) (h : ∀ r ∈ rs, InTable r) :
    c39Decode cs full (drawBits rs) = c39Tail cs full (rs.map Char.ofNat) := by
  obtain ⟨r0, tl, rfl⟩ := List.exists_cons_of_ne_nil hne
  have hgrp : ∀ r ∈ r0 :: tl, (barsOf r ++ [false]).length = 13 ∧ c39Group (barsOf r ++ [false]) = .ok (Char.ofNat r) := by
    intro r hr
    obtain ⟨⟨v, b⟩, hb⟩ := Option.isSome_iff_exists.1 (h r hr)
    have e := entry hb
    rw [e.barsOf_eq, List.length_append, e.length]
    exact ⟨rfl, e.group⟩
  have hgap : drawBits (r0 :: tl) ++ [false] = ((r0 :: tl).map (fun r => barsOf r ++ [false])).flatten := by
    rw [← List.flatMap_def]
    exact OneD.flatMap_sep barsOf [false] r0 tl
  have hlen : (drawBits (r0 :: tl)).length + 1 = 13 * (r0 :: tl).length := by
    have := congrArg List.length hgap
    rwa [List.length_append, OneD.flatten_length_const 13 _ (List.forall_mem_map.2 fun r hr => (hgrp r hr).1),
      List.length_map] at this
  rw [c39Decode_eq, if_neg (by rw [hlen]; simp), hgap, OneD.mapM_splitEvery 13 (by omega) c39Group _ Char.ofNat _ hgrp]
  rfl


/-! ### character level -/

def valSum : List Nat → Nat
  | [] => 0
  | r :: t => (valOf r).toNat + valSum t

theorem foldl_add_valSum (l : List Nat) : ∀ a : Nat,
    (l.map (fun r => (valOf r).toNat)).foldl (· + ·) a = a + valSum l := by
  induction l with
  | nil => intro a; rfl
  | cons r t ih => intro a; rw [List.map_cons, List.foldl_cons, ih, valSum]; omega

theorem c39_sum (rs : List Nat) (hA : ∀ r ∈ rs, Alpha43 r) :
    ((rs.map Char.ofNat).map (fun ch => (c39Value ch).getD 0)).foldl (· + ·) 0 = valSum rs := by
  rw [List.map_map]
  have : rs.map ((fun ch => (c39Value ch).getD 0) ∘ Char.ofNat) = rs.map (fun r => (valOf r).toNat) := by
    apply List.map_congr_left
    intro r hr
    simp only [Function.comp, (dataChar (hA r hr)).value, Option.getD_some]
  rw [this, foldl_add_valSum]; omega

theorem toNat_ofNat_map (rs : List Nat) (hA : ∀ r ∈ rs, Alpha43 r) : (rs.map Char.ofNat).map Char.toNat = rs :=
  map_map_cancel fun r hr => (dataChar (hA r hr)).toNat_ofNat

theorem no_star (rs : List Nat) (hA : ∀ r ∈ rs, Alpha43 r) : (rs.map Char.ofNat).any (· == '*') = false :=
  any_beq_map fun r hr => (dataChar (hA r hr)).ne_star

/-- character level: start, data, optional check character with the right value, stop are accepted, and what remains
    is to resolve the shift pairs of the data -/
theorem tail_eval (cs full : Bool) (rs : List Nat) (hA : ∀ r ∈ rs, Alpha43 r) (c : Nat) (hc : Alpha43 c)
    (hcv : valOf c = ((valSum rs % 43 : Nat) : Int)) :
    c39Tail cs full ((42 :: (rs ++ (if cs then [c] else [])) ++ [42]).map Char.ofNat) =
      resolveFull 36 37 47 43
        (fun t b => { text := t, basic := b, check := if cs then some (valSum rs % 43) else none }) full rs := by
  have hstar : Char.ofNat 42 = '*' := by decide
  have hbody : ∀ r ∈ rs ++ (if cs then [c] else []), Alpha43 r := by
    intro r hr
    rcases List.mem_append.1 hr with hr | hr
    · exact hA r hr
    · exact forall_mem_ite cs (by simp [hc]) r hr
  generalize hbd : rs ++ (if cs then [c] else []) = body at hbody
  unfold c39Tail
  simp only [List.map_cons, List.map_append, List.map_nil, hstar, List.cons_append]
  obtain ⟨hfr, hinner⟩ := startStop_frame '*' (body.map Char.ofNat)
  simp only [bind, Except.bind, pure, Except.pure, throw, throwThe, MonadExceptOf.throw]
  rw [if_neg hfr, hinner, no_star body hbody]
  simp only [Bool.false_eq_true, if_false]
  cases cs with
  | false =>
    simp only [Bool.false_eq_true, if_false, List.append_nil] at hbd ⊢
    subst hbd
    rw [toNat_ofNat_map rs hA]
  | true =>
    simp only [if_true] at hbd ⊢
    subst hbd
    have hcval : c39Value (Char.ofNat c) = some (valSum rs % 43) := by
      rw [(dataChar hc).value, hcv]; rfl
    simp only [List.map_append, List.map_cons, List.map_nil, List.getLast?_append, List.getLast?_singleton,
      Option.some_or, List.dropLast_concat, c39_sum rs hA, hcval, ne_eq, not_true_eq_false, if_false]
    rw [toNat_ofNat_map rs hA]


/-! ### the model's check character -/

theorem getChecksum_go_ok : ∀ (ps : List (Nat × Nat)) (sum : Int), (∀ p ∈ ps, Alpha43 p.2) →
    getChecksum.go ps sum = some (sum + (valSum (ps.map (·.2)) : Nat)) := by
  intro ps
  induction ps with
  | nil => intro sum _; rw [getChecksum.go]; simp [valSum]
  | cons p t ih =>
    intro sum h
    obtain ⟨i, r⟩ := p
    have hr := h (i, r) (by simp)
    obtain ⟨⟨v, b⟩, hb⟩ := Option.isSome_iff_exists.1 hr.1
    have h0 := (dataChar hr).val_nonneg
    rw [(entry hb).valOf_eq] at h0
    rw [getChecksum.go]
    simp only [hb]
    rw [if_neg (by omega), ih _ (fun q hq => h q (by simp [hq]))]
    simp only [List.map_cons, valSum, (entry hb).valOf_eq]
    congr 1
    omega

/-- certificate (43 values): the check value is mapped back to the data character of that value -/
theorem cert_check : ∀ v < 43, (match runeWithValue ((v : Nat) : Int) with
    | some r => decide (Alpha43 r) && valOf r == ((v : Nat) : Int)
    | none => false) = true := by decide +kernel

/-- `getChecksum` on data characters: the character whose value is the sum modulo 43 -/
theorem getChecksum_ok (content : Bytes) (hA : ∀ r ∈ runeList content, Alpha43 r) :
    ∃ c, getChecksum content = [UInt8.ofNat c] ∧ c < 128 ∧ Alpha43 c ∧
      valOf c = ((valSum (runeList content) % 43 : Nat) : Int) := by
  unfold getChecksum
  rw [getChecksum_go_ok (runes content) 0 (fun p hp => hA p.2 (List.mem_map.2 ⟨p, hp, rfl⟩))]
  simp only [Int.zero_add]
  have hmod : ((valSum ((runes content).map (·.2)) : Nat) : Int).tmod 43 =
      ((valSum (runeList content) % 43 : Nat) : Int) := by
    rw [show ((runes content).map (·.2)) = runeList content from rfl]
    exact (Int.ofNat_tmod _ 43).symm
  rw [hmod]
  have := cert_check (valSum (runeList content) % 43) (Nat.mod_lt _ (by omega))
  split at this
  · rename_i r hr
    simp only [Bool.and_eq_true, decide_eq_true_eq, beq_iff_eq] at this
    rw [hr]
    have hlt := (dataChar this.1).lt
    exact ⟨r, encodeRune_ascii hlt, hlt, this.1, this.2⟩
  · exact absurd this (by simp)

theorem runeWithValue_lt {v : Int} {r : Nat} (h : runeWithValue v = some r) : r < 128 := by
  unfold runeWithValue at h
  split at h
  · rename_i e he
    simp only [Option.some.injEq] at h
    have := (cert_table e (List.mem_of_find?_eq_some he)).1
    omega
  · exact absurd h (by simp)

theorem getChecksum_ascii (content : Bytes) : ∃ c, getChecksum content = [UInt8.ofNat c] ∧ c < 128 := by
  unfold getChecksum
  split
  · exact ⟨35, rfl, by omega⟩
  · split
    · rename_i r hr
      have := runeWithValue_lt hr
      exact ⟨r, encodeRune_ascii this, this⟩
    · exact ⟨35, rfl, by omega⟩

/-! ### full-ASCII expansion (`prepare`) -/

/-- the bytes `prepare` emits for one rune -/
def pieceB (r : Nat) : Bytes :=
  match mapGet extTable (r : Int) with
  | some v => v
  | none => encodeRune r

theorem prepare_eq (text : Bytes) :
    prepare text = if ∀ r ∈ runeList text, r ≤ 127 then some ((runeList text).flatMap pieceB) else none := by
  refine prepare_spec (fun acc => by rw [prepare.go]) (fun q rest acc => ?_) text
  rw [prepare.go]
  unfold pieceB
  split
  · rfl
  · cases mapGet extTable (q.2 : Int) <;> rfl

/-- certificate (128 entries): the expansion of every ASCII character consists of one or two of the 43 data
    characters, ASCII encoded, and the reference pair rules of ISO/IEC 16388 resolve it to the character -/
theorem cert_pieces : ∀ r < 128, CleanStart (pieceB r) ∧
    (∀ x ∈ runeList (pieceB r), Alpha43 x) ∧ goodPiece 36 37 47 43 r (runeList (pieceB r)) = true := by
  decide +kernel


/-! ### the encoder -/

/-- the character string that is drawn: start, content, optional check character, stop -/
def dataOf (content : Bytes) (cs : Bool) : Bytes :=
  (if cs then [42] ++ content ++ getChecksum content else [42] ++ content) ++ [42]

theorem encodeWithColor_eq (text : Bytes) (cs full : Bool) (s : Scheme) :
    encodeWithColor text cs full s =
      encodeVia prepare (fun content => drawData (dataOf content cs))
        (fun content bits => mk1D (kindStr Gen.Root.c_TypeCode39) content bits (some (checkValue content)) s)
        text full := by
  rfl

theorem runeList_dataOf (content : Bytes) (cs : Bool) :
    runeList (dataOf content cs) =
      42 :: (runeList content ++ (if cs then runeList (getChecksum content) else [])) ++ [42] := by
  obtain ⟨c, hc, hc128⟩ := getChecksum_ascii content
  have h42 : ((42 : UInt8)).toNat < 128 := by decide
  have hcn : (UInt8.ofNat c).toNat < 128 := by rw [toNat_ofNat_lt (by omega)]; exact hc128
  unfold dataOf
  cases cs with
  | false =>
    simp only [Bool.false_eq_true, if_false, List.append_nil, List.cons_append, List.nil_append]
    rw [runeList_cons_ascii 42 _ h42, runeList_append _ _ (cleanStart_ascii h42), runeList_cons_ascii 42 _ h42]
    rfl
  | true =>
    simp only [if_true, List.cons_append, List.nil_append, List.append_assoc]
    rw [runeList_cons_ascii 42 _ h42, runeList_append content _ (by rw [hc]; exact cleanStart_ascii hcn),
      runeList_append _ _ (cleanStart_ascii h42), runeList_cons_ascii 42 _ h42]
    rfl

theorem inTable_42 : InTable 42 := by decide

/-- positive direction: a content of data characters is drawn as start, content, check character, stop -/
theorem draw_content (content : Bytes) (cs : Bool) (hA : ∀ r ∈ runeList content, Alpha43 r) :
    ∃ c, Alpha43 c ∧ valOf c = ((valSum (runeList content) % 43 : Nat) : Int) ∧
      (∀ r ∈ 42 :: (runeList content ++ (if cs then [c] else [])) ++ [42], InTable r) ∧
      drawData (dataOf content cs) =
        some (drawBits ((42 :: (runeList content ++ (if cs then [c] else [])) ++ [42]))) ∧
      checkValue content = ((valSum (runeList content) % 43 : Nat) : Int) := by
  obtain ⟨c, hc, hc128, hcA, hcv⟩ := getChecksum_ok content hA
  have hcn : (UInt8.ofNat c).toNat = c := toNat_ofNat_lt (by omega)
  have hrl : runeList (getChecksum content) = [c] := by
    rw [hc, runeList_cons_ascii _ _ (by rw [hcn]; exact hc128), hcn]; rfl
  have hin := forall_mem_frame inTable_42 (fun r hr => (hA r hr).1)
    (forall_mem_ite cs (l := [c]) (by simp [hcA.1]))
  refine ⟨c, hcA, hcv, hin, ?_, ?_⟩
  · rw [drawData_ok, runeList_dataOf, hrl]
    rw [runeList_dataOf, hrl]; exact hin
  · unfold checkValue
    rw [hc, runes_eq, runesFrom_cons_ascii 0 _ _ (by rw [hcn]; exact hc128)]
    simp only [runesFrom_nil, List.foldl_cons, List.foldl_nil, hcn]
    obtain ⟨⟨v, b⟩, hb⟩ := Option.isSome_iff_exists.1 hcA.1
    have h0 := (dataChar hcA).val_nonneg
    rw [(entry hb).valOf_eq] at h0 hcv
    simp only [hb]
    rw [← hcv]
    split <;> omega

/-- negative direction: if the string can be drawn, every rune of the content is a table character -/
theorem drawable_inv (cs : Bool) (content : Bytes) (h : drawData (dataOf content cs) ≠ none) :
    ∀ r ∈ runeList content, InTable r := by
  intro r hr
  apply Classical.byContradiction
  intro hn
  exact h (drawData_fail _ ⟨r, by rw [runeList_dataOf]; simp [hr], hn⟩)

end BV.Proofs.Code39
