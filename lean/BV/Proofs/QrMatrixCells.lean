/-
  QR: the drawing procedures of `render` as lists of cells (x, y, v) to which `set` is applied: finder patterns, dark
  module, version and format information unconditionally (`applyCells`); alignment and timing patterns block by
  block, a block being skipped when its key module is occupied (`applyFree`).  `drawnG_rel` is the one induction
  over the function-pattern phase so written (`drawnG_cells`): runs on related states with related closures end
  in related states, the closures being called only at the coordinates in `touched`.
  `formatCells`, `drawnG`, `touched` and the statements about them are declared in namespace `BV.Proofs.QrCoords`,
  the cell lists in `BV.Proofs.QrMatrix`.
-/
import BV.Proofs.QrTables
namespace BV.Proofs.QrMatrix
open BV BV.Model BV.Model.Qr BV.Gen.Qr BV.Proofs.QrTables

theorem foldl_rel {α α' β} (R : α → α' → Prop) (f : α → β → α) (f' : α' → β → α') (l : List β) (a : α) (a' : α')
    (h0 : R a a') (hstep : ∀ a a' b, b ∈ l → R a a' → R (f a b) (f' a' b)) :
    R (l.foldl f a) (l.foldl f' a') := by
  induction l generalizing a a' with
  | nil => exact h0
  | cons x xs ih =>
    rw [List.foldl_cons, List.foldl_cons]
    exact ih _ _ (hstep _ _ _ List.mem_cons_self h0) (fun a a' b hb => hstep a a' b (List.mem_cons_of_mem _ hb))

theorem foldl_congr_mem {α β} (f g : α → β → α) (l : List β) (init : α)
    (h : ∀ a b, b ∈ l → f a b = g a b) : l.foldl f init = l.foldl g init :=
  foldl_rel Eq f g l init init rfl (fun a _ b hb e => e ▸ h a b hb)

theorem foldl_inv {α β} (P : α → Prop) (f : α → β → α) (l : List β) (init : α)
    (h0 : P init) (hstep : ∀ a b, b ∈ l → P a → P (f a b)) : P (l.foldl f init) :=
  foldl_rel (fun a (_ : Unit) => P a) f (fun u _ => u) l init () h0 (fun a _ b hb h => hstep a b hb h)

theorem foldl_filterMap_ite {α β γ} (l : List α) (c : α → Bool) (f : α → β) (g : γ → β → γ) (init : γ) :
    (l.filterMap (fun y => if c y then some (f y) else none)).foldl g init =
      l.foldl (fun st y => if c y then g st (f y) else st) init := by
  rw [List.foldl_filterMap]
  apply foldl_congr_mem
  intro a b _
  cases c b <;> rfl

theorem mem_intRange_iff {lo : Int} {n : Nat} {x : Int} : x ∈ intRange lo n ↔ lo ≤ x ∧ x < lo + n := by
  unfold intRange
  rw [List.mem_map]
  constructor
  · rintro ⟨i, hi, e⟩
    rw [List.mem_range] at hi
    omega
  · intro ⟨h1, h2⟩
    exact ⟨(x - lo).toNat, List.mem_range.mpr (by omega), by omega⟩

/-- a module to write: column, row, colour -/
abbrev Cell := Nat × Nat × Bool

/-- `set` applied to a list of cells in order -/
def applyCells {σ} (set : Nat → Nat → Bool → σ → σ) (cells : List Cell) (st : σ) : σ :=
  cells.foldl (fun st c => set c.1 c.2.1 c.2.2 st) st

theorem applyCells_append {σ} (set : Nat → Nat → Bool → σ → σ) (a b : List Cell) (st : σ) :
    applyCells set (a ++ b) st = applyCells set b (applyCells set a st) := by
  unfold applyCells; rw [List.foldl_append]

theorem applyCells_nil {σ} (set : Nat → Nat → Bool → σ → σ) (st : σ) : applyCells set [] st = st := rfl

/-- a list of cells with its key module -/
abbrev CellBlock := (Nat × Nat) × List Cell

/-- blocks drawn one after the other, each only if its key module is not occupied at that moment -/
def applyFree {σ} (occ : σ → Nat → Nat → Bool) (set : Nat → Nat → Bool → σ → σ) (blocks : List CellBlock)
    (st : σ) : σ :=
  blocks.foldl (fun st b => if occ st b.1.1 b.1.2 then st else applyCells set b.2 st) st

def coords (cells : List Cell) : List (Nat × Nat) := cells.map (fun c => (c.1, c.2.1))

/-- keys and cells -/
def blockCoords (blocks : List CellBlock) : List (Nat × Nat) := blocks.flatMap (fun b => b.1 :: coords b.2)

section
variable {σ σ' : Type} (R : σ → σ' → Prop) (ok : Nat × Nat → Prop)
  {set : Nat → Nat → Bool → σ → σ} {set' : Nat → Nat → Bool → σ' → σ'}
  (hset : ∀ x y v st st', ok (x, y) → R st st' → R (set x y v st) (set' x y v st'))
include hset

theorem applyCells_rel (cells : List Cell) (hc : ∀ p ∈ coords cells, ok p) (st : σ) (st' : σ') (h : R st st') :
    R (applyCells set cells st) (applyCells set' cells st') :=
  foldl_rel R _ _ _ _ _ h (fun _ _ c hcm ha => hset _ _ _ _ _ (hc _ (List.mem_map.mpr ⟨c, hcm, rfl⟩)) ha)

theorem applyFree_rel {occ : σ → Nat → Nat → Bool} {occ' : σ' → Nat → Nat → Bool}
    (hocc : ∀ st st' x y, ok (x, y) → R st st' → occ st x y = occ' st' x y)
    (blocks : List CellBlock) (hb : ∀ p ∈ blockCoords blocks, ok p) (st : σ) (st' : σ') (h : R st st') :
    R (applyFree occ set blocks st) (applyFree occ' set' blocks st') := by
  apply foldl_rel R _ _ _ _ _ h
  intro a a' b hbm ha
  have hk : ∀ p ∈ b.1 :: coords b.2, ok p := fun p hp => hb p (List.mem_flatMap.mpr ⟨b, hbm, hp⟩)
  rw [hocc a a' _ _ (hk _ List.mem_cons_self) ha]
  split
  · exact ha
  · exact applyCells_rel R ok hset b.2 (fun p hp => hk p (List.mem_cons_of_mem _ hp)) _ _ ha

end

/-- colour of the module at offset (x, y) ∈ [-1, 7]² of a finder pattern with separator (the `val` of
    `drawFinderPatterns`) -/
def finderVal (x y : Int) : Bool :=
  (x == 0 || x == 6 || y == 0 || y == 6 || (x > 1 && x < 5 && y > 1 && y < 5)) &&
    (x ≤ 6 && y ≤ 6 && x ≥ 0 && y ≥ 0)

/-- the cells of one `drawPattern xoff yoff` of `drawFinderPatterns` -/
def patCells (dim xoff yoff : Int) : List Cell :=
  (intRange (-1) 9).flatMap (fun x => (intRange (-1) 9).filterMap (fun y =>
    if x + xoff ≥ 0 && x + xoff < dim && y + yoff ≥ 0 && y + yoff < dim then
      some ((x + xoff).toNat, (y + yoff).toNat, finderVal x y)
    else none))

def finderCells (dim : Nat) : List Cell :=
  patCells dim 0 0 ++ (patCells dim 0 ((dim : Int) - 7) ++ patCells dim ((dim : Int) - 7) 0)

theorem drawFinderPatterns_eq {σ} (vi : VersionInfo) (set : Nat → Nat → Bool → σ → σ) (st : σ) :
    drawFinderPatterns vi set st = applyCells set (finderCells vi.modulWidth) st := by
  unfold drawFinderPatterns finderCells
  simp only
  rw [applyCells_append, applyCells_append]
  have hdp : ∀ (xoff yoff : Int) (st : σ),
      ((intRange (-1) 9).foldl (fun st x =>
        (intRange (-1) 9).foldl (fun st y =>
          let val := (x == 0 || x == 6 || y == 0 || y == 6 || (x > 1 && x < 5 && y > 1 && y < 5)) &&
            (x ≤ 6 && y ≤ 6 && x ≥ 0 && y ≥ 0)
          if x + xoff ≥ 0 && x + xoff < (vi.modulWidth : Int) && y + yoff ≥ 0 && y + yoff < (vi.modulWidth : Int) then
            set (x + xoff).toNat (y + yoff).toNat val st
          else st) st) st) = applyCells set (patCells vi.modulWidth xoff yoff) st := by
    intro xoff yoff st
    unfold applyCells patCells
    rw [List.foldl_flatMap]
    apply foldl_congr_mem
    intro a x _
    rw [foldl_filterMap_ite]
    rfl
  rw [hdp, hdp, hdp]

theorem mem_patCells (dim xoff yoff : Int) (c : Cell) :
    c ∈ patCells dim xoff yoff ↔ ∃ x y : Int, -1 ≤ x ∧ x ≤ 7 ∧ -1 ≤ y ∧ y ≤ 7 ∧
      0 ≤ x + xoff ∧ x + xoff < dim ∧ 0 ≤ y + yoff ∧ y + yoff < dim ∧
      c = ((x + xoff).toNat, (y + yoff).toNat, finderVal x y) := by
  unfold patCells
  rw [List.mem_flatMap]
  constructor
  · rintro ⟨x, hx, hc⟩
    rw [List.mem_filterMap] at hc
    obtain ⟨y, hy, e⟩ := hc
    rw [mem_intRange_iff] at hx hy
    split at e
    · rename_i hcnd
      simp only [Bool.and_eq_true, decide_eq_true_eq] at hcnd
      simp only [Option.some.injEq] at e
      exact ⟨x, y, by omega, by omega, by omega, by omega, by omega, by omega, by omega, by omega, e.symm⟩
    · cases e
  · rintro ⟨x, y, h1, h2, h3, h4, h5, h6, h7, h8, e⟩
    refine ⟨x, mem_intRange_iff.mpr (by omega), ?_⟩
    rw [List.mem_filterMap]
    refine ⟨y, mem_intRange_iff.mpr (by omega), ?_⟩
    rw [if_pos (by simp only [Bool.and_eq_true, decide_eq_true_eq]; omega), e]

theorem mem_finderCells (dim : Nat) (c : Cell) :
    c ∈ finderCells dim ↔ c ∈ patCells dim 0 0 ∨ c ∈ patCells dim 0 ((dim : Int) - 7) ∨
      c ∈ patCells dim ((dim : Int) - 7) 0 := by
  unfold finderCells
  rw [List.mem_append, List.mem_append]

/-- colour of the module at offset (x, y) ∈ [-2, 2]² of an alignment pattern (the `val` of
    `drawAlignmentPatterns`) -/
def alignVal (x y : Int) : Bool := x == -2 || x == 2 || y == -2 || y == 2 || (x == 0 && y == 0)

/-- the 25 cells of the alignment pattern centred at `p` -/
def sqCells (p : Nat × Nat) : List Cell :=
  (intRange (-2) 5).flatMap (fun x => (intRange (-2) 5).map (fun y =>
    ((x + (p.1 : Int)).toNat, (y + (p.2 : Int)).toNat, alignVal x y)))

/-- all pairs of centres in the order of the double loop -/
def centrePairs (cs : List Nat) : List (Nat × Nat) := cs.flatMap (fun x => cs.map (fun y => (x, y)))

/-- the alignment patterns as blocks: one per pair of centres, its key the centre -/
def alignBlocks (cs : List Nat) : List CellBlock := (centrePairs cs).map (fun p => (p, sqCells p))

theorem drawAlignmentPatterns_eq {σ} (occ : σ → Nat → Nat → Bool) (vi : VersionInfo)
    (set : Nat → Nat → Bool → σ → σ) (st : σ) :
    drawAlignmentPatterns occ vi set st = applyFree occ set (alignBlocks vi.alignmentPatternPlacements) st := by
  unfold drawAlignmentPatterns applyFree alignBlocks centrePairs
  simp only
  rw [List.foldl_map, List.foldl_flatMap]
  apply foldl_congr_mem
  intro a x _
  rw [List.foldl_map]
  apply foldl_congr_mem
  intro a y _
  congr 1

theorem mem_sqCells (p : Nat × Nat) (c : Cell) :
    c ∈ sqCells p ↔ ∃ x y : Int, -2 ≤ x ∧ x ≤ 2 ∧ -2 ≤ y ∧ y ≤ 2 ∧
      c = ((x + (p.1 : Int)).toNat, (y + (p.2 : Int)).toNat, alignVal x y) := by
  unfold sqCells
  rw [List.mem_flatMap]
  constructor
  · rintro ⟨x, hx, hc⟩
    rw [List.mem_map] at hc
    obtain ⟨y, hy, e⟩ := hc
    rw [mem_intRange_iff] at hx hy
    exact ⟨x, y, by omega, by omega, by omega, by omega, e.symm⟩
  · rintro ⟨x, y, h1, h2, h3, h4, e⟩
    refine ⟨x, mem_intRange_iff.mpr (by omega), ?_⟩
    rw [List.mem_map]
    exact ⟨y, mem_intRange_iff.mpr (by omega), e.symm⟩

theorem mem_centrePairs (cs : List Nat) (p : Nat × Nat) : p ∈ centrePairs cs ↔ p.1 ∈ cs ∧ p.2 ∈ cs := by
  unfold centrePairs
  rw [List.mem_flatMap]
  constructor
  · rintro ⟨x, hx, hp⟩
    obtain ⟨y, hy, rfl⟩ := List.mem_map.mp hp
    exact ⟨hx, hy⟩
  · rintro ⟨h1, h2⟩
    exact ⟨p.1, h1, List.mem_map.mpr ⟨p.2, h2, rfl⟩⟩

/-- the cells the timing loop looks at, in order -/
def timingCells (dim : Nat) : List Cell :=
  (List.range dim).flatMap (fun i => [(i, 6, i % 2 == 0), (6, i, i % 2 == 0)])

/-- the timing patterns as blocks of one cell -/
def timingBlocks (dim : Nat) : List CellBlock := (timingCells dim).map (fun c => ((c.1, c.2.1), [c]))

theorem timing_eq {σ} (occ : σ → Nat → Nat → Bool) (setA : Nat → Nat → Bool → σ → σ) (dim : Nat) (st : σ) :
    (List.range dim).foldl (fun (st : σ) i =>
      let st := if !occ st i 6 then setA i 6 (i % 2 == 0) st else st
      let st := if !occ st 6 i then setA 6 i (i % 2 == 0) st else st
      st) st = applyFree occ setA (timingBlocks dim) st := by
  unfold applyFree timingBlocks timingCells
  rw [List.foldl_map, List.foldl_flatMap]
  apply foldl_congr_mem
  intro a i _
  simp only [List.foldl_cons, List.foldl_nil, applyCells]
  cases occ a i 6 <;> simp only [Bool.not_false, Bool.not_true, if_true, Bool.false_eq_true, if_false]
  · cases occ (setA i 6 (i % 2 == 0) a) 6 i <;> simp
  · cases occ a 6 i <;> simp

theorem mem_timingCells (dim : Nat) (c : Cell) :
    c ∈ timingCells dim ↔ ∃ i, i < dim ∧ (c = (i, 6, i % 2 == 0) ∨ c = (6, i, i % 2 == 0)) := by
  unfold timingCells
  simp only [List.mem_flatMap, List.mem_range, List.mem_cons, List.not_mem_nil, or_false]

/-- the cells of `drawVersionInfo` (none for versions below 7) -/
def versionCells (vi : VersionInfo) : List Cell :=
  match mapGet v_versionInfoBitsByVersion (vi.version : Int) with
  | none => []
  | some bits =>
    (List.range bits.length).flatMap (fun i =>
      [((vi.modulWidth - 11) + i % 3, i / 3, bits.getD (bits.length - i - 1) false),
       (i / 3, (vi.modulWidth - 11) + i % 3, bits.getD (bits.length - i - 1) false)])

theorem drawVersionInfo_cells {σ} (vi : VersionInfo) (set : Nat → Nat → Bool → σ → σ) (st : σ) :
    drawVersionInfo vi set st = applyCells set (versionCells vi) st := by
  unfold drawVersionInfo versionCells
  cases mapGet v_versionInfoBitsByVersion (vi.version : Int) with
  | none => rfl
  | some bits =>
    simp only
    split
    · unfold applyCells
      rw [List.foldl_flatMap]
      rfl
    · rename_i h
      have : bits.length = 0 := by omega
      rw [this]; rfl

theorem versionCells_low (vi : VersionInfo) (h : vi.version < 7) : versionCells vi = [] := by
  unfold versionCells
  rw [versionInfoBits_none _ (Or.inl h)]

theorem mem_versionCells (vi : VersionInfo) (bits : List Bool)
    (hb : mapGet v_versionInfoBitsByVersion (vi.version : Int) = some bits) (hl : bits.length = 18) (c : Cell) :
    c ∈ versionCells vi ↔ ∃ i, i < 18 ∧
      (c = ((vi.modulWidth - 11) + i % 3, i / 3, bits.getD (17 - i) false) ∨
       c = (i / 3, (vi.modulWidth - 11) + i % 3, bits.getD (17 - i) false)) := by
  unfold versionCells
  rw [hb]
  have e : ∀ i, 18 - i - 1 = 17 - i := fun i => by omega
  simp only [hl, e, List.mem_flatMap, List.mem_range, List.mem_cons, List.not_mem_nil, or_false]

end BV.Proofs.QrMatrix

namespace BV.Proofs.QrCoords
open BV BV.Model BV.Model.Qr BV.Gen.Qr BV.Proofs.QrTables BV.Proofs.QrMatrix

/-- the cell list of `drawFormatInfo`: (x, y, index into the 15-bit list) -/
def formatCells (dim : Nat) : List (Nat × Nat × Nat) :=
  [(0, 8, 0), (1, 8, 1), (2, 8, 2), (3, 8, 3), (4, 8, 4), (5, 8, 5), (7, 8, 6), (8, 8, 7),
   (8, 7, 8), (8, 5, 9), (8, 4, 10), (8, 3, 11), (8, 2, 12), (8, 1, 13), (8, 0, 14),
   (8, dim - 1, 0), (8, dim - 2, 1), (8, dim - 3, 2), (8, dim - 4, 3), (8, dim - 5, 4),
   (8, dim - 6, 5), (8, dim - 7, 6), (dim - 8, 8, 7), (dim - 7, 8, 8), (dim - 6, 8, 9),
   (dim - 5, 8, 10), (dim - 4, 8, 11), (dim - 3, 8, 12), (dim - 2, 8, 13), (dim - 1, 8, 14)]

theorem drawFormatInfo_eq {σ} (vi : VersionInfo) (usedMask : Int) (set : Nat → Nat → Bool → σ → σ) (st : σ) :
    drawFormatInfo vi usedMask set st =
      let formatInfo : List Bool :=
        if usedMask == -1 then List.replicate 15 true else formatInfoOf vi.level usedMask.toNat
      if formatInfo.length == 15 then
        (formatCells vi.modulWidth).foldl (fun st c => set c.1 c.2.1 (formatInfo.getD c.2.2 false) st) st
      else st := rfl

/-- list index `i` of the format word is written where the reference decoder reads bit `14 - i` of the first
    copy (around the top-left finder) and of the second copy (split between the other two finders): index 0 is
    the most significant bit -/
theorem formatCells_spec (dim : Nat) (h : 21 ≤ dim) :
    formatCells dim =
      (List.range 15).map (fun i => ((Spec.Qr.formatPosA (14 - i)).1, (Spec.Qr.formatPosA (14 - i)).2, i)) ++
      (List.range 15).map (fun i => ((Spec.Qr.formatPosB dim (14 - i)).1, (Spec.Qr.formatPosB dim (14 - i)).2, i)) := by
  have e : List.range 15 = [0, 1, 2, 3, 4, 5, 6, 7, 8, 9, 10, 11, 12, 13, 14] := by decide
  rw [e]
  unfold formatCells Spec.Qr.formatPosA Spec.Qr.formatPosB
  simp
  omega

end BV.Proofs.QrCoords

namespace BV.Proofs.QrMatrix
open BV BV.Model BV.Model.Qr BV.Gen.Qr BV.Proofs.QrTables BV.Proofs.QrCoords

theorem formatPosA_lo {j : Nat} (h : j ≤ 5) : Spec.Qr.formatPosA j = (8, j) := by
  unfold Spec.Qr.formatPosA; rw [if_pos h]

theorem formatPosA_hi {j : Nat} (h : 9 ≤ j) : Spec.Qr.formatPosA j = (14 - j, 8) := by
  unfold Spec.Qr.formatPosA
  simp only [beq_iff_eq]
  rw [if_neg (by omega), if_neg (by omega), if_neg (by omega), if_neg (by omega)]

theorem formatPosB_lo {dim j : Nat} (h : j ≤ 7) : Spec.Qr.formatPosB dim j = (dim - 1 - j, 8) := by
  unfold Spec.Qr.formatPosB; rw [if_pos h]

theorem formatPosB_hi {dim j : Nat} (h : 8 ≤ j) : Spec.Qr.formatPosB dim j = (8, dim - 15 + j) := by
  unfold Spec.Qr.formatPosB; rw [if_neg (by omega)]

theorem formatPosA_le (j : Nat) (hj : j < 15) : (Spec.Qr.formatPosA j).1 ≤ 8 ∧ (Spec.Qr.formatPosA j).2 ≤ 8 := by
  rcases (show j ≤ 5 ∨ j = 6 ∨ j = 7 ∨ j = 8 ∨ 9 ≤ j by omega) with h | rfl | rfl | rfl | h
  · rw [formatPosA_lo h]; exact ⟨Nat.le_refl 8, by omega⟩
  · decide
  · decide
  · decide
  · rw [formatPosA_hi h]; exact ⟨by omega, Nat.le_refl 8⟩

theorem formatPosB_lt {dim : Nat} (hd : 21 ≤ dim) (j : Nat) (hj : j < 15) :
    (Spec.Qr.formatPosB dim j).1 < dim ∧ (Spec.Qr.formatPosB dim j).2 < dim := by
  by_cases h : j ≤ 7
  · rw [formatPosB_lo h]; exact ⟨by omega, by omega⟩
  · rw [formatPosB_hi (by omega)]; exact ⟨by omega, by omega⟩

theorem mem_formatCells {dim : Nat} (hd : 21 ≤ dim) (c : Nat × Nat × Nat) :
    c ∈ formatCells dim ↔ ∃ j, j < 15 ∧
      (c = ((Spec.Qr.formatPosA j).1, (Spec.Qr.formatPosA j).2, 14 - j) ∨
       c = ((Spec.Qr.formatPosB dim j).1, (Spec.Qr.formatPosB dim j).2, 14 - j)) := by
  rw [formatCells_spec dim hd, List.mem_append, List.mem_map, List.mem_map]
  constructor
  · rintro (⟨i, hi, rfl⟩ | ⟨i, hi, rfl⟩) <;> rw [List.mem_range] at hi
    · exact ⟨14 - i, by omega, Or.inl (by rw [show 14 - (14 - i) = i by omega])⟩
    · exact ⟨14 - i, by omega, Or.inr (by rw [show 14 - (14 - i) = i by omega])⟩
  · rintro ⟨j, hj, rfl | rfl⟩
    · exact Or.inl ⟨14 - j, List.mem_range.mpr (by omega), by rw [show 14 - (14 - j) = j by omega]⟩
    · exact Or.inr ⟨14 - j, List.mem_range.mpr (by omega), by rw [show 14 - (14 - j) = j by omega]⟩

/-- the cells of `drawFormatInfo` for the 15-bit word `fi` -/
def fmtCells (dim : Nat) (fi : List Bool) : List Cell :=
  (formatCells dim).map (fun c => (c.1, c.2.1, fi.getD c.2.2 false))

/-- the cells of `drawFormatInfo` for a mask index (`-1`: the all-true word): none unless the word has 15 bits -/
def maskCells (vi : VersionInfo) (usedMask : Int) : List Cell :=
  let fi := if usedMask == -1 then List.replicate 15 true else formatInfoOf vi.level usedMask.toNat
  if fi.length == 15 then fmtCells vi.modulWidth fi else []

theorem drawFormatInfo_cells {σ} (vi : VersionInfo) (usedMask : Int) (set : Nat → Nat → Bool → σ → σ) (st : σ) :
    drawFormatInfo vi usedMask set st = applyCells set (maskCells vi usedMask) st := by
  rw [drawFormatInfo_eq]
  unfold maskCells
  simp only
  generalize (if (usedMask == -1) = true then List.replicate 15 true
    else formatInfoOf vi.level usedMask.toNat) = fi
  by_cases h : (fi.length == 15) = true
  · rw [if_pos h, if_pos h]
    unfold applyCells fmtCells
    rw [List.foldl_map]
  · rw [if_neg h, if_neg h]
    rfl

theorem coords_maskCells (vi : VersionInfo) (usedMask : Int) :
    ∀ p ∈ coords (maskCells vi usedMask), p ∈ (formatCells vi.modulWidth).map (fun c => (c.1, c.2.1)) := by
  unfold maskCells
  simp only
  generalize (if (usedMask == -1) = true then List.replicate 15 true
    else formatInfoOf vi.level usedMask.toNat) = fi
  intro p hp
  by_cases h : (fi.length == 15) = true
  · rw [if_pos h] at hp
    unfold coords fmtCells at hp
    rw [List.map_map] at hp
    exact hp
  · rw [if_neg h] at hp
    cases hp

end BV.Proofs.QrMatrix

namespace BV.Proofs.QrCoords
open BV BV.Model BV.Model.Qr BV.Gen.Qr BV.Proofs.QrTables BV.Proofs.QrMatrix

/-- `drawn` with the three closures (`setAll`, `occupied.Set`, `results[i].Set`), the read of `occupied` and
    the initial state as parameters -/
def drawnG {σ : Type} (vi : VersionInfo) (occ : σ → Nat → Nat → Bool)
    (setA setO : Nat → Nat → Bool → σ → σ) (setR : Nat → Nat → Nat → Bool → σ → σ) (st : σ) : σ :=
  let dim := vi.modulWidth
  let st := drawFinderPatterns vi setA st
  let st := drawAlignmentPatterns occ vi setA st
  let st := (List.range dim).foldl (fun (st : σ) i =>
    let st := if !occ st i 6 then setA i 6 (i % 2 == 0) st else st
    let st := if !occ st 6 i then setA 6 i (i % 2 == 0) st else st
    st) st
  let st := setA 8 (dim - 8) true st
  let st := drawVersionInfo vi setA st
  let st := drawFormatInfo vi (-1) setO st
  (List.range 8).foldl (fun st (i : Nat) => drawFormatInfo vi (i : Int) (setR i) st) st

theorem drawnG_cells {σ : Type} (vi : VersionInfo) (occ : σ → Nat → Nat → Bool)
    (setA setO : Nat → Nat → Bool → σ → σ) (setR : Nat → Nat → Nat → Bool → σ → σ) (st : σ) :
    drawnG vi occ setA setO setR st =
      (List.range 8).foldl (fun st (i : Nat) => applyCells (setR i) (maskCells vi i) st)
        (applyCells setO (maskCells vi (-1))
          (applyCells setA ((8, vi.modulWidth - 8, true) :: versionCells vi)
            (applyFree occ setA (timingBlocks vi.modulWidth)
              (applyFree occ setA (alignBlocks vi.alignmentPatternPlacements)
                (applyCells setA (finderCells vi.modulWidth) st))))) := by
  unfold drawnG
  simp only [drawFinderPatterns_eq, drawAlignmentPatterns_eq, timing_eq, drawVersionInfo_cells, drawFormatInfo_cells]
  rfl

/-- every coordinate pair at which the phase reads `occupied` or calls one of its closures -/
def touched (vi : VersionInfo) : List (Nat × Nat) :=
  coords (finderCells vi.modulWidth) ++ blockCoords (alignBlocks vi.alignmentPatternPlacements) ++
    blockCoords (timingBlocks vi.modulWidth) ++ (8, vi.modulWidth - 8) :: coords (versionCells vi) ++
    (formatCells vi.modulWidth).map (fun c => (c.1, c.2.1))

/-- The function-pattern phase on related states: if the reads of `occupied` agree and the closures preserve the
    relation at the coordinates the phase touches, the final states are related. -/
theorem drawnG_rel {σ σ' : Type} (R : σ → σ' → Prop) (ok : Nat × Nat → Prop) (vi : VersionInfo)
    (hok : ∀ p ∈ touched vi, ok p)
    {occ : σ → Nat → Nat → Bool} {occ' : σ' → Nat → Nat → Bool}
    {setA setO : Nat → Nat → Bool → σ → σ} {setR : Nat → Nat → Nat → Bool → σ → σ}
    {setA' setO' : Nat → Nat → Bool → σ' → σ'} {setR' : Nat → Nat → Nat → Bool → σ' → σ'}
    (hocc : ∀ st st' x y, ok (x, y) → R st st' → occ st x y = occ' st' x y)
    (hA : ∀ x y v st st', ok (x, y) → R st st' → R (setA x y v st) (setA' x y v st'))
    (hO : ∀ x y v st st', ok (x, y) → R st st' → R (setO x y v st) (setO' x y v st'))
    (hR : ∀ i x y v st st', i < 8 → ok (x, y) → R st st' → R (setR i x y v st) (setR' i x y v st'))
    (st : σ) (st' : σ') (h : R st st') :
    R (drawnG vi occ setA setO setR st) (drawnG vi occ' setA' setO' setR' st') := by
  unfold touched at hok
  simp only [List.mem_append, List.mem_cons] at hok
  have hF := fun p hp => hok p (Or.inl (Or.inl (Or.inl (Or.inl hp))))
  have hAl := fun p hp => hok p (Or.inl (Or.inl (Or.inl (Or.inr hp))))
  have hT := fun p hp => hok p (Or.inl (Or.inl (Or.inr hp)))
  have hV : ∀ p ∈ coords ((8, vi.modulWidth - 8, true) :: versionCells vi), ok p :=
    fun p hp => hok p (Or.inl (Or.inr (List.mem_cons.mp hp)))
  have hM := fun m p hp => hok p (Or.inr (coords_maskCells vi m p hp))
  rw [drawnG_cells, drawnG_cells]
  apply foldl_rel R
  · exact applyCells_rel R ok hO _ (hM _) _ _ (applyCells_rel R ok hA _ hV _ _
      (applyFree_rel R ok hA hocc _ hT _ _ (applyFree_rel R ok hA hocc _ hAl _ _
        (applyCells_rel R ok hA _ hF _ _ h))))
  · intro a a' i hi ha
    exact applyCells_rel R ok (hR i · · · · · (List.mem_range.mp hi)) _ (hM _) _ _ ha

theorem drawnG_inv {σ : Type} (P : σ → Prop) (ok : Nat × Nat → Prop) (vi : VersionInfo)
    (hok : ∀ p ∈ touched vi, ok p) {occ : σ → Nat → Nat → Bool}
    {setA setO : Nat → Nat → Bool → σ → σ} {setR : Nat → Nat → Nat → Bool → σ → σ}
    (hA : ∀ x y v st, ok (x, y) → P st → P (setA x y v st))
    (hO : ∀ x y v st, ok (x, y) → P st → P (setO x y v st))
    (hR : ∀ i x y v st, i < 8 → ok (x, y) → P st → P (setR i x y v st))
    (st : σ) (h : P st) : P (drawnG vi occ setA setO setR st) :=
  (drawnG_rel (fun a b => a = b ∧ P a) ok vi hok (fun _ _ x y _ h => congrArg (occ · x y) h.1)
    (fun x y v _ _ hk h => ⟨congrArg _ h.1, hA x y v _ hk h.2⟩)
    (fun x y v _ _ hk h => ⟨congrArg _ h.1, hO x y v _ hk h.2⟩)
    (fun i x y v _ _ hi hk h => ⟨congrArg _ h.1, hR i x y v _ hi hk h.2⟩) st st ⟨rfl, h⟩).2

/-- for a row of the version table everything in `touched` lies inside the symbol -/
theorem touched_range {vi : VersionInfo} (hmem : vi ∈ versionInfos) :
    ∀ p ∈ touched vi, p.1 < vi.modulWidth ∧ p.2 < vi.modulWidth := by
  obtain ⟨h1, h40, _⟩ := mem_versionInfos_range hmem
  have hdim := modulWidth_eq vi h1
  have hd : 21 ≤ vi.modulWidth := by omega
  have hr : ∀ c ∈ vi.alignmentPatternPlacements, 6 ≤ c ∧ c + 7 ≤ vi.modulWidth := by
    intro c hc
    rw [alignmentPatternPlacements_eq] at hc
    rw [hdim]
    exact (alignment_range_cert vi.version (by omega) h1).1 c hc
  intro p hp
  unfold touched at hp
  simp only [List.mem_append, List.mem_cons] at hp
  rcases hp with (((hp | hp) | hp) | rfl | hp) | hp
  · obtain ⟨c, hc, rfl⟩ := List.mem_map.mp hp
    rw [mem_finderCells, mem_patCells, mem_patCells, mem_patCells] at hc
    rcases hc with ⟨x, y, _, _, _, _, _, _, _, _, rfl⟩ | ⟨x, y, _, _, _, _, _, _, _, _, rfl⟩ |
      ⟨x, y, _, _, _, _, _, _, _, _, rfl⟩ <;> simp only <;> omega
  · obtain ⟨b, hb, hp⟩ := List.mem_flatMap.mp hp
    obtain ⟨q, hq, rfl⟩ := List.mem_map.mp hb
    rw [mem_centrePairs] at hq
    have := hr _ hq.1
    have := hr _ hq.2
    rcases List.mem_cons.mp hp with rfl | hp
    · exact ⟨by omega, by omega⟩
    · obtain ⟨c, hc, rfl⟩ := List.mem_map.mp hp
      obtain ⟨x, y, _, _, _, _, rfl⟩ := (mem_sqCells q c).mp hc
      simp only; omega
  · obtain ⟨b, hb, hp⟩ := List.mem_flatMap.mp hp
    obtain ⟨c, hc, rfl⟩ := List.mem_map.mp hb
    have e : p = (c.1, c.2.1) := by
      rcases List.mem_cons.mp hp with rfl | hp
      · rfl
      · obtain ⟨c', hc', rfl⟩ := List.mem_map.mp hp
        rw [List.mem_singleton.mp hc']
    obtain ⟨i, hi, rfl | rfl⟩ := (mem_timingCells _ c).mp hc <;> rw [e] <;> simp only <;> omega
  · simp only; omega
  · obtain ⟨c, hc, rfl⟩ := List.mem_map.mp hp
    by_cases h7 : vi.version < 7
    · rw [versionCells_low vi h7] at hc; cases hc
    · obtain ⟨bits, hb, hl, _⟩ := versionInfoBits_bch vi.version (by omega) h40
      obtain ⟨i, hi, rfl | rfl⟩ := (mem_versionCells vi bits hb hl c).mp hc <;> simp only <;> omega
  · obtain ⟨c, hc, rfl⟩ := List.mem_map.mp hp
    obtain ⟨j, hj, rfl | rfl⟩ := (mem_formatCells hd c).mp hc
    · have := formatPosA_le j hj
      simp only; omega
    · exact formatPosB_lt hd j hj

end BV.Proofs.QrCoords
