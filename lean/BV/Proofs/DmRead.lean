/-
  C02: reading a painted mapping matrix back through the placement array (`Spec.readCodewords`) returns the
  codewords that were painted — because a successful symbolic run assigns every (codeword, bit) pair to exactly
  one module (`DmTags.run_cells`, `DmTags.run_tags`).
-/
import BV.Proofs.DmPlaceM
import BV.Proofs.DmPlaceS
namespace BV.Proofs.DmRead
open BV BV.Model.Datamatrix BV.Spec.Datamatrix BV.Proofs.DmSym BV.Proofs.DmTags BV.Proofs.DmPlaceM BV.Proofs.DmPlaceS

/-- the weight a module with tag `t` adds to codeword `k` when reading the painted matrix -/
def weight (data : Array UInt8) (k t : Nat) : Nat :=
  if t ≥ 10 ∧ paint data t = true ∧ t / 10 - 1 = k then 2 ^ (8 - t % 10) else 0

/-- the update of the codeword array for one module -/
def stepR (data : Array UInt8) (cw : Array Nat) (t : Nat) : Array Nat :=
  if t ≥ 10 then (if paint data t then cw.modify (t / 10 - 1) (· + 2 ^ (8 - t % 10)) else cw) else cw

theorem stepR_get (data : Array UInt8) (cw : Array Nat) (t k : Nat) :
    (stepR data cw t)[k]? = (cw[k]?).map (· + weight data k t) := by
  unfold stepR weight
  by_cases h1 : t ≥ 10
  · by_cases h2 : paint data t = true
    · simp only [h1, h2, if_true, true_and, Array.getElem?_modify]
      by_cases h3 : t / 10 - 1 = k
      · simp [h3]
      · simp only [h3, if_false]
        exact (opt_add_zero _).symm
    · simp only [h1, h2, if_true, Bool.false_eq_true, if_false, false_and, and_false]
      exact (opt_add_zero _).symm
  · simp only [h1, if_false, false_and]
    exact (opt_add_zero _).symm

theorem foldl_stepR (data : Array UInt8) (tag : Nat → Nat) (k : Nat) : ∀ (L : List Nat) (cw : Array Nat),
    (L.foldl (fun cw i => stepR data cw (tag i)) cw)[k]? =
      (cw[k]?).map (· + (L.map (fun i => weight data k (tag i))).sum) := by
  intro L
  induction L with
  | nil => intro cw; exact (opt_add_zero _).symm
  | cons i L ih =>
    intro cw
    rw [List.foldl_cons, ih, stepR_get]
    cases cw[k]? <;> simp [Nat.add_assoc]

/-- certificate (256 bytes): a byte is the sum of its bits, most significant first -/
theorem byte_bits : ∀ d : UInt8,
    ((List.range 8).map (fun b => if bitOf d b = true then 2 ^ (7 - b) else 0)).sum = d.toNat := by
  have h : ∀ n, n < 256 → ((List.range 8).map
      (fun b => if bitOf (UInt8.ofNat n) b = true then 2 ^ (7 - b) else 0)).sum = (UInt8.ofNat n).toNat := by
    decide +kernel
  intro d
  have := h d.toNat d.toNat_lt
  simpa using this

theorem weight_tag (data : Array UInt8) (k j b : Nat) (d : UInt8) (hb : b ≤ 7) (hd : data[j]? = some d) :
    weight data k (10 * (j + 1) + (b + 1)) = if j = k then (if bitOf d b = true then 2 ^ (7 - b) else 0) else 0 := by
  unfold weight
  rw [paint_tag data j b d hb hd]
  have h1 : 10 * (j + 1) + (b + 1) ≥ 10 := by omega
  have h2 : (10 * (j + 1) + (b + 1)) / 10 - 1 = j := by omega
  have h3 : 8 - (10 * (j + 1) + (b + 1)) % 10 = 7 - b := by omega
  rw [h2, h3]
  by_cases hjk : j = k
  · subst hjk
    by_cases hbit : bitOf d b = true
    · simp [h1, hbit]
    · simp [hbit]
  · simp [hjk]

theorem tagsRev_sum (data : Array UInt8) (k : Nat) : ∀ idx, idx ≤ data.size →
    ((tagsRev idx).map (weight data k)).sum = if k < idx then (data.getD k 0).toNat else 0 := by
  intro idx
  induction idx with
  | zero => intro _; simp [tagsRev]
  | succ idx ih =>
    intro hle
    have hlt : idx < data.size := by omega
    have hd : data[idx]? = some data[idx] := Array.getElem?_eq_getElem hlt
    rw [tagsRev, List.map_append, List.sum_append, ih (by omega), List.map_reverse, List.sum_reverse, List.map_map]
    have : (List.range 8).map (weight data k ∘ fun b => 10 * (idx + 1) + (b + 1)) =
        (List.range 8).map (fun b => if idx = k then (if bitOf data[idx] b = true then 2 ^ (7 - b) else 0) else 0) := by
      apply List.map_congr_left
      intro b hb
      exact weight_tag data k idx b data[idx] (by have := List.mem_range.mp hb; omega) hd
    rw [this]
    by_cases hik : idx = k
    · subst hik
      simp only [if_true]
      rw [byte_bits]
      simp [Array.getD_eq_getD_getElem?, hd]
    · simp only [hik, if_false, sum_zero, Nat.zero_add]
      by_cases hk : k < idx
      · rw [if_pos hk, if_pos (by omega)]
      · rw [if_neg hk, if_neg (by omega)]

theorem weight_small (data : Array UInt8) (k t : Nat) (ht : t < 10) : weight data k t = 0 := by
  unfold weight
  have : ¬ t ≥ 10 := by omega
  simp [this]

theorem read_back {nrow ncol ncw : Nat} {st : PS} (hrun : run nrow ncol ncw = some st) (data : Array UInt8)
    (hn : data.size = ncw) (mm : Nat → Nat → Bool)
    (hmm : ∀ i, i < nrow * ncol → mm (i / ncol) (i % ncol) = paint data (tagAt st.log i)) :
    ∃ cw, readCodewords nrow ncol (arrOf (nrow * ncol) st) ncw mm = some cw ∧
      cw.toList = data.toList.map UInt8.toNat := by
  obtain ⟨hnodup, hcells⟩ := run_cells hrun
  -- 1. the monadic fold never rejects and is the pure fold of `stepR`
  refine ⟨_, foldlM_some (g := fun cw i => stepR data cw (tagAt st.log i)) _ _ (fun i hi cw => ?_), ?_⟩
  · have hi := List.mem_range.mp hi
    have hv : (arrOf (nrow * ncol) st).getD i 0 = tagAt st.log i := by
      simp [arrOf, Array.getD_eq_getD_getElem?, hi]
    simp only [hv, hmm i hi]
    unfold stepR
    by_cases h10 : tagAt st.log i ≥ 10
    · simp only [h10, if_true]
    · simp only [h10, if_false, paint_lt data _ h10, beq_self_eq_true, if_true]
  -- 2. pointwise value of the result
  apply List.ext_getElem?
  intro k
  rw [Array.getElem?_toList, foldl_stepR data (tagAt st.log) k]
  have hw0 : weight data k 0 = 0 := weight_small data k 0 (by omega)
  rw [cells_sum (weight data k) hw0 (nrow * ncol) st.log hnodup hcells]
  have hsum : (st.log.map (fun e => weight data k e.2)).sum = if k < ncw then (data.getD k 0).toNat else 0 := by
    have : st.log.map (fun e => weight data k e.2) = (st.log.map Prod.snd).map (weight data k) := by
      rw [List.map_map]; rfl
    rw [this]
    rcases run_tags hrun with ⟨_, ht⟩ | ⟨_, ht, _⟩
    · rw [ht, tagsRev_sum data k ncw (by omega)]
    · rw [ht]
      simp only [List.map_cons, List.sum_cons, weight_small data k 1 (by omega), Nat.zero_add]
      rw [tagsRev_sum data k ncw (by omega)]
  rw [hsum]
  by_cases hk : k < ncw
  · have hk' : k < data.size := by omega
    simp [hk, hk', Array.getD_eq_getD_getElem?]
  · have hk' : ¬ k < data.size := by omega
    simp [hk]
    rw [Array.getElem?_eq_none (by omega)]
    rfl

end BV.Proofs.DmRead
