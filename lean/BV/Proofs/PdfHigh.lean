/-
  BV.Proofs.PdfHigh — the segmentation loop of `highlevelEncode` (highlevel.go) against the compaction-mode
  automaton `Spec.Pdf417.decodeData` (ISO/IEC 15438), for ALL byte strings.  The look-ahead counters select
  prefixes of ASCII digits / Text characters, which are their own runes, so that slicing the BYTE string with a
  RUNE count (what the Go code does) is sound; the text counter stops where the next round can only latch or
  shift, so two Text segments are never adjacent.  `Inv` is the loop invariant (the decoder's state after the
  result so far), extended by one lemma per way a round extends the result; the segment round trips come from
  `PdfByte`, `PdfNumeric`, `PdfText`.
-/
import BV.Model.Pdf417
import BV.Spec.Pdf417
import BV.Proofs.PdfByte
import BV.Proofs.PdfNumeric
import BV.Proofs.PdfText
import BV.Proofs.Utf8
namespace BV.Proofs.PdfHigh
open BV BV.Model BV.Model.Pdf417 BV.Spec.Pdf417 BV.Gen.Pdf417
open BV.Proofs.PdfText (subOf)

theorem runeList_nil : runeList [] = [] := rfl

/-- If the first `k` runes are ASCII then they are the first `k` bytes, and slicing the byte string with
    the rune count `k` (as the Go code does) is slicing the rune string. -/
theorem ascii_prefix (k : Nat) : ∀ (data : Bytes), k ≤ (runeList data).length →
    (∀ r ∈ (runeList data).take k, r < 0x80) →
    k ≤ data.length ∧ runeList (data.take k) = (runeList data).take k ∧
      (runeList (data.take k)).map UInt8.ofNat = data.take k ∧ runeList (data.drop k) = (runeList data).drop k := by
  induction k with
  | zero => intro data _ _; exact ⟨Nat.zero_le _, rfl, rfl, rfl⟩
  | succ k ih =>
    intro data hk h
    match data with
    | [] => exact absurd hk (Nat.not_succ_le_zero k)
    | b :: rest =>
      have hb : b.toNat < 0x80 := Utf8.decodeRune_lt128 b rest (h _ (by
        rw [Utf8.runeList_eq, Utf8.runesFrom_cons]; exact List.mem_cons_self))
      rw [Utf8.runeList_cons_ascii b rest hb] at hk h ⊢
      obtain ⟨h0, h1, h2, h3⟩ := ih rest (Nat.le_of_succ_le_succ hk) (fun x hx => h x (List.mem_cons_of_mem _ hx))
      rw [List.take_succ_cons, List.take_succ_cons, List.drop_succ_cons, List.drop_succ_cons,
        Utf8.runeList_cons_ascii b _ hb, List.map_cons, UInt8.ofNat_toNat, h2, h1]
      exact ⟨Nat.succ_le_succ h0, rfl, rfl, h3⟩

theorem digitGo_acc (l : List Nat) : ∀ cnt, determineConsecutiveDigitCount.go l cnt
    = cnt + determineConsecutiveDigitCount.go l 0 := by
  induction l with
  | nil => intro cnt; rfl
  | cons r rest ih =>
    intro cnt
    simp only [determineConsecutiveDigitCount.go]
    split
    · rfl
    · rw [ih (cnt + 1), ih (0 + 1)]; omega

theorem digitCount_nil : determineConsecutiveDigitCount [] = 0 := rfl

theorem digitCount_cons (r : Nat) (rest : List Nat) : determineConsecutiveDigitCount (r :: rest)
    = if 48 ≤ r ∧ r ≤ 57 then determineConsecutiveDigitCount rest + 1 else 0 := by
  unfold determineConsecutiveDigitCount
  simp only [determineConsecutiveDigitCount.go, runeToInt]
  by_cases h : 48 ≤ r ∧ r ≤ 57
  · have : ¬ ((r : Int) - 48 = -1) := by omega
    simp only [h, and_self, if_true, beq_iff_eq, this, if_false]
    rw [digitGo_acc]; omega
  · simp only [h, if_false, beq_self_eq_true, if_true]

/-- the digit count is a prefix length, and the prefix consists of ASCII digits -/
theorem digitCount_spec (rs : List Nat) : determineConsecutiveDigitCount rs ≤ rs.length ∧
    ∀ r ∈ rs.take (determineConsecutiveDigitCount rs), 48 ≤ r ∧ r ≤ 57 := by
  induction rs with
  | nil => exact ⟨Nat.le_refl 0, nofun⟩
  | cons r rest ih =>
    rw [digitCount_cons]
    split
    · rename_i h
      refine ⟨by simp only [List.length_cons]; omega, ?_⟩
      intro x hx
      simp only [List.take_succ_cons, List.mem_cons] at hx
      rcases hx with rfl | hx
      · exact h
      · exact ih.2 x hx
    · exact ⟨Nat.zero_le _, nofun⟩

theorem textGo_acc (l : List Nat) : ∀ cnt, determineConsecutiveTextCount.go l cnt
    = cnt + determineConsecutiveTextCount.go l 0 := by
  induction l with
  | nil => intro cnt; rfl
  | cons r rest ih =>
    intro cnt
    simp only [determineConsecutiveTextCount.go]
    split
    · rfl
    · rw [ih (cnt + 1), ih (0 + 1)]; omega

theorem textCount_nil : determineConsecutiveTextCount [] = 0 := rfl

/-- the condition under which `determineConsecutiveTextCount` stops in front of `rs`: at least 13 digits
    follow, or the next rune is neither a digit nor a Text character -/
def textStop (rs : List Nat) : Bool :=
  match rs with
  | [] => true
  | ch :: _ => determineConsecutiveDigitCount rs ≥ c_min_numeric_count ||
      (determineConsecutiveDigitCount rs == 0 && !isText ch)

theorem textCount_cons (ch : Nat) (rest : List Nat) : determineConsecutiveTextCount (ch :: rest)
    = if textStop (ch :: rest) then 0 else determineConsecutiveTextCount rest + 1 := by
  unfold determineConsecutiveTextCount textStop
  simp only [determineConsecutiveTextCount.go]
  split
  · rfl
  · rw [textGo_acc]; omega

/-- in front of a stop position the text count is 0 and the digit count is 0 or at least 13 -/
theorem textStop_elim (rs : List Nat) (h : textStop rs = true) : determineConsecutiveTextCount rs = 0 ∧
    (determineConsecutiveDigitCount rs ≥ c_min_numeric_count ∨ determineConsecutiveDigitCount rs = 0) := by
  match rs with
  | [] => exact ⟨rfl, Or.inr rfl⟩
  | ch :: rest =>
    refine ⟨by rw [textCount_cons, if_pos h], ?_⟩
    simp only [textStop, Bool.or_eq_true, decide_eq_true_eq, Bool.and_eq_true, beq_iff_eq] at h
    rcases h with h | h
    · exact Or.inl h
    · exact Or.inr h.1

/-- a rune at which the text count does not stop is a Text character -/
theorem isText_of_not_stop (ch : Nat) (rest : List Nat) (h : textStop (ch :: rest) = false) :
    isText ch = true := by
  simp only [textStop, Bool.or_eq_false_iff, decide_eq_false_iff_not, Bool.and_eq_false_imp, beq_iff_eq,
    Bool.not_eq_false'] at h
  by_cases h0 : determineConsecutiveDigitCount (ch :: rest) = 0
  · exact h.2 h0
  · rw [digitCount_cons] at h0
    split at h0
    · rename_i hd
      simp only [isText, Bool.or_eq_true, beq_iff_eq, Bool.and_eq_true, decide_eq_true_eq]
      omega
    · exact absurd rfl h0

/-- the text count is a prefix length, the prefix consists of Text characters, and what follows it is a
    stop position: the next round of the segmentation loop cannot produce another Text segment -/
theorem textCount_spec (rs : List Nat) : determineConsecutiveTextCount rs ≤ rs.length ∧
    (∀ r ∈ rs.take (determineConsecutiveTextCount rs), isText r = true) ∧
    textStop (rs.drop (determineConsecutiveTextCount rs)) = true := by
  induction rs with
  | nil => exact ⟨Nat.le_refl 0, nofun, rfl⟩
  | cons ch rest ih =>
    rw [textCount_cons]
    cases hs : textStop (ch :: rest)
    · simp only [Bool.false_eq_true, if_false, List.length_cons, List.take_succ_cons, List.drop_succ_cons]
      refine ⟨by omega, ?_, ih.2.2⟩
      intro x hx
      simp only [List.mem_cons] at hx
      rcases hx with rfl | hx
      · exact isText_of_not_stop _ _ hs
      · exact ih.2.1 x hx
    · rw [if_pos rfl]
      exact ⟨Nat.zero_le _, nofun, hs⟩

theorem binaryGo_le (l : Bytes) : ∀ cnt, determineConsecutiveBinaryCount.go l cnt ≤ cnt + l.length := by
  induction l with
  | nil => intro cnt; exact Nat.le_refl cnt
  | cons b rest ih =>
    intro cnt
    simp only [determineConsecutiveBinaryCount.go, List.length_cons]
    split
    · omega
    · split
      · omega
      · have := ih (cnt + 1); omega

theorem binaryCount_le (data : Bytes) : determineConsecutiveBinaryCount data ≤ data.length := by
  have := binaryGo_le data 0
  unfold determineConsecutiveBinaryCount; omega

/-- The numeric branch: `data[:numericCount]` is in bounds, these BYTES are ASCII digits and their own runes. -/
theorem numeric_prefix (data : Bytes) :
    let n := determineConsecutiveDigitCount (runeList data)
    n ≤ data.length ∧ (∀ d ∈ runeList (data.take n), 48 ≤ d ∧ d ≤ 57) ∧
      (runeList (data.take n)).map UInt8.ofNat = data.take n := by
  intro n
  obtain ⟨h1, h2⟩ := digitCount_spec (runeList data)
  obtain ⟨a0, a1, a2, _⟩ := ascii_prefix n data h1 (fun r hr => Nat.lt_of_le_of_lt (h2 r hr).2 (by decide))
  exact ⟨a0, a1 ▸ h2, a2⟩

/-- The text branch: `data[:textCount]` is in bounds, these BYTES are ASCII Text characters and their own
    runes; the rest of the string starts at a stop position. -/
theorem text_prefix (data : Bytes) :
    let k := determineConsecutiveTextCount (runeList data)
    k ≤ data.length ∧ (∀ ch ∈ runeList (data.take k), isText ch = true) ∧
      (runeList (data.take k)).map UInt8.ofNat = data.take k ∧ textStop (runeList (data.drop k)) = true := by
  intro k
  obtain ⟨h1, h2, h3⟩ := textCount_spec (runeList data)
  obtain ⟨a0, a1, a2, a3⟩ :=
    ascii_prefix k data h1 (fun r hr => Nat.lt_trans (PdfText.isText_lt r (h2 r hr)) (by decide))
  exact ⟨a0, a1 ▸ h2, a2, a3 ▸ h3⟩

/-- the mode entered by one of the four latches -/
def latchTo (c : Nat) : Mode :=
  if c == 900 then .text .alpha .none else if c == 901 then .byte false []
  else if c == 924 then .byte true [] else .numeric []

/-- A latch 900 / 901 / 902 / 924 is accepted in every mode whose running segment can be closed: the
    segment is flushed and the new mode entered (in Text mode a pending shift is dropped). -/
theorem step_latch (m : Mode) (out o : Array UInt8) (c : Nat) (hf : flush m out = .ok o)
    (hc : c = 900 ∨ c = 901 ∨ c = 902 ∨ c = 924) : step (m, out) c = .ok (latchTo c, o) := by
  have hl : latch m c = .ok (latchTo c) := by rcases hc with rfl | rfl | rfl | rfl <;> rfl
  have h1 : ¬ c ≥ 929 := by omega
  have h2 : ¬ c < 900 := by omega
  cases m with
  | byteShift sub => exact nomatch hf
  | text sub sh => cases hf; simp only [step, h1, h2, if_false, hl]; rfl
  | byte exact rev => simp only [step, h1, h2, if_false, hl, hf]; rfl
  | numeric rev => simp only [step, h1, h2, if_false, hl, hf]; rfl

theorem latchTo_byte (n : Nat) : latchTo (if n = 0 then 924 else 901) = .byte (n == 0) [] := by
  cases n <;> rfl

/-- after a latch nothing is pending: closing at once yields the bytes decoded so far -/
theorem flush_latchTo (c : Nat) (out : Array UInt8) (hc : c = 900 ∨ c = 901 ∨ c = 902 ∨ c = 924) :
    flush (latchTo c) out = .ok out := by
  rcases hc with rfl | rfl | rfl | rfl <;> exact congrArg Except.ok (Array.append_empty ..)

theorem step_byte (e : Bool) (rev : List Nat) (out : Array UInt8) (c : Nat) (hc : c < 900) :
    step (Mode.byte e rev, out) c = .ok (Mode.byte e (c :: rev), out) := by
  have h1 : ¬ c ≥ 929 := by omega
  simp only [step, h1, if_false, hc, if_true]; rfl

theorem step_numeric (rev : List Nat) (out : Array UInt8) (c : Nat) (hc : c < 900) :
    step (Mode.numeric rev, out) c = .ok (Mode.numeric (c :: rev), out) := by
  have h1 : ¬ c ≥ 929 := by omega
  simp only [step, h1, if_false, hc, if_true]; rfl

theorem step_byteShift (sub : Sub) (out : Array UInt8) (b : UInt8) :
    step (Mode.byteShift sub, out) b.toNat = .ok (Mode.text sub .none, out.push b) := by
  have hb := b.toNat_lt
  have h1 : ¬ b.toNat ≥ 929 := by omega
  simp only [step, h1, if_false, hb, if_true, UInt8.ofNat_toNat]; rfl

/-- in a mode `mk rev` that collects codewords below 900 (Byte, Numeric), a run of them is collected -/
theorem fold_collect (mk : List Nat → Mode)
    (hmk : ∀ rev out c, c < 900 → step (mk rev, out) c = .ok (mk (c :: rev), out)) (body : List Nat) :
    ∀ (rev : List Nat) (out : Array UInt8), (∀ c ∈ body, c < 900) →
      body.foldlM step (mk rev, out) = .ok (mk (body.reverse ++ rev), out) := by
  induction body with
  | nil => intro rev out _; rfl
  | cons c body ih =>
    intro rev out h
    rw [List.foldlM_cons, hmk rev out c (h c List.mem_cons_self), List.reverse_cons, List.append_assoc]
    exact ih _ _ (fun x hx => h x (List.mem_cons_of_mem _ hx))

abbrev init : Mode × Array UInt8 := (Mode.text .alpha .none, #[])

/-- Invariant of the segmentation loop: `pre` are the bytes consumed so far, `data` the remaining ones.
    The decoder accepts `result` and is then in state `(m, out)`; closing its running segment yields exactly
    `pre`; all codewords are valid and the last one is not 900.  When the encoder is in Text mode the decoder is
    in the encoder's sub-mode, and a pending shift (the pad 29 of an odd Text run) can only be present if the
    remaining data starts at a stop position of the text counter, so that the next segment starts with a latch
    or the 913 shift. -/
structure Inv (pre data : Bytes) (emode tsm : Nat) (result : List Nat) (m : Mode) (out : Array UInt8) : Prop where
  run : result.foldlM step init = .ok (m, out)
  closed : flush m out = .ok pre.toArray
  lt : ∀ c ∈ result, c < 929
  last : result.getLast? ≠ some 900
  sub : 3 ≤ tsm ∧ tsm ≤ 6
  text : emode = c_encText → ∃ sh, m = .text (subOf tsm) sh ∧ (sh = .none ∨ textStop (runeList data) = true)

theorem inv_init (data : Bytes) : Inv [] data c_encText c_subUpper [] (.text .alpha .none) #[] :=
  ⟨rfl, rfl, nofun, nofun, by decide, fun _ => ⟨.none, rfl, Or.inl rfl⟩⟩

theorem getLast?_append_ne_nil {l l' : List Nat} (h : l' ≠ []) : (l ++ l').getLast? = l'.getLast? := by
  rw [List.getLast?_append, List.getLast?_eq_some_getLast h, Option.some_or]

theorem getLast_ne {l : List Nat} (h : ∀ c ∈ l, c < 900) : l.getLast? ≠ some 900 :=
  fun hl => absurd (h 900 (List.mem_of_getLast? hl)) (by decide)

/-- a run of the decoder that changes what closing yields has consumed a codeword -/
theorem foldlM_step_ne_nil {cws : List Nat} {m m' : Mode} {out out' : Array UInt8} {pre seg : Bytes}
    (hrun : cws.foldlM step (m, out) = .ok (m', out')) (h : flush m out = .ok pre.toArray)
    (h' : flush m' out' = .ok (pre ++ seg).toArray) (hseg : seg ≠ []) : cws ≠ [] := by
  rintro rfl
  cases hrun
  rw [h] at h'
  exact hseg (List.append_right_eq_self.mp (List.toArray_inj (Except.ok.inj h')).symm)

section
variable {pre data data' seg : Bytes} {e t e' t' : Nat} {result cws : List Nat} {m m' : Mode}
  {out out' : Array UInt8}

/-- Extending the result by codewords `cws` that make the decoder produce the further bytes `seg ≠ []`. -/
theorem Inv.append (h : Inv pre data e t result m out) (hseg : seg ≠ [])
    (hrun : cws.foldlM step (m, out) = .ok (m', out')) (hclosed : flush m' out' = .ok (pre ++ seg).toArray)
    (hlt : ∀ c ∈ cws, c < 929) (hlast : cws.getLast? ≠ some 900) (hsub : 3 ≤ t' ∧ t' ≤ 6)
    (htext : e' = c_encText →
      ∃ sh, m' = .text (subOf t') sh ∧ (sh = .none ∨ textStop (runeList data') = true)) :
    Inv (pre ++ seg) data' e' t' (result ++ cws) m' out' where
  run := by rw [List.foldlM_append, h.run]; exact hrun
  closed := hclosed
  lt := fun c hc => (List.mem_append.mp hc).elim (h.lt c) (hlt c)
  last := by rw [getLast?_append_ne_nil (foldlM_step_ne_nil hrun h.closed hclosed hseg)]; exact hlast
  sub := hsub
  text := htext

/-- Extending the result by a latch `l` and codewords `body` below 900 that make the decoder produce `seg`. -/
theorem Inv.latch_seg (h : Inv pre data e t result m out) (hseg : seg ≠ []) {l : Nat} {body : List Nat}
    (hl : l = 900 ∨ l = 901 ∨ l = 902 ∨ l = 924) (hlt : ∀ c ∈ body, c < 900)
    (hrun : body.foldlM step (latchTo l, pre.toArray) = .ok (m', out'))
    (hclosed : flush m' out' = .ok (pre ++ seg).toArray) (hsub : 3 ≤ t' ∧ t' ≤ 6)
    (htext : e' = c_encText →
      ∃ sh, m' = .text (subOf t') sh ∧ (sh = .none ∨ textStop (runeList data') = true)) :
    Inv (pre ++ seg) data' e' t' (result ++ l :: body) m' out' := by
  refine h.append hseg ?_ hclosed ?_ ?_ hsub htext
  · rw [List.foldlM_cons, step_latch m out _ l h.closed hl]; exact hrun
  · intro c hc
    rcases List.mem_cons.mp hc with rfl | hc
    · omega
    · exact Nat.lt_trans (hlt c hc) (by decide)
  · rw [← List.singleton_append, getLast?_append_ne_nil (foldlM_step_ne_nil hrun (flush_latchTo l _ hl) hclosed hseg)]
    exact getLast_ne hlt

/-- Numeric segment: latch 902 and the codewords of `encodeNumeric` -/
theorem Inv.numeric (h : Inv pre data e t result m out) (hseg : seg ≠ []) {numData : List Nat}
    (hlt : ∀ c ∈ numData, c < 900) (hfl : flushNumeric numData.length numData = .ok seg) :
    ∃ m' out', Inv (pre ++ seg) data' c_encNumeric c_subUpper (result ++ [c_latch_to_numeric] ++ numData) m' out' := by
  have hrun := fold_collect Mode.numeric step_numeric numData [] pre.toArray hlt
  rw [List.append_assoc]
  refine ⟨_, _, h.latch_seg hseg (l := 902) (by decide) hlt hrun ?_ (by decide) (fun hh => absurd hh (by decide))⟩
  simp only [flush, List.append_nil, List.length_reverse, List.reverse_reverse, hfl]
  exact congrArg Except.ok (List.append_toArray ..)

/-- Byte segment: latch 901 / 924 and the codewords of `encodeBinary` -/
theorem Inv.byte (h : Inv pre data e t result m out) (hseg : seg ≠ []) :
    ∃ m' out', Inv (pre ++ seg) data' c_encBinary c_subUpper (result ++ encodeBinary seg c_encBinary) m' out' := by
  obtain ⟨body, hb, hlt, hfl⟩ := PdfByte.encodeBinary_latch seg c_encBinary (fun hh => absurd hh.2 (by decide))
  have hrun := fold_collect (Mode.byte (seg.length % 6 == 0)) (step_byte _) body [] pre.toArray hlt
  rw [← latchTo_byte] at hrun
  rw [hb]
  refine ⟨_, _, h.latch_seg hseg (by split <;> decide) hlt hrun ?_ (by decide) (fun hh => absurd hh (by decide))⟩
  simp only [flush, List.append_nil, List.reverse_reverse, hfl]
  exact congrArg Except.ok (List.append_toArray ..)

/-- a single byte in Text mode: 913 and the byte; the decoder returns to the same sub-mode, a pending
    shift is dropped -/
theorem Inv.shift (h : Inv pre data c_encText t result m out) (b : UInt8) :
    ∃ m' out', Inv (pre ++ [b]) data' c_encText t (result ++ encodeBinary [b] c_encText) m' out' := by
  obtain ⟨sh, rfl, _⟩ := h.text rfl
  have hb := b.toNat_lt
  have hrun : [913, b.toNat].foldlM step (Mode.text (subOf t) sh, out)
      = .ok (Mode.text (subOf t) .none, out.push b) := by
    show (step (Mode.byteShift (subOf t), out) b.toNat >>= pure) = _
    rw [step_byteShift]; rfl
  rw [PdfByte.encodeBinary_shift]
  refine ⟨_, _, h.append (List.cons_ne_nil b []) hrun ?_ ?_ ?_ h.sub (fun _ => ⟨.none, rfl, Or.inl rfl⟩)⟩
  · cases h.closed; exact congrArg Except.ok (List.push_toArray ..)
  · intro c hc
    simp only [List.mem_cons, List.not_mem_nil, or_false] at hc
    omega
  · intro hh
    have : b.toNat = 900 := Option.some.inj hh
    omega

/-- Text segment while the encoder is in Text mode (no latch): possible only if the data does not start at
    a stop position, so that no shift is pending -/
theorem Inv.text_cont (h : Inv pre data c_encText t result m out) (hseg : seg ≠ []) {text : List Nat}
    (ht : ∀ ch ∈ text, isText ch = true) (hmap : text.map UInt8.ofNat = seg)
    (hstop : textStop (runeList data') = true) (hns : textStop (runeList data) = false) :
    ∃ m' out', Inv (pre ++ seg) data' c_encText (encodeText text t).1 (result ++ (encodeText text t).2) m' out' := by
  obtain ⟨_, rfl, hsh⟩ := h.text rfl
  obtain rfl : _ = Shift.none := hsh.resolve_right (hns ▸ Bool.false_ne_true)
  cases h.closed
  obtain ⟨sh, hrun⟩ := PdfText.encodeText_roundtrip text t h.sub ht pre.toArray
  rw [hmap, List.append_toArray] at hrun
  exact ⟨_, _, h.append hseg hrun rfl (fun c hc => Nat.lt_trans (PdfText.encodeText_lt text t c hc) (by decide))
    (getLast_ne (PdfText.encodeText_lt text t)) (PdfText.encodeText_sub text t h.sub) (fun _ => ⟨sh, rfl, Or.inr hstop⟩)⟩

/-- Text segment from Byte or Numeric mode: latch 900, Alpha sub-mode -/
theorem Inv.text_latch (h : Inv pre data e t result m out) (hseg : seg ≠ []) {text : List Nat}
    (ht : ∀ ch ∈ text, isText ch = true) (hmap : text.map UInt8.ofNat = seg)
    (hstop : textStop (runeList data') = true) :
    ∃ m' out', Inv (pre ++ seg) data' c_encText (encodeText text c_subUpper).1
      (result ++ [c_latch_to_text] ++ (encodeText text c_subUpper).2) m' out' := by
  obtain ⟨sh, hrun⟩ := PdfText.encodeText_roundtrip text c_subUpper (by decide) ht pre.toArray
  rw [hmap, List.append_toArray] at hrun
  rw [List.append_assoc]
  exact ⟨_, _, h.latch_seg hseg (l := 900) (by decide) (PdfText.encodeText_lt text _) hrun rfl
    (PdfText.encodeText_sub text _ (by decide)) (fun _ => ⟨sh, rfl, Or.inr hstop⟩)⟩

end

def binCount (data : Bytes) : Nat :=
  if determineConsecutiveBinaryCount data == 0 then 1 else determineConsecutiveBinaryCount data

/-- the Boolean form of the numeric and the text branch condition -/
theorem count_cond (n c len : Nat) : (decide (n ≥ c) || n == len) = true ↔ n ≥ c ∨ n = len := by
  rw [Bool.or_eq_true, decide_eq_true_eq, beq_iff_eq]

/-- one round of `highlevelLoop` on non-empty data, with the branch conditions as propositions -/
theorem highlevelLoop_succ (fuel : Nat) (data : Bytes) (e t : Nat) (result : List Nat) (hpos : data.length > 0) :
    highlevelLoop (fuel + 1) data e t result =
      let n := determineConsecutiveDigitCount (runeList data)
      let k := determineConsecutiveTextCount (runeList data)
      let bytes := data.take (binCount data)
      if n ≥ c_min_numeric_count ∨ n = data.length then
        match encodeNumeric (runeList (data.take n)) with
        | .error err => .error err
        | .ok numData =>
          highlevelLoop fuel (data.drop n) c_encNumeric c_subUpper (result ++ [c_latch_to_numeric] ++ numData)
      else if k ≥ 5 ∨ k = data.length then
        if e = c_encText then
          highlevelLoop fuel (data.drop k) c_encText (encodeText (runeList (data.take k)) t).1
            (result ++ (encodeText (runeList (data.take k)) t).2)
        else
          highlevelLoop fuel (data.drop k) c_encText (encodeText (runeList (data.take k)) c_subUpper).1
            (result ++ [c_latch_to_text] ++ (encodeText (runeList (data.take k)) c_subUpper).2)
      else if bytes.length = 1 ∧ e = c_encText then
        highlevelLoop fuel (data.drop (binCount data)) c_encText t (result ++ encodeBinary bytes c_encText)
      else
        highlevelLoop fuel (data.drop (binCount data)) c_encBinary c_subUpper
          (result ++ encodeBinary bytes c_encBinary) := by
  rw [highlevelLoop, if_pos hpos]
  dsimp only
  rw [← binCount]
  by_cases hc : determineConsecutiveDigitCount (runeList data) ≥ c_min_numeric_count ∨
      determineConsecutiveDigitCount (runeList data) = data.length
  · rw [if_pos hc, if_pos ((count_cond ..).2 hc)]
    cases encodeNumeric (runeList (data.take (determineConsecutiveDigitCount (runeList data)))) <;> rfl
  rw [if_neg hc, if_neg (mt (count_cond ..).1 hc)]
  by_cases hc2 : determineConsecutiveTextCount (runeList data) ≥ 5 ∨
      determineConsecutiveTextCount (runeList data) = data.length
  · rw [if_pos hc2, if_pos ((count_cond ..).2 hc2)]
    by_cases he : e = c_encText
    · rw [if_pos he, if_neg (fun hh => bne_iff_ne.mp hh he), he]
    · rw [if_neg he, if_pos (bne_iff_ne.mpr he)]
  rw [if_neg hc2, if_neg (mt (count_cond ..).1 hc2)]
  have hb : ((data.take (binCount data)).length != 1 || e != c_encText) = true ↔
      ¬ ((data.take (binCount data)).length = 1 ∧ e = c_encText) := by
    rw [Bool.or_eq_true, bne_iff_ne, bne_iff_ne]
    exact Decidable.not_and_iff_not_or_not.symm
  by_cases h : (data.take (binCount data)).length = 1 ∧ e = c_encText
  · rw [if_pos h, if_neg (fun hh => hb.1 hh h), h.2]
  · rw [if_neg h, if_pos (hb.2 h)]

theorem loop_end (fuel : Nat) (e t : Nat) (result : List Nat) :
    highlevelLoop fuel [] e t result = .ok result := by
  cases fuel <;> rfl

theorem take_ne_nil (data : Bytes) (n : Nat) (hn : 1 ≤ n) (hd : data.length > 0) : data.take n ≠ [] := by
  intro h
  have := congrArg List.length h
  simp only [List.length_take, List.length_nil] at this
  omega

/-- With fuel above the number of remaining bytes the loop consumes all of them (every round removes at
    least one), never fails, and re-establishes the invariant with `pre ++ data` consumed. -/
theorem loop_inv (fuel : Nat) : ∀ (pre data : Bytes) (e t : Nat) (result : List Nat) (m : Mode) (out : Array UInt8),
    data.length < fuel → Inv pre data e t result m out →
    ∃ cws e' t' m' out', highlevelLoop fuel data e t result = .ok cws ∧ Inv (pre ++ data) [] e' t' cws m' out' := by
  induction fuel with
  | zero => intro pre data e t result m out h; omega
  | succ fuel ih =>
    intro pre data e t result m out hlen hinv
    by_cases hpos : data.length > 0
    case neg =>
      have : data = [] := List.length_eq_zero_iff.mp (by omega)
      subst this
      exact ⟨result, e, t, m, out, loop_end _ _ _ _, (List.append_nil pre).symm ▸ hinv⟩
    -- the IH in the form used by every branch: `n ≥ 1` bytes are consumed
    have next : ∀ (n : Nat) (e' t' : Nat) (res' : List Nat), 1 ≤ n →
        (∃ m' out', Inv (pre ++ data.take n) (data.drop n) e' t' res' m' out') →
        ∃ cws e'' t'' m'' out'', highlevelLoop fuel (data.drop n) e' t' res' = .ok cws ∧
          Inv (pre ++ data) [] e'' t'' cws m'' out'' := by
      intro n e' t' res' hn ⟨m', out', hi⟩
      have := ih (pre ++ data.take n) (data.drop n) e' t' res' m' out' (by simp only [List.length_drop]; omega) hi
      simpa only [List.append_assoc, List.take_append_drop] using this
    rw [highlevelLoop_succ fuel data e t result hpos]
    dsimp only
    by_cases hc : determineConsecutiveDigitCount (runeList data) ≥ c_min_numeric_count ∨
        determineConsecutiveDigitCount (runeList data) = data.length
    · -- numeric
      obtain ⟨_, p2, p3⟩ := numeric_prefix data
      obtain ⟨numData, hen, hlt, hfl⟩ := PdfNumeric.encodeNumeric_roundtrip _ p2
      rw [p3] at hfl
      have hn : 1 ≤ determineConsecutiveDigitCount (runeList data) := by
        simp only [c_min_numeric_count] at hc; omega
      rw [if_pos hc, hen]
      exact next _ _ _ _ hn (hinv.numeric (take_ne_nil data _ hn hpos) hlt hfl)
    rw [if_neg hc]
    by_cases hc2 : determineConsecutiveTextCount (runeList data) ≥ 5 ∨
        determineConsecutiveTextCount (runeList data) = data.length
    · -- text
      obtain ⟨_, q2, q3, q4⟩ := text_prefix data
      have hk : 1 ≤ determineConsecutiveTextCount (runeList data) := by omega
      have hne := take_ne_nil data _ hk hpos
      rw [if_pos hc2]
      by_cases he : e = c_encText
      · subst he
        have hns : textStop (runeList data) = false := by
          cases hs : textStop (runeList data)
          · rfl
          · have := (textStop_elim _ hs).1; omega
        rw [if_pos rfl]
        exact next _ _ _ _ hk (hinv.text_cont hne q2 q3 q4 hns)
      · rw [if_neg he]
        exact next _ _ _ _ hk (hinv.text_latch hne q2 q3 q4)
    -- binary
    rw [if_neg hc2]
    have hb : 1 ≤ binCount data := by
      unfold binCount; split
      · omega
      · rename_i h; simp only [beq_iff_eq] at h; omega
    by_cases h : (data.take (binCount data)).length = 1 ∧ e = c_encText
    · obtain ⟨h1, rfl⟩ := h
      obtain ⟨b, hb1⟩ := List.length_eq_one_iff.mp h1
      rw [if_pos ⟨h1, rfl⟩, hb1]
      exact next _ _ _ _ hb (hb1 ▸ hinv.shift b)
    · rw [if_neg h]
      exact next _ _ _ _ hb (hinv.byte (take_ne_nil data _ hb hpos))

/-- Everything at once: `highlevelEncode` never fails, emits only codewords < 929, the Spec compaction
    decoder maps them back to the data byte for byte, and the last codeword is not 900 (the pad codeword). -/
theorem highlevelEncode_spec (data : Bytes) :
    ∃ cws, highlevelEncode data = .ok cws ∧ (∀ c ∈ cws, c < 929) ∧
      Spec.Pdf417.decodeData cws = .ok data ∧ cws.getLast? ≠ some 900 := by
  obtain ⟨cws, e', t', m, out, hcw, h⟩ :=
    loop_inv (data.length + 1) [] data c_encText c_subUpper [] _ _ (Nat.lt_succ_self _) (inv_init data)
  refine ⟨cws, hcw, h.lt, ?_, h.last⟩
  unfold decodeData
  rw [show List.foldlM step (Mode.text .alpha .none, #[]) cws = .ok (m, out) from h.run]
  show (flush m out >>= fun x => pure x.toList) = _
  rw [h.closed]; rfl

/-- `highlevelEncode` never fails, emits only codewords < 929, and the Spec compaction decoder maps them back
    to the data byte for byte -/
theorem highlevelEncode_roundtrip (data : Bytes) :
    ∃ cws, highlevelEncode data = .ok cws ∧ (∀ c ∈ cws, c < 929) ∧ Spec.Pdf417.decodeData cws = .ok data := by
  obtain ⟨cws, h1, h2, h3, _⟩ := highlevelEncode_spec data
  exact ⟨cws, h1, h2, h3⟩

/-- the data codewords never end in 900, so stripping trailing pad codewords (900) removes padding only -/
theorem highlevel_last_ne_900 (data : Bytes) (cws : List Nat) (h : highlevelEncode data = .ok cws) :
    cws.getLast? ≠ some 900 := by
  obtain ⟨cws', h1, _, _, h4⟩ := highlevelEncode_spec data
  cases h.symm.trans h1
  exact h4

theorem highlevelEncode_ok (data : Bytes) : ∃ cws, highlevelEncode data = .ok cws := by
  obtain ⟨cws, h1, _⟩ := highlevelEncode_spec data
  exact ⟨cws, h1⟩

/-- A concrete mixed input: "abcdef" (Text, Lower, odd run: pad 29 = pending `ps`), the byte 0x80 (913 shift
    with the shift pending), "xyz;;;" (Text continues in Lower without latch, again a pad), thirteen digits
    (902), the bytes FF FE (901), "Hello!" (900 latch).  Encoder output and decoder result by kernel
    evaluation. -/
def sample : Bytes :=
  [97, 98, 99, 100, 101, 102, 0x80, 120, 121, 122, 59, 59, 59, 49, 50, 51, 52, 53, 54, 55, 56, 57, 48, 49, 50, 51,
   0xff, 0xfe, 72, 101, 108, 108, 111, 33]

/-- Lets `decide +kernel` state the two evaluations below, so that only the kernel runs encoder and decoder
    (with `rfl` the elaborator evaluates them first). -/
local instance {ε α : Type} [DecidableEq ε] [DecidableEq α] : DecidableEq (Except ε α)
  | .ok a, .ok b => if h : a = b then isTrue (h ▸ rfl) else isFalse fun h' => h (Except.ok.inj h')
  | .error a, .error b => if h : a = b then isTrue (h ▸ rfl) else isFalse fun h' => h (Except.error.inj h')
  | .ok _, .error _ => isFalse nofun
  | .error _, .ok _ => isFalse nofun

example : highlevelEncode sample = .ok [810, 32, 94, 179, 913, 128, 714, 779, 29, 29, 29, 902, 17, 110, 836, 811,
    223, 901, 255, 254, 900, 237, 131, 344, 880] := by decide +kernel

example : decodeData [810, 32, 94, 179, 913, 128, 714, 779, 29, 29, 29, 902, 17, 110, 836, 811,
    223, 901, 255, 254, 900, 237, 131, 344, 880] = .ok sample := by decide +kernel
