/-
  QR matrix layer: the zig-zag placement walk.
  The Go loop `iterateModules` (model: `allPoints.go`, with fuel) and the reference decoder's double fold
  `readDataBits` both traverse the closed-form list `walk dim` of `QrMatrixDefs`; the walk stays inside the
  symbol, never touches the timing column 6, has no repetition and visits every other module.
-/
import BV.Proofs.QrMatrixDefs
namespace BV.Proofs.QrMatrix
open BV BV.Model BV.Model.Qr

/-- the two cases of `walkCol` for a column pair of the walk, written without truncated subtraction -/
theorem walkCol_spec (dim k : Nat) (hk : k < (dim - 1) / 2) :
    (2 * k + 8 ≤ dim ∧ walkCol dim k + 2 * k + 1 = dim) ∨ (dim < 2 * k + 8 ∧ walkCol dim k + 2 * k + 2 = dim) := by
  unfold walkCol; split <;> omega

theorem walkRow_spec (dim k t : Nat) :
    (k % 2 = 0 ∧ walkRow dim k t = dim - 1 - t) ∨ (k % 2 = 1 ∧ walkRow dim k t = t) := by
  unfold walkRow
  by_cases h : k % 2 = 0
  · left; simp [h]
  · right; have : k % 2 = 1 := by omega
    simp [this]

/-- the column update at the end of a column pair: two to the left, skipping the timing column 6 -/
def nextX (X : Int) : Int := if (X - 2 == 6) = true then X - 2 - 1 else X - 2

/-- One turn of the loop at step `s` of column pair `k`, whose direction flag is `k % 2 == 0`: both modules of
    the row are emitted; then the next row of the pair, or the first row of the next pair, or the end. -/
theorem go_step (dim X k s f : Nat) (acc : Array (Int × Int)) (hX : 1 ≤ X) (hs : s < dim) :
    allPoints.go (dim : Int) (f + 1) X (walkRow dim k s : Nat) (k % 2 == 0) acc =
      let acc' := (acc.push ((X : Nat), (walkRow dim k s : Nat))).push ((X - 1 : Nat), (walkRow dim k s : Nat))
      if s + 1 < dim then allPoints.go dim f X (walkRow dim k (s + 1) : Nat) (k % 2 == 0) acc'
      else if nextX X < 0 then acc'
      else allPoints.go dim f (nextX X) (walkRow dim (k + 1) 0 : Nat) ((k + 1) % 2 == 0) acc' := by
  have hX1 : (X : Int) - 1 = ((X - 1 : Nat) : Int) := by omega
  rw [allPoints.go, hX1]
  rcases Nat.mod_two_eq_zero_or_one k with hk | hk
  · have hk' : (k + 1) % 2 = 1 := by omega
    simp only [walkRow, hk, hk', show (1 == 0) = false from rfl, show (0 == 0) = true from rfl, if_true,
      Bool.false_eq_true, if_false]
    by_cases h : s + 1 < dim
    · rw [if_pos h, if_neg (by omega)]; congr 1; omega
    · rw [if_neg h, if_pos (by omega)]; rfl
  · have hk' : (k + 1) % 2 = 0 := by omega
    simp only [walkRow, hk, hk', show (1 == 0) = false from rfl, show (0 == 0) = true from rfl, if_true,
      Bool.false_eq_true, if_false]
    by_cases h : s + 1 < dim
    · rw [if_pos h, if_neg (by omega)]; rfl
    · rw [if_neg h, if_pos (by omega), show ((dim - 1 - 0 : Nat) : Int) = dim - 1 by omega]; rfl

/-- the two modules of column pair `k` at its step `t`, as the loop emits them -/
def rowPts (dim k t : Nat) : List (Int × Int) :=
  [((walkCol dim k : Nat), (walkRow dim k t : Nat)), ((walkCol dim k - 1 : Nat), (walkRow dim k t : Nat))]

/-- Column pair `k` from its step `s` on, `m + 1` steps to go: the loop appends the remaining rows of the pair
    and then whatever it appends (`rest`) after the column update. -/
theorem go_col (dim k f : Nat) (hk : k < (dim - 1) / 2) (rest : List (Int × Int))
    (hrest : ∀ acc, (if nextX (walkCol dim k) < 0 then acc else
      allPoints.go dim f (nextX (walkCol dim k)) (walkRow dim (k + 1) 0 : Nat) ((k + 1) % 2 == 0) acc).toList =
        acc.toList ++ rest) (m : Nat) :
    ∀ (s : Nat) (acc : Array (Int × Int)), s + (m + 1) = dim →
      (allPoints.go dim (f + (m + 1)) (walkCol dim k) (walkRow dim k s : Nat) (k % 2 == 0) acc).toList =
        acc.toList ++ ((List.range' s (m + 1)).flatMap (rowPts dim k) ++ rest) := by
  have hX : 1 ≤ walkCol dim k := by have := walkCol_spec dim k hk; omega
  induction m with
  | zero =>
    intro s acc hs
    rw [go_step _ _ _ _ _ _ hX (by omega), if_neg (by omega), hrest]
    simp [rowPts]
  | succ m ih =>
    intro s acc hs
    rw [← Nat.add_assoc, go_step _ _ _ _ _ _ hX (by omega), if_pos (by omega), ih _ _ (by omega),
      @List.range'_succ s (m + 1) 1, List.flatMap_cons]
    simp [rowPts]

theorem nextX_walkCol (v dim k : Nat) (hdim : dim = 17 + 4 * v) (hk : k + 1 < (dim - 1) / 2) :
    nextX (walkCol dim k : Int) = (walkCol dim (k + 1) : Int) ∧ ¬ nextX (walkCol dim k : Int) < 0 := by
  have h1 := walkCol_spec dim k (by omega)
  have h2 := walkCol_spec dim (k + 1) hk
  generalize walkCol dim k = a at *
  generalize walkCol dim (k + 1) = b at *
  unfold nextX
  split
  · next h6 => rw [beq_iff_eq] at h6; omega
  · next h6 => rw [beq_iff_eq] at h6; omega

theorem nextX_walkCol_last (v dim k : Nat) (hdim : dim = 17 + 4 * v) (hk : k + 1 = (dim - 1) / 2) :
    nextX (walkCol dim k : Int) < 0 := by
  have h1 : walkCol dim k = 1 := by have := walkCol_spec dim k (by omega); omega
  rw [h1]; decide

/-- the loop invariant: with `n + 1` column pairs to go from the start of pair `k`, and at least `(n+1) * dim`
    units of fuel, the loop appends exactly the remaining pairs -/
theorem go_pairs (v dim : Nat) (hdim : dim = 17 + 4 * v) (n : Nat) :
    ∀ (k f : Nat) (acc : Array (Int × Int)), k + (n + 1) = (dim - 1) / 2 →
    (allPoints.go (dim : Int) (f + (n + 1) * dim) (walkCol dim k : Int) ((walkRow dim k 0 : Nat) : Int)
        (k % 2 == 0) acc).toList =
      acc.toList ++ (List.range' k (n + 1)).flatMap (fun k => (List.range dim).flatMap (rowPts dim k)) := by
  obtain ⟨m, rfl⟩ : ∃ m, dim = m + 1 := ⟨dim - 1, by omega⟩
  induction n with
  | zero =>
    intro k f acc hk
    rw [Nat.one_mul, go_col (m + 1) k f (by omega) [] (fun acc => by
      rw [if_pos (nextX_walkCol_last v _ k hdim hk), List.append_nil]) m 0 acc (Nat.zero_add _)]
    simp [List.range_eq_range']
  | succ n ih =>
    intro k f acc hk
    have hn := nextX_walkCol v _ k hdim (by omega)
    rw [Nat.succ_mul, ← Nat.add_assoc, go_col (m + 1) k _ (by omega) _ (fun acc => by
      rw [if_neg hn.2, hn.1]; exact ih (k + 1) f acc (by omega)) m 0 acc (Nat.zero_add _),
      @List.range'_succ k (n + 1) 1, List.flatMap_cons, List.range_eq_range']

/-- For the side length of any version, the Go placement loop (`allPoints`, with its fuel) produces exactly
    the closed-form walk: column pairs dim-1, dim-3, …, 8, 5, 3, 1, alternately upwards and downwards, right
    module before left. -/
theorem allPoints_eq_walk (v : Nat) :
    (Model.Qr.allPoints (17 + 4 * v)).toList =
      (walk (17 + 4 * v)).map (fun p => ((p.1 : Int), (p.2 : Int))) := by
  generalize hdim : 17 + 4 * v = dim
  obtain ⟨n, hn⟩ : ∃ n, (dim - 1) / 2 = n + 1 := ⟨(dim - 1) / 2 - 1, by omega⟩
  have hK : (n + 1) * dim ≤ dim * dim := hn ▸ Nat.mul_le_mul_right dim (by omega)
  have h := go_pairs v dim hdim.symm n 0 (dim * dim + 1 - (n + 1) * dim) (Array.mkEmpty (dim * dim + dim))
    (by omega)
  have hX := walkCol_spec dim 0 (by omega)
  rw [Nat.sub_add_cancel (by omega), ← hn, ← List.range_eq_range',
    show ((walkCol dim 0 : Nat) : Int) = dim - 1 by omega,
    show ((walkRow dim 0 0 : Nat) : Int) = dim - 1 by simp [walkRow]; omega] at h
  unfold allPoints walk
  simp only [List.map_flatMap]
  exact h

theorem mem_walk (dim X Y : Nat) :
    (X, Y) ∈ walk dim ↔ ∃ k, k < (dim - 1) / 2 ∧ ∃ t, t < dim ∧
      (X = walkCol dim k ∨ X = walkCol dim k - 1) ∧ Y = walkRow dim k t := by
  unfold walk
  simp only [List.mem_flatMap, List.mem_range, List.mem_cons, List.not_mem_nil, or_false, Prod.mk.injEq]
  constructor
  · rintro ⟨k, hk, t, ht, h⟩
    exact ⟨k, hk, t, ht, by omega, by omega⟩
  · rintro ⟨k, hk, t, ht, h1, h2⟩
    exact ⟨k, hk, t, ht, by omega⟩

theorem walk_range (dim : Nat) : ∀ p ∈ walk dim, p.1 < dim ∧ p.2 < dim := by
  rintro ⟨X, Y⟩ hp
  obtain ⟨k, hk, t, ht, hX, hY⟩ := (mem_walk _ X Y).mp hp
  have h1 := walkCol_spec dim k hk
  have h2 := walkRow_spec dim k t
  simp only
  omega

/-- the walk never visits the vertical timing column 6 -/
theorem walk_ne_six (v : Nat) : ∀ p ∈ walk (17 + 4 * v), p.1 ≠ 6 := by
  rintro ⟨X, Y⟩ hp
  obtain ⟨k, hk, t, ht, hX, hY⟩ := (mem_walk _ X Y).mp hp
  have h1 := walkCol_spec (17 + 4 * v) k hk
  simp only
  omega

/-- every module of the symbol outside column 6 is visited by the walk -/
theorem walk_complete (v : Nat) :
    ∀ X Y, X < 17 + 4 * v → Y < 17 + 4 * v → X ≠ 6 → (X, Y) ∈ walk (17 + 4 * v) := by
  intro X Y hX hY h6
  generalize hdim : 17 + 4 * v = dim at *
  obtain ⟨k, hk, hx⟩ : ∃ k, k < (dim - 1) / 2 ∧ (X = walkCol dim k ∨ X = walkCol dim k - 1) := by
    by_cases hgt : X > 6
    · have := walkCol_spec dim ((dim - 1 - X) / 2) (by omega)
      exact ⟨(dim - 1 - X) / 2, by omega, by omega⟩
    · have := walkCol_spec dim ((dim - 2 - X) / 2) (by omega)
      exact ⟨(dim - 2 - X) / 2, by omega, by omega⟩
  -- the row is reached at step `dim-1-Y` of an upward pair and at step `Y` of a downward pair
  rcases walkRow_spec dim k (dim - 1 - Y) with h | h
  · exact (mem_walk dim X Y).mpr ⟨k, hk, dim - 1 - Y, by omega, hx, by omega⟩
  · have := walkRow_spec dim k Y
    exact (mem_walk dim X Y).mpr ⟨k, hk, Y, hY, hx, by omega⟩

theorem walk_nodup (dim : Nat) : (walk dim).Nodup := by
  unfold walk List.Nodup
  rw [List.pairwise_flatMap]
  constructor
  · intro k hk
    rw [List.mem_range] at hk
    have hc := walkCol_spec dim k hk
    rw [List.pairwise_flatMap]
    constructor
    · intro t _
      simp only [List.pairwise_cons, List.mem_cons, List.not_mem_nil, or_false, forall_eq, ne_eq, Prod.mk.injEq,
        List.Pairwise.nil, and_true, false_imp_iff, implies_true]
      omega
    · refine List.Pairwise.imp_of_mem ?_ (List.nodup_range (n := dim))
      intro a b ha hb hab
      rw [List.mem_range] at ha hb
      have h1 := walkRow_spec dim k a
      have h2 := walkRow_spec dim k b
      simp only [List.mem_cons, List.not_mem_nil, or_false, ne_eq]
      rintro x (rfl | rfl) y (rfl | rfl) <;> simp only [Prod.mk.injEq, not_and] <;> omega
  · refine List.Pairwise.imp_of_mem ?_ List.pairwise_lt_range
    intro a b ha hb hab
    rw [List.mem_range] at ha hb
    have h1 := walkCol_spec dim a ha
    have h2 := walkCol_spec dim b hb
    simp only [List.mem_flatMap, List.mem_range, List.mem_cons, List.not_mem_nil, or_false, ne_eq]
    rintro x ⟨t, _, (rfl | rfl)⟩ y ⟨t', _, (rfl | rfl)⟩ <;> simp only [Prod.mk.injEq, not_and] <;> omega

/-- the free modules in placement order, as the model's data loop receives them, are the points of the
    closed-form walk that are not occupied -/
theorem iterateModules_eq (occ : Model.Qr.QRCode) (v : Nat) (hd : occ.dimension = 17 + 4 * v) :
    (Model.Qr.iterateModules occ).toList = (walk (17 + 4 * v)).filter (fun p => !occ.get p.1 p.2) := by
  unfold iterateModules
  rw [Array.toList_filterMap, hd, allPoints_eq_walk v, List.filterMap_map, ← List.filterMap_eq_filter]
  rfl

theorem foldl_toList_append {κ γ : Type} (g : Array γ → κ → Array γ) (F : κ → List γ)
    (hg : ∀ out k, (g out k).toList = out.toList ++ F k) (ks : List κ) :
    ∀ out, (ks.foldl g out).toList = out.toList ++ ks.flatMap F := by
  induction ks with
  | nil => intro out; simp
  | cons k ks ih => intro out; rw [List.foldl_cons, ih, hg, List.flatMap_cons, List.append_assoc]

theorem push2_toList {β : Type} (skip val : β → Bool) (p q : β) (out : Array Bool) :
    (let out := if skip p then out else out.push (val p)
     if skip q then out else out.push (val q)).toList =
      out.toList ++ ([p, q].filter (fun p => !skip p)).map val := by
  cases hp : skip p <;> cases hq : skip q <;> simp [hp, hq]

/-- the bits that the reference decoder reads are the de-masked modules at the non-function points of the
    closed-form walk, in walk order (for every side length) -/
theorem readDataBits_eq (dim : Nat) (dark : Nat → Nat → Bool) (func : Array Bool) (mask : Nat) :
    (Spec.Qr.readDataBits dim dark func mask).toList =
      ((walk dim).filter (fun p => !func.getD (p.2 * dim + p.1) true)).map
        (fun p => dark p.1 p.2 != Spec.Qr.maskCond mask p.2 p.1) := by
  unfold Spec.Qr.readDataBits walk
  -- both loops of the decoder are folds of appending steps; the loop bodies are found by unification
  refine (foldl_toList_append _ _ (fun out k => foldl_toList_append _
    (fun t => ([(walkCol dim k, walkRow dim k t), (walkCol dim k - 1, walkRow dim k t)].filter
      (fun p => !func.getD (p.2 * dim + p.1) true)).map (fun p => dark p.1 p.2 != Spec.Qr.maskCond mask p.2 p.1))
    (fun out t => push2_toList _ _ _ _ _) _ out) _ _).trans ?_
  simp only [List.filter_flatMap, List.map_flatMap]
  rfl

end BV.Proofs.QrMatrix
