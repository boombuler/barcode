/-
  QR matrix layer: the data modules.
  `written` places bit number k of the codeword stream, XOR the mask condition of result i, at the k-th free module of
  the zig-zag walk (`written_rep`); reading the free modules of the walk back in the same order and releasing the
  mask returns the bits (`readback`); the bits are the codewords, most significant bit first, followed by zero
  remainder bits (`dataBits_eq`).
-/
import BV.Proofs.QrMatrixPix
import BV.Proofs.QrMatrixWalk
import BV.Proofs.QrStream
namespace BV.Proofs.QrMatrix
open BV BV.Model BV.Model.Qr BV.Gen.Qr BV.Proofs.QrTables BV.Proofs.QrRender BV.Proofs.QrCoords

/-- bit number `n` of the codeword stream as `render` computes it (`false` beyond the last codeword) -/
def dataBit (data : List Nat) (n : Nat) : Bool :=
  if n < data.toArray.size * 8 then ((data.toArray.getD (n / 8) 0) >>> (7 - (n % 8))) % 2 == 1 else false

/-- one iteration of the data loop of `render` -/
def wstep (data : List Nat) (acc : Array QRCode × Nat) (pos : Nat × Nat) : Array QRCode × Nat :=
  ((List.range 8).foldl (fun (rs : Array QRCode) i =>
      rs.modify i (setMasked pos.1 pos.2 (dataBit data acc.2) i QRCode.set)) acc.1, acc.2 + 1)

theorem written_eq (data : List Nat) (st : RenderState) :
    written data st = (iterateModules st.occupied).toList.foldl (wstep data) (st.results, 0) := by
  rw [Array.foldl_toList]
  rfl

/-- the cells the data loop writes into result `i`: the positions in order, bit `n, n+1, …` XOR mask condition -/
def writeCells (bit : Nat → Bool) (i : Nat) : List (Nat × Nat) → Nat → List Cell
  | [], _ => []
  | p :: ps, n => (p.1, p.2, bit n != Spec.Qr.maskCond i p.2 p.1) :: writeCells bit i ps (n + 1)

/-- `setMasked` for an arbitrary mask index: Table 10 (row `y`, column `x`) for 0..7, no masking otherwise -/
theorem setMasked_any (x y : Nat) (val : Bool) (mask : Nat) {σ} (set : Nat → Nat → Bool → σ → σ) :
    Model.Qr.setMasked x y val mask set =
      set x y (if mask < 8 then val != Spec.Qr.maskCond mask y x else val) := by
  match mask with
  | 0 | 1 | 2 | 3 | 4 | 5 | 6 | 7 => rfl
  | n + 8 => rw [if_neg (by omega)]; rfl

theorem setMasked_eq (x y : Nat) (val : Bool) (mask : Nat) (hm : mask < 8) {σ}
    (set : Nat → Nat → Bool → σ → σ) :
    Model.Qr.setMasked x y val mask set = set x y (val != Spec.Qr.maskCond mask y x) := by
  rw [setMasked_any, if_pos hm]

/-- the data loop on eight bitmaps showing `res`: afterwards they show `res` with the cells of `writeCells` -/
theorem written_fold (c : Scheme) (d : Nat) (data : List Nat) (ps : List (Nat × Nat))
    (hps : ∀ p ∈ ps, p.1 < d ∧ p.2 < d) (rs : Array QRCode) (res : Nat → Nat → Nat → Bool) (n : Nat)
    (h : RepR c d rs res) :
    RepR c d (ps.foldl (wstep data) (rs, n)).1 (fun i => foldUpd (writeCells (dataBit data) i ps n) (res i)) := by
  induction ps generalizing rs res n with
  | nil => exact h
  | cons p ps ih =>
    have hp := hps p List.mem_cons_self
    have h1 := RepR_modifyAll c d rs res h p.1 p.2 hp.1 hp.2
      (fun i => setMasked p.1 p.2 (dataBit data n) i QRCode.set)
      (fun i => dataBit data n != Spec.Qr.maskCond i p.2 p.1) (fun i hi q => by rw [setMasked_eq _ _ _ i hi])
    rw [List.foldl_cons]
    exact ih (fun q hq => hps q (List.mem_cons_of_mem _ hq)) _ _ (n + 1) h1

/-- the data loop of `render`, started in a state showing the picture `P` of side `17 + 4v`: the eight results
    show `P.res i` with bit k XOR mask condition at the k-th module of the walk that is free in `P` -/
theorem written_rep (c : Scheme) (v : Nat) (data : List Nat) (st : RenderState) (P : Pix)
    (h : Rep c (17 + 4 * v) st P) :
    RepR c (17 + 4 * v) (written data st).1 (fun i =>
      foldUpd (writeCells (dataBit data) i ((walk (17 + 4 * v)).filter (fun p => !P.occ p.1 p.2)) 0) (P.res i)) := by
  rw [written_eq, iterateModules_eq st.occupied v h.1.1]
  have hf : (walk (17 + 4 * v)).filter (fun p => !st.occupied.get p.1 p.2) =
      (walk (17 + 4 * v)).filter (fun p => !P.occ p.1 p.2) := by
    apply List.filter_congr
    intro p hp
    have := walk_range _ p hp
    rw [h.2.1 p.1 p.2 this.1 this.2]
  rw [hf]
  apply written_fold c _ data _ _ _ _ 0 h.2.2
  intro p hp
  exact walk_range _ p (List.mem_filter.mp hp).1

/-- the data loop writes at the given positions only -/
theorem writeCells_miss (bit : Nat → Bool) (i : Nat) (ps : List (Nat × Nat)) (n X Y : Nat) (h : (X, Y) ∉ ps) :
    ¬ hasCell (writeCells bit i ps n) X Y := by
  induction ps generalizing n with
  | nil => exact hasCell_nil X Y
  | cons p ps ih =>
    rintro ⟨c, hc, e1, e2⟩
    rcases List.mem_cons.mp hc with rfl | hc'
    · exact h (by rw [← e1, ← e2]; exact List.mem_cons_self)
    · exact ih _ (fun h' => h (List.mem_cons_of_mem _ h')) ⟨c, hc', e1, e2⟩

/-- write, then read at the same positions in the same order and release the same mask: the bits come back -/
theorem readback (bit : Nat → Bool) (i : Nat) (ps : List (Nat × Nat)) (hnd : ps.Nodup) (n : Nat)
    (f : Nat → Nat → Bool) :
    ps.map (fun p => foldUpd (writeCells bit i ps n) f p.1 p.2 != Spec.Qr.maskCond i p.2 p.1) =
      (List.range ps.length).map (fun k => bit (n + k)) := by
  induction ps generalizing n f with
  | nil => rfl
  | cons p ps ih =>
    rw [List.nodup_cons] at hnd
    have hmiss := writeCells_miss bit i ps (n + 1) p.1 p.2 hnd.1
    have e : ∀ g, foldUpd (writeCells bit i (p :: ps) n) g =
        foldUpd (writeCells bit i ps (n + 1)) (upd g p.1 p.2 (bit n != Spec.Qr.maskCond i p.2 p.1)) := fun _ => rfl
    rw [List.map_cons, List.length_cons, List.range_succ_eq_map, List.map_cons, List.map_map]
    congr 1
    · rw [e, foldUpd_miss _ _ _ _ hmiss]
      unfold upd
      rw [if_pos ⟨rfl, rfl⟩]
      cases bit n <;> cases Spec.Qr.maskCond i p.2 p.1 <;> rfl
    · rw [e, ih hnd.2]
      apply List.map_congr_left
      intro k _
      simp only [Function.comp]
      congr 1; omega

theorem write_frame (bit : Nat → Bool) (i : Nat) (ps : List (Nat × Nat)) (n : Nat) (f : Nat → Nat → Bool)
    (X Y : Nat) (h : (X, Y) ∉ ps) : foldUpd (writeCells bit i ps n) f X Y = f X Y :=
  foldUpd_miss _ _ _ _ (writeCells_miss bit i ps n X Y h)

theorem dataBit_cons (c : Nat) (cs : List Nat) (k : Nat) : dataBit (c :: cs) (k + 8) = dataBit cs k := by
  unfold dataBit
  simp only [List.size_toArray, List.length_cons, Array.getD_eq_getD_getElem?, List.getElem?_toArray]
  have e1 : (k + 8) / 8 = k / 8 + 1 := by omega
  have e2 : (k + 8) % 8 = k % 8 := by omega
  rw [e1, e2, List.getElem?_cons_succ]
  by_cases h : k < cs.length * 8
  · rw [if_pos h, if_pos (by omega)]
  · rw [if_neg h, if_neg (by omega)]

theorem dataBit_head (c : Nat) (cs : List Nat) (j : Nat) (hj : j < 8) :
    dataBit (c :: cs) j = c.testBit (7 - j) := by
  unfold dataBit
  simp only [List.size_toArray, List.length_cons, Array.getD_eq_getD_getElem?, List.getElem?_toArray]
  rw [if_pos (by omega)]
  have e1 : j / 8 = 0 := by omega
  have e2 : j % 8 = j := by omega
  rw [e1, e2, List.getElem?_cons_zero, Option.getD_some, Nat.testBit_eq_decide_div_mod_eq, Nat.shiftRight_eq_div_pow]
  by_cases h : c / 2 ^ (7 - j) % 2 = 1 <;> simp [h]

theorem dataBits_codewords (data : List Nat) :
    (List.range (8 * data.length)).map (dataBit data) = data.flatMap (fun c => msbBits c 8) := by
  induction data with
  | nil => rfl
  | cons c cs ih =>
    have e : 8 * (c :: cs).length = 8 + 8 * cs.length := by rw [List.length_cons]; omega
    rw [e, List.range_add, List.map_append, List.map_map, List.flatMap_cons]
    congr 1
    · exact List.map_congr_left (fun j hj => dataBit_head c cs j (List.mem_range.mp hj))
    · rw [← ih]
      exact List.map_congr_left (fun k _ => by rw [Function.comp, Nat.add_comm, dataBit_cons])

theorem dataBit_beyond (data : List Nat) (k : Nat) (h : 8 * data.length ≤ k) : dataBit data k = false := by
  unfold dataBit
  rw [if_neg (by simp only [List.size_toArray]; omega)]

theorem dataBits_eq (data : List Nat) (N : Nat) (h : 8 * data.length ≤ N) :
    (List.range N).map (dataBit data) =
      data.flatMap (fun c => msbBits c 8) ++ List.replicate (N - 8 * data.length) false := by
  obtain ⟨r, rfl⟩ : ∃ r, N = 8 * data.length + r := ⟨_, (Nat.add_sub_cancel' h).symm⟩
  rw [Nat.add_sub_cancel_left, List.range_add, List.map_append, List.map_map, ← dataBits_codewords]
  congr 1
  rw [List.eq_replicate_iff]
  refine ⟨by simp, fun b hb => ?_⟩
  obtain ⟨k, _, rfl⟩ := List.mem_map.mp hb
  exact dataBit_beyond data _ (by simp only; omega)

end BV.Proofs.QrMatrix
