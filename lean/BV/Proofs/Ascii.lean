/-
  BV.Proofs.Ascii — `BV.runes` (Go's `for off, r := range s`) on ASCII byte strings, and the rune decoded at a
  non-ASCII byte.
-/
import BV.Base
namespace BV.Proofs.Ascii
open BV

/-- `(off, b), (off+1, b'), …` — what `range` yields on an ASCII string -/
def asciiRunes : Nat → Bytes → List (Nat × Nat)
  | _, [] => []
  | off, b :: rest => (off, b.toNat) :: asciiRunes (off + 1) rest

def AllAscii (s : Bytes) : Prop := ∀ b ∈ s, b.toNat < 128

theorem decodeRune_ascii (b : UInt8) (rest : Bytes) (h : b.toNat < 128) :
    decodeRune (b :: rest) = (b.toNat, 1) :=
  if_pos h

theorem runesAux_append_ascii (pre : Bytes) : ∀ (fuel off : Nat) (rest : Bytes), (pre ++ rest).length ≤ fuel →
    AllAscii pre →
    runesAux fuel off (pre ++ rest) = asciiRunes off pre ++ runesAux (fuel - pre.length) (off + pre.length) rest := by
  induction pre with
  | nil => intro fuel off rest _ _; simp [asciiRunes]
  | cons b pre ih =>
    intro fuel off rest hf ha
    cases fuel with
    | zero => simp at hf
    | succ fuel =>
      have hb : b.toNat < 128 := ha b (by simp)
      have hr : AllAscii pre := fun x hx => ha x (by simp [hx])
      simp only [List.cons_append, runesAux, decodeRune_ascii b _ hb, asciiRunes, List.drop_succ_cons, List.drop_zero]
      rw [ih fuel (off + 1) rest (by simpa using hf) hr]
      simp [Nat.add_assoc, Nat.add_comm 1]

theorem runes_ascii (s : Bytes) (h : AllAscii s) : runes s = asciiRunes 0 s := by
  have := runesAux_append_ascii s s.length 0 [] (by simp) h
  rw [List.append_nil] at this
  rw [runes, this]
  cases s.length - s.length <;> simp [runesAux]

theorem asciiRunes_eq_zipIdx (s : Bytes) (off : Nat) :
    asciiRunes off s = (s.zipIdx off).map (fun p => (p.2, p.1.toNat)) := by
  induction s generalizing off with
  | nil => rfl
  | cons b s ih => simp [asciiRunes, ih]

theorem runes_ascii_zipIdx (s : Bytes) (h : AllAscii s) : runes s = s.zipIdx.map (fun p => (p.2, p.1.toNat)) := by
  rw [runes_ascii s h, asciiRunes_eq_zipIdx]

theorem asciiRunes_append (a b : Bytes) (off : Nat) :
    asciiRunes off (a ++ b) = asciiRunes off a ++ asciiRunes (off + a.length) b := by
  induction a generalizing off with
  | nil => simp [asciiRunes]
  | cons x a ih => simp [asciiRunes, ih, Nat.add_assoc, Nat.add_comm 1]

theorem asciiRunes_length (s : Bytes) (off : Nat) : (asciiRunes off s).length = s.length := by
  induction s generalizing off with
  | nil => rfl
  | cons x a ih => simp [asciiRunes, ih]

theorem asciiRunes_map_snd (s : Bytes) (off : Nat) : (asciiRunes off s).map (·.2) = s.map (·.toNat) := by
  induction s generalizing off with
  | nil => rfl
  | cons x a ih => simp [asciiRunes, ih]

theorem mem_asciiRunes {off : Nat} {s : Bytes} {q : Nat × Nat} (h : q ∈ asciiRunes off s) :
    off ≤ q.1 ∧ ∃ b ∈ s, q.2 = b.toNat := by
  induction s generalizing off with
  | nil => cases h
  | cons x s ih =>
    rcases List.mem_cons.1 h with rfl | h
    · exact ⟨Nat.le_refl _, x, by simp, rfl⟩
    · obtain ⟨h1, b, hb, he⟩ := ih h
      exact ⟨by omega, b, by simp [hb], he⟩

theorem runeList_ascii (s : Bytes) (h : AllAscii s) : runeList s = s.map (·.toNat) := by
  simp [runeList, runes_ascii s h, asciiRunes_map_snd]

/-- `decodeRune` on a non-empty string, as a cascade on the lead byte -/
theorem decodeRune_branch (x : UInt8) (rest : Bytes) :
    decodeRune (x :: rest) =
      if x.toNat < 0x80 then (x.toNat, 1)
      else if x.toNat < 0xC2 then (runeError, 1)
      else if x.toNat < 0xE0 then
        match rest with
        | b1 :: _ => if isCont b1 then ((x.toNat % 32) * 64 + b1.toNat % 64, 2) else (runeError, 1)
        | _ => (runeError, 1)
      else if x.toNat < 0xF0 then
        match rest with
        | b1 :: b2 :: _ =>
          if (if x.toNat = 0xE0 then 0xA0 else 0x80) ≤ b1.toNat && b1.toNat ≤ (if x.toNat = 0xED then 0x9F else 0xBF)
              && isCont b2 then
            ((x.toNat % 16) * 4096 + (b1.toNat % 64) * 64 + b2.toNat % 64, 3)
          else (runeError, 1)
        | _ => (runeError, 1)
      else if x.toNat < 0xF5 then
        match rest with
        | b1 :: b2 :: b3 :: _ =>
          if (if x.toNat = 0xF0 then 0x90 else 0x80) ≤ b1.toNat && b1.toNat ≤ (if x.toNat = 0xF4 then 0x8F else 0xBF)
              && isCont b2 && isCont b3 then
            ((x.toNat % 8) * 262144 + (b1.toNat % 64) * 4096 + (b2.toNat % 64) * 64 + b3.toNat % 64, 4)
          else (runeError, 1)
        | _ => (runeError, 1)
      else (runeError, 1) := by
  unfold decodeRune; rfl

theorem decodeRune_nonascii_width (b : UInt8) (rest : Bytes) (h : 128 ≤ b.toNat) :
    128 ≤ (decodeRune (b :: rest)).1 ∧ 1 ≤ (decodeRune (b :: rest)).2 ∧
      (decodeRune (b :: rest)).2 ≤ rest.length + 1 := by
  have herr : ∀ n, 128 ≤ ((runeError, 1) : Nat × Nat).1 ∧ 1 ≤ ((runeError, 1) : Nat × Nat).2 ∧
      ((runeError, 1) : Nat × Nat).2 ≤ n + 1 := fun n => ⟨by decide, Nat.le_refl 1, Nat.le_add_left 1 n⟩
  -- every multi-byte branch returns a rune `v` of `k` bytes under a condition `c`, and U+FFFD of one byte otherwise
  have hpair : ∀ (c : Prop) [Decidable c] (v k n : Nat), (c → 128 ≤ v) → 1 ≤ k → k ≤ n + 1 →
      128 ≤ (if c then (v, k) else (runeError, 1)).1 ∧ 1 ≤ (if c then (v, k) else (runeError, 1)).2 ∧
        (if c then (v, k) else (runeError, 1)).2 ≤ n + 1 := by
    intro c _ v k n hv hk hn
    by_cases hc : c
    · rw [if_pos hc]; exact ⟨hv hc, hk, hn⟩
    · rw [if_neg hc]; exact herr n
  rw [decodeRune_branch, if_neg (by omega)]
  by_cases h2 : b.toNat < 0xC2
  · rw [if_pos h2]; exact herr _
  rw [if_neg h2]
  by_cases h3 : b.toNat < 0xE0
  · rw [if_pos h3]
    cases rest with
    | nil => exact herr _
    | cons b1 t => exact hpair _ _ _ _ (fun _ => by omega) (by omega) (by simp)
  rw [if_neg h3]
  by_cases h4 : b.toNat < 0xF0
  · rw [if_pos h4]
    match rest with
    | [] => exact herr _
    | [_] => exact herr _
    | b1 :: b2 :: t =>
      refine hpair _ _ _ _ (fun hc => ?_) (by omega) (by simp)
      simp only [Bool.and_eq_true, decide_eq_true_eq] at hc
      obtain ⟨⟨hlo, hhi⟩, _⟩ := hc
      have hhi' : b1.toNat ≤ 0xBF := Nat.le_trans hhi (by split <;> decide)
      clear hhi
      split at hlo <;> omega
  rw [if_neg h4]
  by_cases h5 : b.toNat < 0xF5
  · rw [if_pos h5]
    match rest with
    | [] => exact herr _
    | [_] => exact herr _
    | [_, _] => exact herr _
    | b1 :: b2 :: b3 :: t =>
      refine hpair _ _ _ _ (fun hc => ?_) (by omega) (by simp)
      simp only [Bool.and_eq_true, decide_eq_true_eq] at hc
      obtain ⟨⟨⟨hlo, hhi⟩, _⟩, _⟩ := hc
      have hhi' : b1.toNat ≤ 0xBF := Nat.le_trans hhi (by split <;> decide)
      clear hhi
      split at hlo <;> omega
  · rw [if_neg h5]; exact herr _

theorem decodeRune_nonascii (b : UInt8) (rest : Bytes) (h : 128 ≤ b.toNat) :
    128 ≤ (decodeRune (b :: rest)).1 ∧ 1 ≤ (decodeRune (b :: rest)).2 :=
  have hw := decodeRune_nonascii_width b rest h
  ⟨hw.1, hw.2.1⟩

/-- `range` over an ASCII prefix followed by any byte `b`: the runes of the prefix, then a rune that is `b` itself if
    `b` is ASCII and is ≥ 128 otherwise.  With `split_first_bad` this gives the rune at which an alphabet check of an
    encoder stops. -/
theorem runes_first_bad (pre rest : Bytes) (b : UInt8) (ha : AllAscii pre) :
    ∃ r tl, (r = b.toNat ∨ (128 ≤ b.toNat ∧ 128 ≤ r)) ∧
      runes (pre ++ b :: rest) = asciiRunes 0 pre ++ (pre.length, r) :: tl := by
  unfold runes
  rw [runesAux_append_ascii pre _ 0 (b :: rest) (Nat.le_refl _) ha]
  have : (pre ++ b :: rest).length - pre.length = rest.length + 1 := by simp
  rw [this]
  simp only [runesAux, Nat.zero_add]
  refine ⟨_, _, ?_, rfl⟩
  by_cases hb : b.toNat < 128
  · exact Or.inl (by rw [decodeRune_ascii b rest hb])
  · exact Or.inr ⟨by omega, (decodeRune_nonascii b rest (by omega)).1⟩

theorem split_first_bad (p : UInt8 → Bool) (s : Bytes) (h : ¬ ∀ b ∈ s, p b = true) :
    ∃ pre b rest, s = pre ++ b :: rest ∧ (∀ x ∈ pre, p x = true) ∧ p b = false := by
  induction s with
  | nil => exact absurd (by simp) h
  | cons x s ih =>
    by_cases hx : p x = true
    · obtain ⟨pre, b, rest, h1, h2, h3⟩ := ih (fun hs => h (List.forall_mem_cons.mpr ⟨hx, hs⟩))
      exact ⟨x :: pre, b, rest, by rw [h1, List.cons_append], List.forall_mem_cons.mpr ⟨hx, h2⟩, h3⟩
    · exact ⟨[], x, s, rfl, by simp, by simpa using hx⟩

end BV.Proofs.Ascii
