/-
  C01 — QR Code: every symbol the encoder returns is a structurally valid ISO/IEC 18004 symbol that decodes to
  exactly the content that was passed in.

  `Spec.Qr.decode w h dark` is the reference decoder written from the standard.  It succeeds only if the picture
  is square with side 17+4v, has the three finder patterns with separators, both timing patterns, every alignment
  pattern of Annex E, the dark module, two equal BCH(15,5)-valid copies of the format information, for v ≥ 7 two
  equal BCH(18,6)-valid copies of the version information that name v, the right number of data modules, zero
  remainder bits, blocks of the lengths of Table 9 that are Reed–Solomon codewords, and a data bit stream made of
  segments, a terminator, zero padding and the alternating pad codewords.

  Only property statements live here.  The layers:
  * bit stream and codewords — BV/Props/QrA.lean, BV/Props/QrB.lean, BV/Proofs/QrMatrixRS.lean (`codeword_layer`:
    uses C17 for the Reed–Solomon blocks);
  * matrix — BV/Proofs/QrMatrix{Pix,Cells,Fn,Facts,Drawn,Walk,Data,Spec,Count,Decode,Final}.lean
    (`render_decodes`).
  "certificate" = a finite fact checked by kernel evaluation over a whole table (`decide +kernel`): here the
  alignment centres of the 40 versions (`centres_certificate`), the number of data modules of the 40 versions
  (`countCheck_all`), and the certificates of QrA/QrB/C17.  Everything else is proved for all inputs by induction
  over the drawing loops; no bitmap is evaluated.
-/
import BV.Proofs.QrMatrixFinal
import BV.Proofs.QrMatrixRS
namespace BV.Props.C01
open BV BV.Model BV.Model.Qr BV.Gen.Qr
open BV.Proofs.QrTables BV.Proofs.QrRender BV.Proofs.QrCoords BV.Proofs.QrBlocks BV.Proofs.QrChain
open BV.Proofs.QrMatrix

/-! ## 1. Reed–Solomon blocks (by C17) -/

/-- `calcECC` on a block of bytes with 1..255 check codewords: exactly `k` check codewords, all bytes, and data
    followed by them is a Reed–Solomon codeword of the QR field with roots α^0 … α^(k-1). -/
theorem calcECC_valid (data : List Nat) (hd : ∀ c ∈ data, c < 256) (k : Nat) (hk1 : 1 ≤ k) (hk : k ≤ 255) :
    (calcECC data k).length = k ∧ (∀ c ∈ calcECC data k, c < 256) ∧
    Spec.RS.qrField.valid 0 k (data ++ calcECC data k) = true :=
  calcECC_spec data hd k hk1 hk

/-- Every row of the version table asks for 7..30 check codewords per block. -/
theorem ec_codewords_range : ∀ vi ∈ versionInfos,
    7 ≤ vi.errorCorrectionCodewordsPerBlock ∧ vi.errorCorrectionCodewordsPerBlock ≤ 30 :=
  fun _ h => ⟨(rowOk_of_mem h).2.1, (rowOk_of_mem h).2.2.1⟩

/-- Unconditional block layer: for a row of the table and `totalDataBytes` bytes, `splitToBlocks` succeeds with the
    ISO block structure, the reference de-interleaver applied to `interleave blocks` returns every block as
    data ++ check codewords, all blocks have the ISO lengths and are Reed–Solomon codewords, and the interleaved
    sequence has the ISO total length and consists of bytes. -/
theorem blocks_valid (vi : VersionInfo) (hvi : vi ∈ versionInfos) (data : List Nat)
    (hlen : data.length = vi.totalDataBytes) (hd : ∀ c ∈ data, c < 256) :
    ∃ blocks ec lens,
      splitToBlocks data vi = .ok blocks ∧
      isoBlocks vi.version vi.level = some (ec, lens) ∧
      blocks.map (·.data.length) = lens ∧
      blocks.flatMap (·.data) = data ∧
      Spec.Qr.deinterleave (interleave blocks vi).toArray lens ec = blocks.map (fun b => b.data ++ b.ecc) ∧
      ((Spec.Qr.deinterleave (interleave blocks vi).toArray lens ec).zip lens).all
        (fun (p : List Nat × Nat) => p.1.length == p.2 + ec) = true ∧
      (Spec.Qr.deinterleave (interleave blocks vi).toArray lens ec).all
        (fun b => Spec.RS.qrField.valid 0 ec b) = true ∧
      (interleave blocks vi).length = lens.foldl (· + ·) 0 + lens.length * ec ∧
      (∀ c ∈ interleave blocks vi, c < 256) :=
  BV.Proofs.QrMatrix.blocks_valid vi hvi data hlen hd

/-! ## 2. Function patterns -/

/-- After the function-pattern phase of `render` the state shows the picture `drawnP vi` (all nine bitmaps have
    side `modulWidth`), and `occupied` is, module by module, the reference decoder's map of function modules for
    the Annex-E alignment centres: finder + separator + format squares, timing row and column, the 5×5 squares of
    the alignment patterns that do not collide with a finder, the version areas for version ≥ 7. -/
theorem occupied_eq_functionMap (vi : VersionInfo) (hmem : vi ∈ versionInfos) (color : Scheme)
    (X Y : Nat) (hX : X < vi.modulWidth) (hY : Y < vi.modulWidth) :
    (drawn vi color).occupied.get X Y =
      (Spec.Qr.functionMap vi.modulWidth vi.version
        (Spec.Qr.alignmentPositions vi.alignmentPatternPlacements)).getD (Y * vi.modulWidth + X) true := by
  rw [(drawn_rep vi hmem color).2.1 X Y hX hY, drawn_occ_functionMap hmem X Y hX hY]

/-- The colours of the function modules in each of the eight result bitmaps after the function-pattern phase
    (`resV rs i X Y` = module (X, Y) of bitmap `i`): finder patterns with separators at the three corners,
    alignment patterns at the reference decoder's centres, timing patterns, dark module. -/
theorem function_pattern_colours (vi : VersionInfo) (hmem : vi ∈ versionInfos) (color : Scheme) (i : Nat)
    (hi : i < 8) :
    (∀ ox oy : Nat, ((ox = 0 ∧ oy = 0) ∨ (ox = vi.modulWidth - 7 ∧ oy = 0) ∨ (ox = 0 ∧ oy = vi.modulWidth - 7)) →
      ∀ dx dy : Int, -1 ≤ dx → dx ≤ 7 → -1 ≤ dy → dy ≤ 7 → 0 ≤ (ox : Int) + dx → (ox : Int) + dx < vi.modulWidth →
        0 ≤ (oy : Int) + dy → (oy : Int) + dy < vi.modulWidth →
        resV (drawn vi color).results i ((ox : Int) + dx).toNat ((oy : Int) + dy).toNat =
          Spec.Qr.finderModule dx dy) ∧
    (∀ p ∈ Spec.Qr.alignmentPositions vi.alignmentPatternPlacements, ∀ a b : Int, -2 ≤ a → a ≤ 2 → -2 ≤ b → b ≤ 2 →
      resV (drawn vi color).results i ((p.1 : Int) + a).toNat ((p.2 : Int) + b).toNat =
        (a == -2 || a == 2 || b == -2 || b == 2 || (a == 0 && b == 0))) ∧
    (∀ k, 8 ≤ k → k + 8 < vi.modulWidth →
      resV (drawn vi color).results i k 6 = (k % 2 == 0) ∧ resV (drawn vi color).results i 6 k = (k % 2 == 0)) ∧
    resV (drawn vi color).results i 8 (vi.modulWidth - 8) = true := by
  have hrep : ∀ X Y, X < vi.modulWidth → Y < vi.modulWidth → (drawnP vi).occ X Y = true →
      resV (drawn vi color).results i X Y = (drawnP vi).res i X Y :=
    fun X Y hX hY _ => (drawn_rep vi hmem color).2.2.2.2 i X Y hi hX hY
  refine ⟨?_, ?_, drawn_timing hmem hi hrep, drawn_dark hmem hi hrep⟩
  · intro ox oy hc dx dy h1 h2 h3 h4 h5 h6 h7 h8
    rw [drawn_finder hmem hi hrep ox oy hc dx dy h1 h2 h3 h4 h5 h6 h7 h8, finderModule_eq dx dy h1 h2 h3 h4]
    rfl
  · intro p hp a b h1 h2 h3 h4
    rw [drawn_align hmem hi hrep p hp a b h1 h2 h3 h4]
    rfl

/-! ## 3. Data modules -/

/-- `iterateModules occupied` is the standard zig-zag walk (`walk`, closed form: column pairs from the right,
    alternately upwards and downwards, right module first, column 6 skipped) restricted to the modules that are not
    occupied, in order; the walk visits every module outside column 6 exactly once; and the reference decoder's
    `readDataBits` reads the free modules of the same walk in the same order, releasing the mask. -/
theorem data_walk (occ : QRCode) (v : Nat) (hv : 1 ≤ v) (hd : occ.dimension = 17 + 4 * v)
    (dark : Nat → Nat → Bool) (func : Array Bool) (mask : Nat) :
    (iterateModules occ).toList = (walk (17 + 4 * v)).filter (fun p => !occ.get p.1 p.2) ∧
    (walk (17 + 4 * v)).Nodup ∧
    (∀ X Y, X < 17 + 4 * v → Y < 17 + 4 * v → X ≠ 6 → (X, Y) ∈ walk (17 + 4 * v)) ∧
    (∀ p ∈ walk (17 + 4 * v), p.1 < 17 + 4 * v ∧ p.2 < 17 + 4 * v ∧ p.1 ≠ 6) ∧
    (Spec.Qr.readDataBits (17 + 4 * v) dark func mask).toList =
      ((walk (17 + 4 * v)).filter (fun p => !func.getD (p.2 * (17 + 4 * v) + p.1) true)).map
        (fun p => dark p.1 p.2 != Spec.Qr.maskCond mask p.2 p.1) :=
  ⟨iterateModules_eq occ v hd, walk_nodup _, walk_complete v,
   fun p hp => ⟨(walk_range _ p hp).1, (walk_range _ p hp).2, walk_ne_six v p hp⟩,
   readDataBits_eq _ dark func mask⟩

/-- The eight conditions of `setMasked` are the mask conditions of Table 10 (the model's `x` is the column j, its
    `y` the row i). -/
theorem setMasked_is_maskCond (x y : Nat) (val : Bool) (mask : Nat) (hm : mask < 8) {σ}
    (set : Nat → Nat → Bool → σ → σ) :
    setMasked x y val mask set = set x y (val != Spec.Qr.maskCond mask y x) :=
  setMasked_eq x y val mask hm set

/-- Write / read-back with mask, for an abstract list of pairwise distinct positions: writing bit `n+k` XOR the
    mask condition at the k-th position and then reading the positions in the same order XOR the same condition
    returns the bits; modules that are not among the positions are unchanged. -/
theorem mask_write_readback (bit : Nat → Bool) (i : Nat) (ps : List (Nat × Nat)) (hnd : ps.Nodup) (n : Nat)
    (f : Nat → Nat → Bool) :
    ps.map (fun p => foldUpd (writeCells bit i ps n) f p.1 p.2 != Spec.Qr.maskCond i p.2 p.1) =
      (List.range ps.length).map (fun k => bit (n + k)) ∧
    ∀ X Y, (X, Y) ∉ ps → foldUpd (writeCells bit i ps n) f X Y = f X Y :=
  ⟨readback bit i ps hnd n f, fun X Y h => write_frame bit i ps n f X Y h⟩

/-- The bits `render` places are the codewords most significant bit first, followed by zero bits (the remainder
    bits), and there are 8·total + r data modules with r < 8 (certificate over the 40 versions). -/
theorem data_bits_and_capacity (vi : VersionInfo) (hmem : vi ∈ versionInfos) (data : List Nat) (ec : Nat)
    (lens : List Nat) (hiso : isoBlocks vi.version vi.level = some (ec, lens))
    (hlen : data.length = lens.foldl (· + ·) 0 + lens.length * ec) :
    8 * data.length ≤ (dataPos vi).length ∧ (dataPos vi).length < 8 * data.length + 8 ∧
    (List.range (dataPos vi).length).map (fun k => dataBit data (0 + k)) =
      data.flatMap (fun c => msbBits c 8) ++ List.replicate ((dataPos vi).length - 8 * data.length) false := by
  obtain ⟨h1, h2⟩ := dataPos_length vi hmem ec lens hiso
  rw [← hlen] at h1 h2
  refine ⟨h1, h2, ?_⟩
  simp only [Nat.zero_add]
  exact dataBits_eq data _ h1

/-! ## 4. Format and version information -/

/-- In result bitmap `i` after the function-pattern phase, bit `j` of the format word `formatInfoOf level i` is at
    both places where the reference decoder reads bit `j`, and (version ≥ 7) bit `j` of the version word is at both
    places where it reads bit `j`; all these modules are occupied, so the data loop does not touch them. -/
theorem format_version_placed (vi : VersionInfo) (hmem : vi ∈ versionInfos) (i : Nat) (hi : i < 8) :
    (∀ j, j < 15 →
      (drawnP vi).res i (Spec.Qr.formatPosA j).1 (Spec.Qr.formatPosA j).2 =
        (formatInfoOf vi.level i).getD (14 - j) false ∧
      (drawnP vi).res i (Spec.Qr.formatPosB vi.modulWidth j).1 (Spec.Qr.formatPosB vi.modulWidth j).2 =
        (formatInfoOf vi.level i).getD (14 - j) false) ∧
    (∀ bits, mapGet v_versionInfoBitsByVersion (vi.version : Int) = some bits → bits.length = 18 → ∀ j, j < 18 →
      (drawnP vi).res i (Spec.Qr.versionPosA vi.modulWidth j).1 (Spec.Qr.versionPosA vi.modulWidth j).2 =
        bits.getD (17 - j) false ∧
      (drawnP vi).res i (Spec.Qr.versionPosB vi.modulWidth j).1 (Spec.Qr.versionPosB vi.modulWidth j).2 =
        bits.getD (17 - j) false) :=
  ⟨fun j hj => drawn_format hmem hi (fun _ _ _ _ _ => rfl) j hj,
   fun bits hb hl j hj => drawn_version hmem hi (fun _ _ _ _ _ => rfl) bits hb hl j hj⟩

/-! ## 5. The matrix layer and the property -/

/-- The matrix layer: a codeword sequence with the block structure of the standard for the row `vi`, drawn by
    `render` with whichever mask it selects (some index < 8), is accepted by the reference decoder, which reports
    the version and level of the row, the selected mask and the parse of the data bit stream. -/
theorem render_is_valid_symbol (vi : VersionInfo) (hmem : vi ∈ versionInfos) (data : List Nat) (color : Scheme)
    (r : QRCode) (mask : Nat) (hr : renderWithMask data vi color = .ok (r, mask))
    (ec : Nat) (lens : List Nat) (hiso : isoBlocks vi.version vi.level = some (ec, lens))
    (hlen : data.length = lens.foldl (· + ·) 0 + lens.length * ec) (h256 : ∀ c ∈ data, c < 256)
    (hL : ((Spec.Qr.deinterleave data.toArray lens ec).zip lens).all
      (fun (p : List Nat × Nat) => p.1.length == p.2 + ec) = true)
    (hRS : (Spec.Qr.deinterleave data.toArray lens ec).all (fun b => Spec.RS.qrField.valid 0 ec b) = true)
    (p : Spec.Qr.Parsed)
    (hparse : Spec.Qr.parseSegments vi.version (decDataBits (Spec.Qr.deinterleave data.toArray lens ec) lens)
      ((decDataBits (Spec.Qr.deinterleave data.toArray lens ec) lens).size / 4 + 2) 0 [] [] = .ok p) :
    mask < 8 ∧ r.dimension = vi.modulWidth ∧
    Spec.Qr.decode vi.modulWidth vi.modulWidth (fun x y => r.get x y) = .ok
      { version := vi.version, level := vi.level, mask := mask, modes := p.modes, numBlocks := lens.length,
        ecPerBlock := ec, dataCodewords := lens.foldl (· + ·) 0, totalCodewords := data.length,
        remainderBits := (dataPos vi).length - 8 * data.length,
        terminatorBits := p.terminatorBits, padCodewords := p.padCodewords, content := p.content } :=
  render_decodes vi hmem data color r mask hr ec lens hiso hlen h256 hL hRS p hparse

/-- C01 at the level of `encodeQR`: whatever symbol the pipeline returns (any content, level, encoding, colours;
    `vi` = the chosen version row, `mask` = the selected mask) is accepted by the reference decoder, which returns
    the content byte for byte as a single segment, the requested level, the chosen version and the selected mask,
    with zero remainder bits and conformant terminator and padding (implied by acceptance). -/
theorem C01_qr_symbol (content : Bytes) (level mode : Nat) (s : Scheme) (qr : QRCode) (vi : VersionInfo) (mask : Nat)
    (h : encodeQR content level mode s = .ok (qr, vi, mask)) :
    ∃ info, Spec.Qr.decode qr.dimension qr.dimension (fun x y => qr.get x y) = .ok info ∧
      info.content = content ∧ info.level = level ∧ info.version = vi.version ∧ info.mask = mask ∧ mask < 8 ∧
      qr.dimension = 17 + 4 * vi.version ∧ (∃ m, info.modes = [m]) ∧
      info.ecPerBlock = vi.errorCorrectionCodewordsPerBlock ∧
      info.numBlocks = vi.numberOfBlocksInGroup1 + vi.numberOfBlocksInGroup2 ∧
      info.dataCodewords = vi.totalDataBytes := by
  obtain ⟨enc, bits, blocks, res, hg, he, hsplit, hr, rfl⟩ := encodeQR_ok h
  obtain ⟨hmem, hlvl, blocks', ec, lens, m, used, hsplit', hiso, hlen, h256, hL, hRS, hflat, hparse⟩ :=
    codeword_layer hg he
  cases hsplit.symm.trans hsplit'
  have hdb : decDataBits (Spec.Qr.deinterleave (interleave blocks vi).toArray lens ec) lens = bits.toArray := by
    unfold decDataBits
    exact congrArg List.toArray hflat
  obtain ⟨hm8, hdim, hdec⟩ := render_decodes vi hmem (interleave blocks vi) s res mask hr ec lens hiso hlen h256
    hL hRS (streamResult m content used (vi.totalDataBytes * 8)) (by rw [hdb]; exact hparse)
  obtain ⟨_, hiso'⟩ := blocks_of_mem vi hmem
  rw [hiso] at hiso'
  simp only [Option.some.injEq, Prod.mk.injEq] at hiso'
  obtain ⟨hec, hlens⟩ := hiso'
  -- `qr` is `res` with the content filled in: same side, same modules
  have hqd : Spec.Qr.decode res.dimension res.dimension (fun x y => res.get x y) =
      Spec.Qr.decode vi.modulWidth vi.modulWidth (fun x y => res.get x y) := by rw [hdim]
  refine ⟨_, hqd.trans hdec, rfl, hlvl, rfl, rfl, hm8, ?_, ⟨m, rfl⟩, hec, ?_, ?_⟩
  · show res.dimension = _
    rw [hdim, (geo_of_mem hmem).width]
  · show lens.length = _
    rw [hlens, length_rowLens]
  · show lens.foldl (· + ·) 0 = _
    rw [hlens, sum_rowLens]

/-- **C01.**  Every barcode `EncodeWithColor` returns — for every content, error correction level, encoding and
    colour scheme — passes every structural check of the reference decoder (finder patterns and separators, timing
    patterns, alignment patterns, dark module, both BCH-valid and equal format copies, both version copies, module
    count, zero remainder bits, block lengths, all Reed–Solomon blocks, terminator and pad codewords) and decodes to
    exactly the content, the requested level, the chosen version (the side is 17 + 4·version) and the mask that
    `render` selected, whichever of the eight it is.  (A successful call has `level ≤ 3` and `mode ≤ 3`:
    `C01_accepts_only_defined`.) -/
theorem C01_qr (content : Bytes) (level mode : Nat) (s : Scheme) (bc : Barcode)
    (h : encodeWithColor content level mode s = .ok bc) :
    ∃ info, Spec.Qr.decode bc.w bc.h bc.dark = .ok info ∧
      info.content = content ∧ info.level = level ∧ bc.w = 17 + 4 * info.version ∧ info.mask < 8 ∧
      ∃ qr vi mask, encodeQR content level mode s = .ok (qr, vi, mask) ∧ bc = qr.toBarcode ∧
        info.version = vi.version ∧ info.mask = mask := by
  unfold encodeWithColor at h
  cases he : encodeQR content level mode s with
  | error e => rw [he] at h; cases h
  | ok r =>
    obtain ⟨qr, vi, mask⟩ := r
    rw [he] at h
    simp only [Except.map, Except.ok.injEq] at h
    obtain ⟨info, h1, h2, h3, h4, h5, h6, h7, _⟩ := C01_qr_symbol content level mode s qr vi mask he
    refine ⟨info, ?_, h2, h3, ?_, by omega, qr, vi, mask, rfl, h.symm, h4, h5⟩
    · rw [← h]; exact h1
    · rw [← h, h4]; exact h7

/-- The statement in the guarded form of the property list (level 0..3 = L, M, Q, H; encoding 0..3 = Auto, Numeric,
    AlphaNumeric, Unicode). -/
theorem C01_qr_guarded (content : Bytes) (level mode : Nat) (_hl : level ≤ 3) (_hm : mode ≤ 3) (s : Scheme)
    (bc : Barcode) (h : encodeWithColor content level mode s = .ok bc) :
    ∃ info, Spec.Qr.decode bc.w bc.h bc.dark = .ok info ∧
      info.content = content ∧ info.level = level ∧ bc.w = 17 + 4 * info.version ∧ info.mask < 8 := by
  obtain ⟨info, h1, h2, h3, h4, h5, _⟩ := C01_qr content level mode s bc h
  exact ⟨info, h1, h2, h3, h4, h5⟩

/-- A successful call has a defined level and a defined encoding. -/
theorem C01_accepts_only_defined (content : Bytes) (level mode : Nat) (s : Scheme) (bc : Barcode)
    (h : encodeWithColor content level mode s = .ok bc) : level ≤ 3 ∧ mode ≤ 3 := by
  constructor
  · obtain ⟨info, _, _, _, _, _, qr, vi, mask, he, _⟩ := C01_qr content level mode s bc h
    obtain ⟨hmem, hl, _⟩ := encodeQR_size content level mode s qr vi mask he
    rw [← hl]; exact (mem_versionInfos_range hmem).2.2
  · by_cases hm : mode ≤ 3
    · exact hm
    · rw [encodeWithColor_undefined_mode content level mode s (by omega)] at h; cases h

/-! ## examples: the hypotheses are satisfiable -/

/-- "HELLO WORLD" -/
def hello : Bytes := [72, 69, 76, 76, 79, 32, 87, 79, 82, 76, 68]

/-- non-vacuity: "HELLO WORLD", level M, automatic encoding is accepted (the mode encoder accepts, so by the
    panic-freedom of the pipeline a barcode is returned), hence C01 applies to it -/
example : ∃ bc, encodeWithColor hello 1 0 scheme16 = .ok bc ∧
    ∃ info, Spec.Qr.decode bc.w bc.h bc.dark = .ok info ∧ info.content = hello ∧ info.level = 1 ∧
      bc.w = 17 + 4 * info.version ∧ info.mask < 8 := by
  obtain ⟨enc, hg, hcase⟩ := encodeWithColor_outcome hello 1 0 scheme16 (by decide)
  have henc : enc = encodeAuto := by
    have : getEncoder 0 = some encodeAuto := rfl
    rw [this] at hg; exact (Option.some.inj hg).symm
  rcases hcase with ⟨hnone, _⟩ | ⟨_, bc, hbc⟩
  · rw [henc] at hnone
    have : (encodeAuto hello 1).isSome = true := by decide +kernel
    rw [hnone] at this; cases this
  · obtain ⟨info, h1, h2, h3, h4, h5, _⟩ := C01_qr hello 1 0 scheme16 bc hbc
    exact ⟨bc, hbc, info, h1, h2, h3, h4, h5⟩

/-- the mode encoder puts "HELLO WORLD" at level M into version 1 (21×21), as an alphanumeric segment of 16 data
    codewords -/
example : (encodeAuto hello 1).map (fun r => (r.2.version, r.1.length, r.1.take 4)) =
    some (1, 128, [false, false, true, false]) := by decide +kernel

/-- a symbol with version information and six alignment patterns is in the domain too: 150 digits at level H need
    version 7 (45×45) -/
example : (encodeNumeric (List.replicate 150 (55 : UInt8)) 3).map (fun r => r.2.version) = some 7 := by
  decide +kernel

end BV.Props.C01
