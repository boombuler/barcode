/-
  C07 — Code 39 / Code 93: start, data, requested check characters, stop, each with its standard pattern; decoding,
  removing the check characters and resolving the full-ASCII shift pairs gives back the text.  (Also the Code 39 part
  of C14.)  Only property statements live here; lemmas are in BV/Proofs/Code39.lean, BV/Proofs/Code93.lean,
  BV/Proofs/ShiftCode.lean (what the two have in common), BV/Proofs/Pairs.lean (shift pairs), BV/Proofs/Utf8.lean
  (UTF-8), BV/Proofs/Bars.lean (element widths).

  Vocabulary from the proof files (Code 39):
  * `Alpha43 r`   `r` is one of the 43 data characters `0-9 A-Z - . space $ / + %` (a key of the table other than `*`)
  * `drawBits rs` the 12-module table patterns of the characters `rs`, separated by one narrow space
  * `valSum rs`   the sum of the table values of the characters `rs`
  Code 93 (same names in `BV.Proofs.Code93`):
  * `Alpha47 r`   `r` is one of the 47 data characters: the 43 above and the shift characters U+00F1..U+00F4
  * `drawBits rs` the 9-module table patterns of the characters `rs` followed by the termination bar
  * `valOf r`     the table value of the character `r` (the reference maps it back with `c93Rune`)
-/
import BV.Proofs.Code39
import BV.Proofs.Code93
namespace BV.Props.C07
open BV BV.Spec.OneD BV.Proofs.Bars

section Code39
open BV.Model.Code39 BV.Proofs.Code39

/-- **Code 39, acceptance.** With or without check character: basic mode accepts exactly the texts over the 43 data
    characters, full-ASCII mode exactly the texts of runes ≤ 127 (in particular only valid UTF-8); everything else is
    rejected with an error, and the encoder never panics. -/
theorem C07_code39_accepts (text : Bytes) (cs : Bool) :
    ((∃ bc, encode text cs false = .ok bc) ↔ ∀ r ∈ runeList text, Alpha43 r) ∧
    ((∃ bc, encode text cs true = .ok bc) ↔ ∀ r ∈ runeList text, r ≤ 127) ∧
    (∀ full, (¬ ∃ bc, encode text cs full = .ok bc) → encode text cs full = .error .rejected) := by
  unfold encode
  simp only [encodeWithColor_eq]
  exact Proofs.ShiftCode.accepts prepare_eq cert_pieces
    (fun c hA => (draw_content c cs hA).elim fun _ h => ⟨_, h.2.2.2.1⟩) (drawable_inv cs) text

/-- **Code 39, round trip (and C14 for Code 39).** For every text, both check-character settings and both modes: if
    the encoder returns a symbol, then with `content` the (in full-ASCII mode: expanded) content stored in it,
    * the module row is `*`, the content characters, the check character if requested, `*`, each drawn with its
      table pattern, separated by narrow spaces;
    * the reference decoder (patterns derived from the 2-of-5 rule of ISO/IEC 16388) accepts the row, finds start/stop
      and the modulo-43 check character correct, returns the content characters as `basic` and — after resolving the
      shift pairs in full-ASCII mode — exactly the text that was passed in;
    * `CheckSum()` is the sum of the reference values of the content characters modulo 43, whether or not a check
      character was requested, and it is the value of the drawn check character when one was. -/
theorem C07_code39_roundtrip (text : Bytes) (cs full : Bool) (bc : Barcode) (h : encode text cs full = .ok bc) :
    ∃ info c,
      c39Decode cs full bc.row0 = .ok info ∧
      info.text = runeList text ∧
      info.basic = runeList bc.content ∧ (∀ r ∈ info.basic, Alpha43 r) ∧
      bc.row0 = drawBits (42 :: (info.basic ++ (if cs then [c] else [])) ++ [42]) ∧
      Alpha43 c ∧ c39Value (Char.ofNat c) = some (valSum info.basic % 43) ∧
      valSum info.basic = ((info.basic.map Char.ofNat).map (fun ch => (c39Value ch).getD 0)).foldl (· + ·) 0 ∧
      info.check = (if cs then some (valSum info.basic % 43) else none) ∧
      bc.checksum = some ((valSum info.basic % 43 : Nat) : Int) ∧
      (full = false → bc.content = text) := by
  unfold encode at h
  rw [encodeWithColor_eq] at h
  obtain ⟨content, bits, hd, rfl, hA, hbasic, hres⟩ :=
    Proofs.ShiftCode.content_of_ok prepare_eq cert_pieces (drawable_inv cs) h
  obtain ⟨c, hcA, hcv, hin, hdraw, hck⟩ := draw_content content cs hA
  rw [hdraw] at hd
  cases hd
  refine ⟨{ text := runeList text, basic := runeList content,
            check := if cs then some (valSum (runeList content) % 43) else none }, c, ?_, rfl, rfl, hA,
    Proofs.OneD.row0_mk1D .., hcA, ?_, (c39_sum _ hA).symm, rfl, ?_, hbasic⟩
  · rw [Proofs.OneD.row0_mk1D, decode_drawBits cs full _ (by simp) hin, tail_eval cs full _ hA c hcA hcv]
    exact Proofs.ShiftCode.resolveFull_ok _ _ _ _ _ _ _ _ (fun hf => (hres hf).2) (fun hf => by rw [hbasic hf])
  · rw [(dataChar hcA).value, hcv]; rfl
  · rw [checksum_mk1D, hck]

/-- **Code 39, patterns.** Every character of the table (the 43 data characters and `*`) is drawn with the nine
    elements of the reference pattern `c39Pattern` (ISO/IEC 16388: two wide bars of five chosen by the 2-of-5 rule, one
    wide space of four; or three wide spaces for `$ / + %`), narrow = 1 module, wide = 2 modules, 12 modules in all. -/
theorem C07_code39_patterns (r : Nat) (h : InTable r) :
    (c39Pattern (Char.ofNat r)).map (fun p => expand true (p.map (fun w => if w then 2 else 1))) = some (barsOf r) ∧
    (barsOf r).length = 12 := by
  obtain ⟨⟨v, b⟩, hb⟩ := Option.isSome_iff_exists.1 h
  rw [(entry hb).barsOf_eq]; exact ⟨(entry hb).pattern, (entry hb).length⟩

/-- **C14 for Code 39.** `CheckSum()` of every symbol the encoder returns is the sum of the reference values of the
    characters of its content modulo 43 — whether or not a check character was requested — and when one was, it is
    the value of the check character drawn in the symbol, which the reference decoder verifies. -/
theorem C14_code39 (text : Bytes) (cs full : Bool) (bc : Barcode) (h : encode text cs full = .ok bc) :
    bc.checksum = some (((((runeList bc.content).map Char.ofNat).map
        (fun ch => (c39Value ch).getD 0)).foldl (· + ·) 0 % 43 : Nat) : Int) ∧
    (cs = true → ∃ info c,
      c39Decode true full bc.row0 = .ok info ∧
      bc.row0 = drawBits (42 :: (runeList bc.content ++ [c]) ++ [42]) ∧
      (c39Value (Char.ofNat c)).map (fun v => (v : Int)) = bc.checksum ∧
      info.check.map (fun v => (v : Int)) = bc.checksum) := by
  obtain ⟨info, c, hd, _, hb, _, hrow, _, hcv, hsum, hck, hcs, _⟩ := C07_code39_roundtrip text cs full bc h
  rw [← hb, ← hsum]
  refine ⟨hcs, ?_⟩
  intro hcs'
  subst hcs'
  simp only [if_true] at hrow hck
  exact ⟨info, c, hd, hrow, by rw [hcv, hcs]; rfl, by rw [hck, hcs]; rfl⟩

/-! the hypotheses are satisfiable: `"AB-12 $"` is accepted in basic mode, `"a\x00~B"` in full-ASCII mode -/
example : ∀ r ∈ runeList [65, 66, 45, 49, 50, 32, 36], Alpha43 r := by decide +kernel
example : ∀ r ∈ runeList [97, 0, 126, 66], r ≤ 127 := by decide +kernel
example : ∃ bc, encode [65, 66, 45, 49, 50, 32, 36] true false = .ok bc :=
  (C07_code39_accepts _ true).1.2 (by decide +kernel)
example : ∃ bc, encode [97, 0, 126, 66] true true = .ok bc :=
  (C07_code39_accepts _ true).2.1.2 (by decide +kernel)

end Code39

section Code93
open BV.Model.Code93 BV.Proofs.Code93

/-- **Code 93, acceptance.** With or without check characters: basic mode accepts exactly the texts over the 47 data
    characters (the 43 of Code 39 and the placeholders U+00F1..U+00F4 for the four shift characters), full-ASCII mode
    exactly the texts of runes ≤ 127; everything else is rejected with an error, and the encoder never panics. -/
theorem C07_code93_accepts (text : Bytes) (cs : Bool) :
    ((∃ bc, encode text cs false = .ok bc) ↔ ∀ r ∈ runeList text, Alpha47 r) ∧
    ((∃ bc, encode text cs true = .ok bc) ↔ ∀ r ∈ runeList text, r ≤ 127) ∧
    (∀ full, (¬ ∃ bc, encode text cs full = .ok bc) → encode text cs full = .error .rejected) := by
  unfold encode
  simp only [encodeWithColor_eq]
  exact Proofs.ShiftCode.accepts prepare_eq cert_pieces (fun c hA => ⟨_, (draw_content c cs hA).2.2.2.2.2⟩)
    (drawable_inv cs) text

/-- **Code 93, round trip.** For every text, both check-character settings and both modes: if the encoder returns a
    symbol, then with `content` the (in full-ASCII mode: expanded) content stored in it,
    * the module row is `*`, the content characters, the check characters C and K if requested, `*`, each drawn with
      its 9-module table pattern, and the termination bar;
    * C and K are data characters whose values are the reference modulo-47 sums with weights wrapping at 20 and 15
      (K computed over content and C);
    * the reference decoder (USS-93 element widths) accepts the row, finds start/stop and both check characters
      correct, returns the content characters as `basic` and — after resolving the shift pairs in full-ASCII mode —
      exactly the text that was passed in. -/
theorem C07_code93_roundtrip (text : Bytes) (cs full : Bool) (bc : Barcode) (h : encode text cs full = .ok bc) :
    ∃ info c k,
      c93Decode cs full bc.row0 = .ok info ∧
      info.text = runeList text ∧
      info.basic = runeList bc.content ∧ (∀ r ∈ info.basic, Alpha47 r) ∧
      bc.row0 = drawBits (42 :: (info.basic ++ (if cs then [c, k] else [])) ++ [42]) ∧
      Alpha47 c ∧ valOf c = c93Check (info.basic.map valOf) 20 ∧
      Alpha47 k ∧ valOf k = c93Check (info.basic.map valOf ++ [valOf c]) 15 ∧
      (∀ r ∈ info.basic, c93Rune (valOf r) = r) ∧
      (full = false → bc.content = text) := by
  unfold encode at h
  rw [encodeWithColor_eq] at h
  obtain ⟨content, bits, hd, rfl, hA, hbasic, hres⟩ :=
    Proofs.ShiftCode.content_of_ok prepare_eq cert_pieces (drawable_inv cs) h
  obtain ⟨hC1, hC2, hK1, hK2, hin, hdraw⟩ := draw_content content cs hA
  rw [hdraw] at hd
  cases hd
  refine ⟨{ text := runeList text, basic := runeList content }, chkC content, chkK content, ?_, rfl, rfl, hA,
    Proofs.OneD.row0_mk1D .., hC1, hC2, hK1, by rw [hK2, List.map_append]; rfl,
    fun r hr => (tableChar (hA r hr).1).rune_val, hbasic⟩
  rw [Proofs.OneD.row0_mk1D, decode_drawBits cs full _ (by simp; omega) hin,
    tail_eval cs full _ hA _ _ hC1 hC2 hK1 hK2]
  exact Proofs.ShiftCode.resolveFull_ok _ _ _ _ _ _ _ _ (fun hf => (hres hf).2) (fun hf => by rw [hbasic hf])

/-- **Code 93, patterns.** Every character of the table (the 47 data characters and `*`) is drawn with the 9-module
    expansion of the reference element widths (USS-93) listed at its value, and the reference maps the value back to
    the character. -/
theorem C07_code93_patterns (r : Nat) (h : InTable r) :
    pat9 r = expand true (c93Widths.getD (valOf r) []) ∧ (pat9 r).length = 9 ∧ c93Rune (valOf r) = r := by
  exact ⟨(tableChar h).pat9_widths, length_pat9 h, (tableChar h).rune_val⟩

/-! the hypotheses are satisfiable: `"AB-12 $"` with the shift placeholder U+00F1 (`ñ`) is accepted in basic mode,
    `"a\x00~B"` in full-ASCII mode -/
example : ∀ r ∈ runeList [65, 66, 45, 49, 50, 32, 36, 0xC3, 0xB1], Alpha47 r := by decide +kernel
example : ∀ r ∈ runeList [97, 0, 126, 66], r ≤ 127 := by decide +kernel
example : ∃ bc, encode [65, 66, 45, 49, 50, 32, 36, 0xC3, 0xB1] true false = .ok bc :=
  (C07_code93_accepts _ true).1.2 (by decide +kernel)
example : ∃ bc, encode [97, 0, 126, 66] true true = .ok bc :=
  (C07_code93_accepts _ true).2.1.2 (by decide +kernel)

end Code93

end BV.Props.C07
