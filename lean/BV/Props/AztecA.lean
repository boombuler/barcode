/-
  AztecA — the Aztec encoder (`/repo/aztec`) against the reference decoder written from ISO/IEC 24778:
  property C03 (valid symbol, payload round trip, explicit layer request honoured) and the Aztec parts of
  C10 (request range, no panic), C12 (check bits ≥ requested percentage), C13 (automatic size is minimal).
  The lemmas are in
    BV/Proofs/AztecBits.lean     (vocabulary: `render`, `Shape`, `LayoutOK`, `modAt`)
    BV/Proofs/AztecStream.lean   (reference parser on the emitted code sequences, table certificates)
    BV/Proofs/AztecSearch.lean   (invariant of the state search, stream round trip)
    BV/Proofs/AztecStuff.lean    (bit stuffing)
    BV/Proofs/AztecLayers.lean   (layer choice, size arithmetic)
    BV/Proofs/AztecCheck.lean    (check words, mode message)
    BV/Proofs/AztecDecode.lean   (the reference decoder in stages)
    BV/Proofs/AztecOps.lean, AztecHit.lean, AztecAlign.lean, AztecGeom.lean
                                 (the drawing as an operation list, its geometry for every number of layers)
    BV/Proofs/AztecAssemble.lean (assembly)
-/
import BV.Proofs.AztecAssemble
namespace BV.Props.AztecA
open BV BV.Model BV.Model.Aztec BV.Proofs.Bits BV.Proofs.AztecBits
open BV.Proofs.AztecStream (modeOf latchPath latchBits)
open BV.Proofs.AztecAssemble (selectLayers)

/-! ## 1 — tables of the high-level encoder -/

/-- `charMap` (5 × 256 entries, built by `init()`) agrees with the character tables of the standard wherever it
    is non-zero: the entry is the code of exactly that byte in that mode, and never the all-ones code.
    (Certificate by kernel evaluation over all 1280 entries.) -/
theorem AztecA_charMap (mode : Nat) (hm : mode < 5) (ch : UInt8) (h : 0 < charMapAt mode ch) :
    charMapAt mode ch < 2 ^ Spec.Aztec.codeBits (modeOf mode) - 1 ∧
      Spec.Aztec.table (modeOf mode) (charMapAt mode ch) = .chars [ch] :=
  BV.Proofs.AztecStream.charMap_spec mode hm ch h

/-- every one of the 20 latch table entries `a → b` (`a ≠ b`) consists of latch codes of the standard only, which
    lead from mode `a` to mode `b` (`latchPath`; `AztecStream.Run.ofLatchPath` turns such a path into a run of the
    reference parser), and is at most 14 bits long -/
theorem AztecA_latchTable : ∀ a < 5, ∀ b < 5, a ≠ b →
    latchPath 3 (modeOf a) (latchBits a b) = some (modeOf b) ∧ latchTable a b >>> 16 ≤ 14 :=
  BV.Proofs.AztecStream.latch_cert

/-- every shift table entry is the shift code of the standard (to Punct: 0; to Upper: 28 from Lower, 15 from
    Digit), fits the code width of its mode, and the shifted-to mode has 5-bit codes -/
theorem AztecA_shiftTable (a b : Nat) (ha : a < 5) (hb : b < 5) (h : (shiftTableOk a b).isSome = true) :
    Spec.Aztec.table (modeOf a) (shiftTable a b) = .shift (modeOf b) ∧
      shiftTable a b < 2 ^ Spec.Aztec.codeBits (modeOf a) ∧ Spec.Aztec.codeBits (modeOf b) = 5 :=
  BV.Proofs.AztecStream.shift_spec a b ha hb h

/-- the duplicated `'\''` in `punctTable`: the double quote (34) is in none of the five tables, so it is encoded
    by a binary shift (still a valid encoding, see the example after `AztecA_stream_roundtrip`) -/
example : ∀ mode < 5, charMapAt mode 34 = 0 := by decide +kernel

/-! ## 2 — the character stream -/

/-- **High-level stream round trip** (heart of C03).  For every payload shorter than 2^58 bytes (the model's
    `minState` starts from the bit count `2^63 − 1` and finds no state unless one is below it),
    `highlevelEncode data` followed by any padding of fewer than `ws` one-bits (`ws ≤ 18`, the length of the
    shortest binary-shift run, 5 + 5 + 8; the codeword sizes are 6, 8, 10, 12) is parsed by the reference parser of
    the standard — Upper/Lower/Mixed/Punct/Digit codes, latches, shifts, binary shift with 5 and 5+11 bit length —
    to exactly `data`.  Optimality of the encoding is not claimed. -/
theorem AztecA_stream_roundtrip (ws : Nat) (hws : ws ≤ 18) (data : Bytes) (hlen : data.length < 2 ^ 58)
    (pad : List Bool) (hp1 : pad.length < ws) (hp2 : pad.all id = true) :
    Spec.Aztec.parse ws ((highlevelEncode data ++ pad).length + 1) .upper none (highlevelEncode data ++ pad).length
      (highlevelEncode data ++ pad) [] = .ok data :=
  BV.Proofs.AztecSearch.highlevel_roundtrip ws hws data hlen pad hp1 hp2

/-- instance: "Az \"q\" 1, 2.\r\n" followed by the byte 255, with three pad bits (all five modes, a pair code, a
    binary shift for the quotes and for 255) -/
example : Spec.Aztec.parse 8
    ((highlevelEncode [65, 122, 32, 34, 113, 34, 32, 49, 44, 32, 50, 46, 13, 10, 255] ++ [true, true, true]).length + 1)
    .upper none
    (highlevelEncode [65, 122, 32, 34, 113, 34, 32, 49, 44, 32, 50, 46, 13, 10, 255] ++ [true, true, true]).length
    (highlevelEncode [65, 122, 32, 34, 113, 34, 32, 49, 44, 32, 50, 46, 13, 10, 255] ++ [true, true, true]) [] =
    .ok [65, 122, 32, 34, 113, 34, 32, 49, 44, 32, 50, 46, 13, 10, 255] :=
  AztecA_stream_roundtrip 8 (by decide) _ (by decide) _ (by decide) (by decide)

/-! ## 3 — bit stuffing -/

/-- **Bit stuffing.**  For every bit list and word size `w ≥ 2`: the stuffed stream consists of whole `w`-bit
    words, no word is all-zero or all-one, and removing the stuffing bits (`Spec.Aztec.unstuffWord`) returns the
    original bits followed by fewer than `w` one-bits (the padding that the parser ignores). -/
theorem AztecA_stuffing (bits : List Bool) (w : Nat) (hw : 2 ≤ w) :
    (stuffBits bits w).length % w = 0 ∧
    (let ws := Spec.Aztec.groups w ((stuffBits bits w).length / w) (stuffBits bits w)
     (∀ x ∈ ws, x < 2 ^ w ∧ x ≠ 0 ∧ x ≠ 2 ^ w - 1) ∧
     (∃ pad : List Bool, pad.length < w ∧ pad.all id = true ∧
        ws.flatMap (Spec.Aztec.unstuffWord w) = bits ++ pad) ∧
     ws.flatMap (fun x => msbBits x w) = stuffBits bits w) :=
  ⟨BV.Proofs.AztecStuff.stuffBits_length_mod bits w hw, BV.Proofs.AztecStuff.stuffBits_words bits w hw⟩

/-- stuffing grows the stream, by at most one bit per `w - 1` bits (plus one word) -/
theorem AztecA_stuffing_length (bits : List Bool) (w : Nat) (hw : 2 ≤ w) :
    bits.length ≤ (stuffBits bits w).length ∧ (stuffBits bits w).length ≤ (bits.length / (w - 1) + 1) * w :=
  ⟨BV.Proofs.AztecStuff.stuffBits_length_ge bits w hw, BV.Proofs.AztecStuff.stuffBits_length_le bits w hw⟩

example : stuffBits [true, true, true, true, true, false, false, false, false, false, true, false, true] 6 =
    [true, true, true, true, true, false, false, false, false, false, false, true,
     true, false, true, true, true, true] := by decide

/-! ## 4 — layer choice and size arithmetic -/

/-- the codeword size table is the one of the standard: 6 bits for 1–2 layers, 8 for 3–8, 10 for 9–22, 12 for
    23–32 -/
theorem AztecA_word_size (L : Nat) (h1 : 1 ≤ L) (h2 : L ≤ 32) : word_size L = Spec.Aztec.wordSizeOf L :=
  BV.Proofs.AztecLayers.word_size_eq L h2 h1

/-- side lengths: the model's `matrixSize` is the standard's symbol size, compact `11 + 4L`, full range
    `15 + 4L + 2⌊(2L+6)/15⌋` (19 … 151) -/
theorem AztecA_symbol_size (compact : Bool) (L : Nat) (h : Shape compact L) :
    (alignmentMap compact (if compact then 11 + L * 4 else 14 + L * 4)).2 = Spec.Aztec.symbolSize compact L ∧
    Spec.Aztec.symbolSize true L = 11 + 4 * L ∧
    Spec.Aztec.symbolSize false L = 15 + 4 * L + 2 * ((2 * L + 6) / 15) :=
  ⟨BV.Proofs.AztecLayers.matrixSize_eq compact L, BV.Proofs.AztecLayers.symbolSize_compact L,
    BV.Proofs.AztecLayers.symbolSize_full L⟩

/-- the Galois fields of `getGF` are the fields of the standard (GF(16)/0x13, GF(64)/0x43, GF(256)/0x12D,
    GF(1024)/0x409, GF(4096)/0x1069, generator base 1), all covered by C17 -/
theorem AztecA_field : ∀ w ∈ [4, 6, 8, 10, 12], ∃ pp n, getGF w = some (GF.newField pp n 1) ∧
    Spec.RS.aztecField w = some ⟨pp, n⟩ ∧ n = 2 ^ w ∧ (pp, n, 1) ∈ BV.Props.C17.fields :=
  BV.Proofs.AztecCheck.getGF_spec

/-- an accepted explicit request (`-4..-1` compact, `1..32` full range) yields exactly the requested shape, with
    the stuffed bits and the requested check bits fitting into the usable bits (and into 64 words if compact) -/
theorem AztecA_explicit (bits : List Bool) (ecc req : Int) (lay : Layout)
    (h : explicitLayers bits ecc req = .ok lay) (h0 : req ≠ 0) :
    (-4 ≤ req ∧ req ≤ 32) ∧ lay.compact = decide (req < 0) ∧ lay.layers = req.natAbs ∧ LayoutOK bits ecc lay :=
  BV.Proofs.AztecLayers.explicitLayers_ok h h0

/-- an explicit request in range is accepted iff the message fits; otherwise it is rejected (never a panic) -/
theorem AztecA_explicit_iff (bits : List Bool) (ecc req : Int) (h1 : -4 ≤ req) (h2 : req ≤ 32) :
    ((∃ lay, explicitLayers bits ecc req = .ok lay) ↔
      (((stuffBits bits (word_size req.natAbs)).length : Int) + ecc ≤
          ((totalBitsInLayer req.natAbs (decide (req < 0)) -
            totalBitsInLayer req.natAbs (decide (req < 0)) % word_size req.natAbs : Nat) : Int) ∧
        (req < 0 → (stuffBits bits (word_size req.natAbs)).length ≤ word_size req.natAbs * 64))) ∧
    ((¬ ∃ lay, explicitLayers bits ecc req = .ok lay) → explicitLayers bits ecc req = .error .rejected) := by
  rw [BV.Proofs.AztecLayers.explicitLayers_char bits ecc req h1 h2]
  split
  · rename_i hF
    exact ⟨⟨fun _ => ⟨hF.1, fun hc => hF.2 (by simp [hc])⟩, fun _ => ⟨_, rfl⟩⟩, fun h => absurd ⟨_, rfl⟩ h⟩
  · rename_i hF
    exact ⟨⟨fun ⟨_, h⟩ => (nomatch h), fun h => absurd ⟨h.1, fun hc => h.2 (by simpa using hc)⟩ hF⟩, fun _ => rfl⟩

/-- the automatic choice tries compact 1–4, then full range 4–32 (never full range 1–3) and returns the first
    shape that fits: the result is an accepted layout, equal to what the explicit request for that shape gives,
    and every candidate tried before it is rejected as an explicit request -/
theorem AztecA_auto (bits : List Bool) (ecc : Int) (lay : Layout)
    (h : autoLayers bits ecc (bits.length + ecc) 34 0 0 [] = .ok lay) :
    LayoutOK bits ecc lay ∧ (lay.compact = false → 4 ≤ lay.layers) ∧
    explicitLayers bits ecc (if lay.compact then -(lay.layers : Int) else lay.layers) = .ok lay ∧
    (∀ L : Nat, 1 ≤ L → L ≤ 4 → (lay.compact = true → L < lay.layers) →
      explicitLayers bits ecc (-(L : Int)) = .error .rejected) ∧
    (∀ L : Nat, 4 ≤ L → lay.compact = false → L < lay.layers →
      explicitLayers bits ecc (L : Int) = .error .rejected) :=
  ⟨(BV.Proofs.AztecLayers.autoLayers_ok h).1, (BV.Proofs.AztecLayers.autoLayers_ok h).2,
    BV.Proofs.AztecLayers.autoLayers_eq_explicit h,
    (BV.Proofs.AztecLayers.autoLayers_first_fit_req h).1,
    (BV.Proofs.AztecLayers.autoLayers_first_fit_req h).2⟩

/-- **C10 (Aztec part)**: layer requests outside `-4..32` are rejected -/
theorem C10_aztec_range (data : Bytes) (pct req : Int) (s : Scheme) (h : req < -4 ∨ 32 < req) :
    encodeWithColor data pct req s = .error .rejected := by
  apply BV.Proofs.AztecAssemble.encode_rejected
  rw [BV.Proofs.AztecAssemble.selectLayers_explicit _ _ _ (by omega),
    BV.Proofs.AztecLayers.explicitLayers_reject_range _ _ req h]

/-- **C10 (Aztec part)**: for `pct ≥ 0` the encoder never panics — it returns a barcode or rejects -/
theorem C10_aztec_no_panic (data : Bytes) (pct req : Int) (s : Scheme) (hpct : 0 ≤ pct) :
    encodeWithColor data pct req s ≠ .error .panic := by
  rcases BV.Proofs.AztecAssemble.encode_cases data pct req hpct s with ⟨_, h⟩ | ⟨_, _, _, _, _, _, _, h⟩ <;>
    rw [h] <;> simp

/-- **C03 "an explicit layer request is honoured exactly"** (size level, no geometry needed): an accepted explicit
    request is in `-4..-1` or `1..32`, and the returned barcode is square with the side length of exactly the
    requested shape; the content is the payload -/
theorem C03_aztec_honoured (data : Bytes) (pct req : Int) (s : Scheme) (bc : Barcode) (hpct : 0 ≤ pct)
    (h0 : req ≠ 0) (h : encodeWithColor data pct req s = .ok bc) :
    (-4 ≤ req ∧ req ≤ 32) ∧ bc.w = Spec.Aztec.symbolSize (decide (req < 0)) req.natAbs ∧ bc.h = bc.w ∧
      bc.content = data := by
  obtain ⟨lay, hsel, _, hw, hh, hcont⟩ := BV.Proofs.AztecAssemble.encode_size h
  rw [BV.Proofs.AztecAssemble.selectLayers_explicit _ _ _ h0] at hsel
  obtain ⟨hr, hc, hl, _⟩ := BV.Proofs.AztecLayers.explicitLayers_ok hsel h0
  rw [← hc, ← hl]
  exact ⟨hr, hw, hh, hcont⟩

/-- **C12**: for `pct ≥ 0`, whenever a barcode is returned the chosen layout carries at least one check word and
    `checkWords · wordSize · 100 ≥ pct · (number of high-level bits)`; data and check words together do not
    exceed the Reed–Solomon block length `2^wordSize - 1` -/
theorem C12_aztec (data : Bytes) (pct req : Int) (s : Scheme) (bc : Barcode) (hpct : 0 ≤ pct)
    (h : encodeWithColor data pct req s = .ok bc) :
    ∃ lay, selectLayers (highlevelEncode data) pct req = .ok lay ∧
      bc.w = Spec.Aztec.symbolSize lay.compact lay.layers ∧
      (let checkWords := lay.totalBitsInLayer / lay.wordSize - lay.stuffedBits.length / lay.wordSize
       ((checkWords : Int) * lay.wordSize * 100 ≥ pct * (highlevelEncode data).length) ∧ 1 ≤ checkWords ∧
       lay.stuffedBits.length / lay.wordSize + checkWords ≤ 2 ^ lay.wordSize - 1) := by
  obtain ⟨lay, hsel, ok, hw, _⟩ := BV.Proofs.AztecAssemble.encode_size h
  exact ⟨lay, hsel, hw, ok.checkWords hpct⟩

/-- **C13**: when the automatic choice (`req = 0`) returns a barcode, every explicit request naming a symbol with a
    strictly smaller side length is refused — including the full-range sizes 1–3 that the loop never tries and
    the change of codeword size between full-range 2 (6 bits) and compact 3 (8 bits) -/
theorem C13_aztec (data : Bytes) (pct : Int) (s : Scheme) (bc : Barcode) (hpct : 0 ≤ pct)
    (h : encodeWithColor data pct 0 s = .ok bc) (req : Int) (h0 : req ≠ 0)
    (hsz : Spec.Aztec.symbolSize (decide (req < 0)) req.natAbs < bc.w) (s' : Scheme) :
    encodeWithColor data pct req s' = .error .rejected := by
  by_cases hr : req < -4 ∨ 32 < req
  · exact C10_aztec_range data pct req s' hr
  obtain ⟨lay, hsel, _, hw, _⟩ := BV.Proofs.AztecAssemble.encode_size h
  rw [BV.Proofs.AztecAssemble.selectLayers_auto] at hsel
  rw [hw] at hsz
  have hrej := BV.Proofs.AztecLayers.autoLayers_minimal (BV.Proofs.AztecAssemble.ecc_ge _ pct hpct) hsel req h0
    (by omega) (by omega) hsz
  apply BV.Proofs.AztecAssemble.encode_rejected
  rw [BV.Proofs.AztecAssemble.selectLayers_explicit _ _ _ h0, hrej]

/-! ## 5 — check words and mode message -/

/-- **Check words.**  For a word size `w ∈ {4,6,8,10,12}`, a stuffed stream and a symbol capacity that leave between
    1 and `2^w - 1` check words, `generateCheckWords` succeeds with: zero start padding (`totalBits % w` bits), the
    data words, and the check words `rsEncode`; all are `w`-bit values and data ++ check words is a valid
    Reed–Solomon codeword of the standard's field with roots α¹ … α^k (by C17). -/
theorem AztecA_check_words (w : Nat) (hw : w ∈ [4, 6, 8, 10, 12]) (stuffed : List Bool) (totalBits : Nat)
    (hk1 : 1 ≤ totalBits / w - stuffed.length / w) (hkn : totalBits / w - stuffed.length / w ≤ 2 ^ w - 1) :
    let m := stuffed.length / w
    let k := totalBits / w - m
    let dw := Spec.Aztec.groups w m stuffed
    ∃ pp n ecc, getGF w = some (GF.newField pp n 1) ∧ Spec.RS.aztecField w = some ⟨pp, n⟩ ∧ n = 2 ^ w ∧
      ecc = GF.rsEncode (GF.newField pp n 1) dw k ∧
      generateCheckWords stuffed totalBits w =
        .ok (List.replicate (totalBits % w) false ++ (dw ++ ecc).flatMap (fun x => msbBits x w)) ∧
      dw.length = m ∧ ecc.length = k ∧ (∀ x ∈ dw, x < 2 ^ w) ∧ (∀ x ∈ ecc, x < 2 ^ w) ∧
      (Spec.RS.BinField.mk pp n).valid 1 k (dw ++ ecc) = true :=
  BV.Proofs.AztecCheck.generateCheckWords_spec w hw stuffed totalBits hk1 hkn

/-- **Mode message.**  For each of the 36 shapes and `1 ≤ W ≤ 64` (compact) / `2048` (full range) data words the
    mode message has 28 / 40 bits; as 4-bit words it is a GF(16) Reed–Solomon codeword with 5 / 6 check words,
    and its 2 / 4 data words hold `(L-1)·64 + (W-1)` / `(L-1)·2048 + (W-1)`, from which the reference decoder
    reads back `L` layers and `W` data words. -/
theorem AztecA_mode_message (compact : Bool) (L W : Nat) (hL : Shape compact L)
    (hW : 1 ≤ W ∧ W ≤ (if compact then 64 else 2048)) :
    ∃ mm, generateModeMessage compact L W = .ok mm ∧ mm.length = (if compact then 28 else 40) ∧
      (let words := Spec.Aztec.groups 4 (mm.length / 4) mm
       let modeData := if compact then 2 else 4
       (Spec.RS.BinField.mk 0x13 16).valid 1 (words.length - modeData) words = true ∧
       (words.take modeData).foldl (fun a x => 16 * a + x) 0 =
         (L - 1) * (if compact then 64 else 2048) + (W - 1)) ∧
      (let v := (L - 1) * (if compact then 64 else 2048) + (W - 1)
       (if compact then v / 64 else v / 2048) + 1 = L ∧ (if compact then v % 64 else v % 2048) + 1 = W) := by
  obtain ⟨mm, h1, h2, h3⟩ := BV.Proofs.AztecCheck.generateModeMessage_spec compact L W hL hW
  exact ⟨mm, h1, h2, h3, BV.Proofs.AztecCheck.mode_read_back compact L W hL.1 hW⟩

example : (generateModeMessage true 1 3).toOption.map (Spec.Aztec.groups 4 7) = some [0, 2, 5, 8, 12, 4, 2] := by
  decide +kernel

/-! ## 6 — the whole symbol -/

/-- **C03 for the Aztec encoder.**  For every payload (shorter than 2^58 bytes; the empty payload included),
    minimum error-correction percentage `pct ≥ 0` and layer request for which `EncodeWithColor` returns a barcode,
    the reference decoder written from ISO/IEC 24778 accepts the image (bullseye, orientation marks,
    Reed–Solomon-valid mode message agreeing with the symbol size, complete reference grid in full-range symbols,
    zero start padding, data + check words a valid Reed–Solomon codeword, no all-zero / all-one data word) and,
    un-stuffing and parsing the Upper/Lower/Mixed/Punct/Digit/binary-shift stream, returns exactly the payload;
    an explicit layer request is honoured exactly; the automatic choice never is full range with fewer than 4
    layers; and (C12) there is at least one check word and the check words carry at least `pct` percent of the
    high-level bits. -/
theorem C03_aztec (data : Bytes) (hlen : data.length < 2 ^ 58) (pct req : Int) (hpct : 0 ≤ pct) (s : Scheme)
    (bc : Barcode) (h : encodeWithColor data pct req s = .ok bc) :
    ∃ info, Spec.Aztec.decode bc.w bc.h bc.dark = .ok info ∧ info.content = data ∧ bc.content = data ∧
      (req ≠ 0 → info.compact = decide (req < 0) ∧ info.layers = req.natAbs) ∧
      (req = 0 → info.compact = false → 4 ≤ info.layers) ∧
      bc.w = Spec.Aztec.symbolSize info.compact info.layers ∧ info.size = bc.w ∧
      1 ≤ info.checkWords ∧
      (info.checkWords : Int) * info.wordSize * 100 ≥ pct * (highlevelEncode data).length := by
  obtain ⟨lay, mb, mm, hsel, ok, hmb, hmm, rfl⟩ := BV.Proofs.AztecAssemble.encode_ok_inv h
  obtain ⟨info, hdec, hcont, hc, hl, hsize, hw, hbcc, hws, hdw, hcw⟩ :=
    BV.Proofs.AztecAssemble.decode_of_layout data hlen pct hpct lay ok mb mm hmb hmm s
  obtain ⟨c1, c2, _⟩ := ok.checkWords hpct
  refine ⟨info, hdec, hcont, hbcc, ?_, ?_, by rw [hc, hl]; exact hw, hsize, by rw [hcw]; exact c2,
    by rw [hcw, hws]; exact c1⟩
  · intro h0
    rw [BV.Proofs.AztecAssemble.selectLayers_explicit _ _ _ h0] at hsel
    obtain ⟨_, e1, e2, _⟩ := BV.Proofs.AztecLayers.explicitLayers_ok hsel h0
    rw [hc, hl]; exact ⟨e1, e2⟩
  · intro h0 hcf
    subst h0
    rw [BV.Proofs.AztecAssemble.selectLayers_auto] at hsel
    rw [hl]
    exact (BV.Proofs.AztecLayers.autoLayers_ok hsel).2 (by rw [← hc]; exact hcf)

/-- the core of `C03_aztec` as one proposition -/
def C03_aztec_full : Prop :=
  ∀ (data : Bytes), data.length < 2 ^ 58 → ∀ (pct req : Int), 0 ≤ pct → ∀ (s : Scheme) (bc : Barcode),
    encodeWithColor data pct req s = .ok bc →
    ∃ info, Spec.Aztec.decode bc.w bc.h bc.dark = .ok info ∧ info.content = data ∧
      (req ≠ 0 → info.compact = decide (req < 0) ∧ info.layers = req.natAbs)

/-- … and it holds -/
theorem C03_aztec_full_holds : C03_aztec_full := by
  intro data hlen pct req hpct s bc h
  obtain ⟨info, h1, h2, _, h3, _⟩ := C03_aztec data hlen pct req hpct s bc h
  exact ⟨info, h1, h2, h3⟩

/-- the hypotheses of `C03_aztec` are satisfiable: "Hi!" with 33 %, compact 3 layers requested, is accepted -/
example : (encodeWithColor [72, 105, 33] 33 (-3) scheme16).toOption.isSome = true := by decide +kernel

/-! ## 7 — concrete symbols (kernel evaluation of the whole encoder and the whole reference decoder) -/

/-- what the reference decoder reads from `Encode(data, pct, req)`: (compact, layers, side length, content) -/
def decodeOf (data : Bytes) (pct req : Int) : Option (Bool × Nat × Nat × Bytes) :=
  match encode data pct req with
  | .ok bc => (Spec.Aztec.decode bc.w bc.h bc.dark).toOption.map (fun i => (i.compact, i.layers, bc.w, i.content))
  | .error _ => none

/-- "Hi!" with 33 % error correction, automatic size: compact, 1 layer, 15×15 -/
example : decodeOf [72, 105, 33] 33 0 = some (true, 1, 15, [72, 105, 33]) := by decide +kernel

/-- the EMPTY payload (`stuffBits` emits one codeword of padding for it): one data word `2^w - 2`, which un-stuffs
    to `w - 1` one-bits, i.e. to nothing -/
example : decodeOf [] 33 0 = some (true, 1, 15, []) := by decide +kernel

end BV.Props.AztecA
