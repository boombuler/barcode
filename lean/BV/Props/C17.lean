/-
  C17 — Galois-field arithmetic, polynomial division and the Reed–Solomon encoder.
  Only property statements live here; lemmas are in BV/Proofs/GF.lean (tables, field laws),
  BV/Proofs/GFPoly.lean (polynomials), BV/Proofs/GFPolySpec.lean (agreement with the specification's polynomial
  operations) and BV/Proofs/RS.lean (encoder).
-/
import BV.Proofs.GF
import BV.Proofs.GFPoly
import BV.Proofs.GFPolySpec
import BV.Proofs.RS
import BV.Gen.Qr
import BV.Gen.Datamatrix
import BV.Gen.Aztec
namespace BV.Props.C17
open BV BV.Model.GF BV.Proofs.GF

/-! ## M1 — the fields and the field laws -/

/-- the six `(pp, size, base)` triples. In this namespace a bare `fields` is this definition, not
    `BV.Proofs.GF.fields` (opened above), to which it unfolds. -/
def fields : List (Nat × Nat × Nat) := BV.Proofs.GF.fields

theorem fields_eq : fields =
    [(19, 16, 1), (67, 64, 1), (285, 256, 0), (301, 256, 1), (1033, 1024, 1), (4201, 4096, 1)] := rfl

/-- a triple as it appears in the generated call-site tables -/
def asCall (t : Nat × Nat × Nat) : List Int := [(t.1 : Int), (t.2.1 : Int), (t.2.2 : Int)]

/-- every `NewGaloisField(pp, size, b)` call in the library (QR, Data Matrix, Aztec) uses one of the six
    triples of `fields`, and every triple of `fields` is used by some call -/
theorem fields_are_call_sites :
    (∀ c ∈ BV.Gen.Qr.call_NewGaloisField ++ BV.Gen.Datamatrix.call_NewGaloisField ++
        BV.Gen.Aztec.call_NewGaloisField, c ∈ fields.map asCall) ∧
    (∀ t ∈ fields, asCall t ∈ BV.Gen.Qr.call_NewGaloisField ++ BV.Gen.Datamatrix.call_NewGaloisField ++
        BV.Gen.Aztec.call_NewGaloisField) := by
  decide +kernel

theorem C17_mul_comm (pp n b : Nat) (_h : (pp, n, b) ∈ fields) (x y : Nat) (_hx : x < n) (_hy : y < n) :
    (newField pp n b).mul x y = (newField pp n b).mul y x :=
  mul_comm _ x y

theorem C17_mul_assoc (pp n b : Nat) (h : (pp, n, b) ∈ fields) (x y z : Nat) (hx : x < n) (hy : y < n)
    (hz : z < n) :
    (newField pp n b).mul ((newField pp n b).mul x y) z = (newField pp n b).mul x ((newField pp n b).mul y z) :=
  mul_assoc (fields_ok _ h).prim b x y z hx hy hz

theorem C17_mul_closed (pp n b : Nat) (h : (pp, n, b) ∈ fields) (x y : Nat) (hx : x < n) (hy : y < n) :
    (newField pp n b).mul x y < n :=
  mul_lt (fields_ok _ h).prim b x y hx hy

theorem C17_mul_one (pp n b : Nat) (h : (pp, n, b) ∈ fields) (x : Nat) (hx : x < n) :
    (newField pp n b).mul x 1 = x ∧ (newField pp n b).mul 1 x = x :=
  ⟨mul_one (fields_ok _ h).prim b x hx, by rw [mul_comm]; exact mul_one (fields_ok _ h).prim b x hx⟩

theorem C17_mul_inv (pp n b : Nat) (h : (pp, n, b) ∈ fields) (x : Nat) (hx : x < n) (hx0 : 0 < x) :
    (newField pp n b).mul x ((newField pp n b).inv x) = 1 ∧ (newField pp n b).inv x < n ∧
      0 < (newField pp n b).inv x :=
  mul_inv (fields_ok _ h).prim b x hx0 hx

theorem C17_div (pp n b : Nat) (h : (pp, n, b) ∈ fields) (x y : Nat) (hx : x < n) (hy : y < n) (hy0 : 0 < y) :
    ∃ q, (newField pp n b).div x y = some q ∧ q < n ∧ (newField pp n b).mul q y = x :=
  div_spec (fields_ok _ h).prim b x y hx hy0 hy

/-- division by zero is the explicit Go panic -/
theorem C17_div_zero (pp n b x : Nat) : (newField pp n b).div x 0 = none := div_zero _ x

theorem C17_div_mul (pp n b : Nat) (h : (pp, n, b) ∈ fields) (x y : Nat) (hx : x < n) (hy : y < n) (hy0 : 0 < y) :
    (newField pp n b).div ((newField pp n b).mul x y) y = some x :=
  div_mul_cancel (fields_ok _ h).prim b x y hx hy0 hy

/-- no table access of `Multiply`, `Divide`, `Invers` is out of range for in-range operands `x y < n` (the
    `LogTbl` indices are `x`, `y` themselves, `LogTbl` has `n` entries); the intermediate value of `Divide`
    (`LogTbl[x] - LogTbl[y] + (Size-1)`) and of `Invers` (`(Size-1) - LogTbl[x]`) is not negative.
    So Go cannot panic with an index error there and the `getD` default of the model is never used. -/
theorem C17_index_in_range (pp n b : Nat) (h : (pp, n, b) ∈ fields) (x y : Nat) (hx : x < n) (hy : y < n) :
    let f := newField pp n b
    f.log.size = n ∧ f.alog.size = n ∧ f.size = n ∧
    -- Multiply
    (f.log.getD x 0 + f.log.getD y 0) % (f.size - 1) < f.alog.size ∧
    -- Divide
    f.log.getD y 0 ≤ f.log.getD x 0 + (f.size - 1) ∧
    (f.log.getD x 0 + (f.size - 1) - f.log.getD y 0) % (f.size - 1) < f.alog.size ∧
    -- Invers
    f.log.getD x 0 ≤ f.size - 1 ∧ (f.size - 1) - f.log.getD x 0 < f.alog.size :=
  index_in_range (fields_ok _ h).prim b x y hx hy

/-! ## M2 — ring structure, agreement with the specification's field -/

/-- multiplication distributes over addition (= XOR) -/
theorem C17_distrib (pp n b : Nat) (h : (pp, n, b) ∈ fields) (x y z : Nat) (hx : x < n) (hy : y < n)
    (hz : z < n) :
    (newField pp n b).mul (x ^^^ z) y = (newField pp n b).mul x y ^^^ (newField pp n b).mul z y ∧
    (newField pp n b).mul y (x ^^^ z) = (newField pp n b).mul y x ^^^ (newField pp n b).mul y z ∧
    x ^^^ z < n :=
  have L := laws_of_ok (fields_ok _ h) b
  ⟨L.mul_xor_left x z y hx hz hy, L.mul_xor_right y x z hy hx hz, L.xor_lt x z hx hz⟩

/-- the table-driven multiplication of the library is the shift-and-reduce multiplication of the
    specification field `GF(2)[x]/(pp)` -/
theorem C17_mul_eq_spec (pp n b : Nat) (h : (pp, n, b) ∈ fields) (x y : Nat) (hx : x < n) (hy : y < n) :
    (newField pp n b).mul x y = (Spec.RS.BinField.mk pp n).mul x y :=
  ok_mul_eq_spec (fields_ok _ h) b x y hx hy

/-- the antilog table holds the powers of the generator element `α = 2` as the specification computes them -/
theorem C17_alog_eq_spec_pow (pp n b : Nat) (h : (pp, n, b) ∈ fields) (i : Nat) (hi : i < n) :
    (newField pp n b).alog.getD i 0 = (Spec.RS.BinField.mk pp n).pow 2 i :=
  ok_alog_eq_spec_pow (fields_ok _ h) b i hi

/-- the hypotheses are satisfiable: concrete products in GF(256)/285 and GF(16)/19 -/
example : (285, 256, 0) ∈ fields ∧ (newField 285 256 0).mul 87 13 = 148 ∧
    (newField 285 256 0).div 148 13 = some 87 ∧ (newField 19 16 1).inv 7 = 6 := by decide +kernel

/-! ## M3 — polynomials

  Vocabulary (defined in `BV/Proofs/GFPoly.lean`):
  * `cf p d` — the coefficient of degree `d` of the coefficient list `p` (highest degree first), 0 beyond the
    list; two lists denote the same polynomial iff all `cf` agree (`C17_cf_ext`, `C17_cf_polyEq`); inside the
    list it is the model's `GetCoefficient` (`C17_cf_coeff`).
  * `conv f g h d = ⊕_{i ≤ d} g i · h (d-i)` — the coefficients of the product (Cauchy product).
  * `AllLt n p` — all coefficients are field elements; `Norm p` — the normal form `NewGFPoly` produces
    (a single coefficient, or a non-zero leading coefficient).
-/

theorem C17_cf_coeff (p : Poly) (d : Nat) (h : d < p.length) : cf p d = coeff p d := cf_eq_coeff p d h

theorem C17_cf_ext (p q : Poly) (hp : Norm p) (hq : Norm q) (h : ∀ d, cf p d = cf q d) : p = q :=
  norm_ext hp hq h

/-- the specification's "equal modulo leading zeros" is equality of all coefficients -/
theorem C17_cf_polyEq (p q : Poly) : Spec.RS.polyEq p q = true ↔ ∀ d, cf p d = cf q d :=
  ⟨cf_of_polyEq p q, polyEq_of_cf p q⟩

/-- `NewGFPoly` keeps the polynomial and produces a normal form -/
theorem C17_newPoly (p : Poly) : (∀ d, cf (newPoly p) d = cf p d) ∧ (p ≠ [] → Norm (newPoly p)) :=
  ⟨cf_newPoly p, newPoly_norm p⟩

/-- `AddOrSubstract` adds coefficient-wise (XOR) -/
theorem C17_polyAdd (pp n b : Nat) (h : (pp, n, b) ∈ fields) (p q : Poly) (hp : Norm p) (hq : Norm q) :
    (∀ d, cf (polyAdd p q) d = cf p d ^^^ cf q d) ∧ Norm (polyAdd p q) ∧
      (AllLt n p → AllLt n q → AllLt n (polyAdd p q)) :=
  polyAdd_spec (laws_of_ok (fields_ok _ h) b) p q hp hq

/-- `MultByMonominal(deg, c)` shifts by `deg` and scales by `c` -/
theorem C17_mulMonomial (pp n b : Nat) (h : (pp, n, b) ∈ fields) (p : Poly) (deg c : Nat) :
    (∀ d, cf (mulMonomial (newField pp n b) p deg c) d =
      if d < deg then 0 else (newField pp n b).mul (cf p (d - deg)) c) ∧
    (p ≠ [] ∨ 0 < deg → Norm (mulMonomial (newField pp n b) p deg c)) ∧
    (AllLt n p → c < n → AllLt n (mulMonomial (newField pp n b) p deg c)) :=
  mulMonomial_spec (laws_of_ok (fields_ok _ h) b) p deg c

/-- `Multiply` computes the Cauchy product — which is also what the specification's raw product computes -/
theorem C17_polyMul (pp n b : Nat) (h : (pp, n, b) ∈ fields) (p q : Poly) (hp : Norm p) (hq : Norm q)
    (hap : AllLt n p) (haq : AllLt n q) :
    (∀ d, cf (polyMul (newField pp n b) p q) d = conv (newField pp n b) (cf p) (cf q) d) ∧
    Spec.RS.polyEq (polyMul (newField pp n b) p q) ((Spec.RS.BinField.mk pp n).polyMulRaw p q) = true ∧
    Norm (polyMul (newField pp n b) p q) ∧ AllLt n (polyMul (newField pp n b) p q) := by
  have hok : FieldOK pp n := fields_ok _ h
  obtain ⟨h1, h2, h3, _⟩ := polyMul_spec (laws_of_ok hok b) p q hp hq hap haq
  exact ⟨h1, polyEq_of_cf _ _ (fun d => by rw [h1 d, cf_polyMulRaw hok b p q hap haq]), h2, h3⟩

/-- `Divide`: for a normalised dividend and a divisor with non-zero leading coefficient,
    dividend = quotient × divisor + remainder — as coefficient identity, in the specification's raw polynomial
    arithmetic, and literally inside the model — and the remainder is `[0]` or of smaller degree than the divisor -/
theorem C17_polyDiv (pp n b : Nat) (h : (pp, n, b) ∈ fields) (p q : Poly) (hp : AllLt n p) (hq : AllLt n q)
    (hnp : Norm p) (hlead : q.headD 0 ≠ 0) :
    (∀ d, cf p d = conv (newField pp n b) (cf (polyDiv (newField pp n b) p q).1) (cf q) d ^^^
      cf (polyDiv (newField pp n b) p q).2 d) ∧
    Spec.RS.polyEq p (Spec.RS.polyAddRaw
      ((Spec.RS.BinField.mk pp n).polyMulRaw (polyDiv (newField pp n b) p q).1 q)
      (polyDiv (newField pp n b) p q).2) = true ∧
    polyAdd (polyMul (newField pp n b) (polyDiv (newField pp n b) p q).1 q) (polyDiv (newField pp n b) p q).2 = p ∧
    ((polyDiv (newField pp n b) p q).2 = [0] ∨ degree (polyDiv (newField pp n b) p q).2 < degree q) ∧
    Norm (polyDiv (newField pp n b) p q).1 ∧ Norm (polyDiv (newField pp n b) p q).2 ∧
    AllLt n (polyDiv (newField pp n b) p q).1 ∧ AllLt n (polyDiv (newField pp n b) p q).2 := by
  have hok : FieldOK pp n := fields_ok _ h
  have L := laws_of_ok hok b
  obtain ⟨r1, r2, r3, r4, r5, r6⟩ := polyDiv_spec L p q hnp hp hq hlead
  refine ⟨r6, ?_, polyDiv_recompose L p q hnp hp hq hlead, ?_, r1, r2, r3, r4⟩
  · apply polyEq_of_cf
    intro d
    rw [cf_polyAddRaw, cf_polyMulRaw hok b _ q r3 hq, r6 d]
  · rcases r5 with h5 | h5
    · exact Or.inl h5
    · right; unfold degree; omega

/-- the normal-form guard of `C17_polyDiv` is needed: a dividend with a leading zero is returned unchanged as
    "remainder" (Go's `GFPoly` values built by `NewGFPoly` never have this shape) -/
example : polyDiv (newField 19 16 1) [0, 5, 5] [1, 1] = ([0], [0, 5, 5]) := by decide +kernel

/-- the hypotheses of `C17_polyDiv` are satisfiable: (x⁴+2x²+6x+9) / (3x²+1) in GF(16) -/
example : (19, 16, 1) ∈ fields ∧ AllLt 16 [1, 0, 2, 6, 9] ∧ AllLt 16 [3, 0, 1] ∧ Norm [1, 0, 2, 6, 9] ∧
    ([3, 0, 1] : Poly).headD 0 ≠ 0 ∧
    polyDiv (newField 19 16 1) [1, 0, 2, 6, 9] [3, 0, 1] = ([14, 0, 4], [6, 13]) := by
  refine ⟨by decide, by decide, by decide, Or.inr (by decide), by decide, by decide +kernel⟩

/-! ## M4 — the Reed–Solomon encoder

  * `genPoly f d` — the generator polynomial `∏_{i<d} (x + α^(i+base))` built with the model's own `polyMul`;
  * `CacheInv f c` — the cache `c` of the encoder is non-empty and its entry `d` is `genPoly f d`
    (the state every `ReedSolomonEncoder` is in: `C17_newEncoder_inv`, `C17_rs_encode`).
-/

/-- a fresh encoder satisfies the cache invariant -/
theorem C17_newEncoder_inv (f : Field) : CacheInv f newEncoder := cacheInv_new f

/-- the generator polynomial of degree `k` is monic of degree `k` and vanishes at `α^base … α^(base+k-1)` -/
theorem C17_genPoly (pp n b : Nat) (h : (pp, n, b) ∈ fields) (k : Nat) (hk : k ≤ n - 1) :
    (genPoly (newField pp n b) k).length = k + 1 ∧ (genPoly (newField pp n b) k).headD 0 = 1 ∧
    AllLt n (genPoly (newField pp n b) k) ∧
    ∀ i, i < k → (Spec.RS.BinField.mk pp n).eval (genPoly (newField pp n b) k)
      ((Spec.RS.BinField.mk pp n).pow 2 (b + i)) = 0 :=
  have hok : FieldOK pp n := fields_ok _ h
  have hb : b ≤ 1 := fields_base _ h
  ok_genPoly hok b k (by have := hok.prim.two_le; omega)

/-- `Encode(data, k)`, from any reachable encoder state: `k` check symbols, all field elements, such that
    data followed by the check symbols evaluates to zero at `α^base, …, α^(base+k-1)` (the specification's
    `valid`); the result does not depend on the cache (it equals `Encode` on a fresh encoder), and the new cache
    satisfies the invariant again -/
theorem C17_rs_encode (pp n b : Nat) (h : (pp, n, b) ∈ fields) (data : List Nat) (hd : AllLt n data) (k : Nat)
    (hk1 : 1 ≤ k) (hkn : k ≤ n - 1) (c : Cache) (hc : CacheInv (newField pp n b) c) :
    ((encodeWith (newField pp n b) c data k).1).length = k ∧
    AllLt n (encodeWith (newField pp n b) c data k).1 ∧
    (Spec.RS.BinField.mk pp n).valid b k (data ++ (encodeWith (newField pp n b) c data k).1) = true ∧
    (encodeWith (newField pp n b) c data k).1 = rsEncode (newField pp n b) data k ∧
    CacheInv (newField pp n b) (encodeWith (newField pp n b) c data k).2 :=
  have hok : FieldOK pp n := fields_ok _ h
  have hb : b ≤ 1 := fields_base _ h
  ok_encode hok b k hk1 (by have := hok.prim.two_le; omega) c hc data hd

/-- uniqueness: the encoder's output is the ONLY sequence of `k` symbols that completes `data` to a valid word
    (a non-zero polynomial of degree `< k` cannot vanish at the `k` distinct points `α^base … α^(base+k-1)`) -/
theorem C17_rs_unique (pp n b : Nat) (h : (pp, n, b) ∈ fields) (data : List Nat) (hd : AllLt n data) (k : Nat)
    (hk1 : 1 ≤ k) (hkn : k ≤ n - 1) (e' : List Nat) (hl : e'.length = k)
    (hv : (Spec.RS.BinField.mk pp n).valid b k (data ++ e') = true) :
    e' = rsEncode (newField pp n b) data k :=
  have hok : FieldOK pp n := fields_ok _ h
  have hb : b ≤ 1 := fields_base _ h
  ok_encode_unique hok b k hk1 (by have := hok.prim.two_le; omega) hkn data hd e' hl hv

/-- a sequence of `Encode` calls on one encoder, threading the cache -/
def runEncoder (f : Field) : Cache → List (List Nat × Nat) → List (List Nat)
  | _, [] => []
  | c, (data, k) :: rest => (encodeWith f c data k).1 :: runEncoder f (encodeWith f c data k).2 rest

/-- "regardless of which degrees were requested before": whatever sequence of requests an encoder serves, every
    answer is the answer a fresh encoder gives (no guard on the requests is needed for this) -/
theorem C17_rs_history_independent (f : Field) : ∀ (c : Cache) (reqs : List (List Nat × Nat)), CacheInv f c →
    runEncoder f c reqs = reqs.map (fun r => rsEncode f r.1 r.2)
  | _, [], _ => rfl
  | c, (data, k) :: rest, hc => by
    show (encodeWith f c data k).1 :: runEncoder f (encodeWith f c data k).2 rest = _
    rw [C17_rs_history_independent f _ rest (encodeWith_snd f c hc data k), encodeWith_fst f c hc data k,
      ← rsEncode_eq]
    rfl

/-- the hypotheses of `C17_rs_encode` are satisfiable, with a cache that served other degrees before:
    GF(16), 3 data symbols, 4 check symbols -/
example : (19, 16, 1) ∈ fields ∧ AllLt 16 [1, 2, 3] ∧
    (encodeWith (newField 19 16 1) (encodeWith (newField 19 16 1) newEncoder [5] 6).2 [1, 2, 3] 4).1 =
      rsEncode (newField 19 16 1) [1, 2, 3] 4 ∧
    (Spec.RS.BinField.mk 19 16).valid 1 4 ([1, 2, 3] ++ rsEncode (newField 19 16 1) [1, 2, 3] 4) = true := by
  refine ⟨by decide, by decide, by decide +kernel, by decide +kernel⟩

/-- outside the guard `1 ≤ k`: for `k = 0` the model returns one symbol (`[0]`), where Go's
    `copy(result[numZero:], …)` with `numZero = -1` panics; no caller requests 0 check symbols -/
example : rsEncode (newField 19 16 1) [1, 2, 3] 0 = [0] := by decide +kernel

end BV.Props.C17
