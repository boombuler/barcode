/-
  PdfA — PDF417 (properties C04, C12, C13 and the PDF417 part of C10), for ALL inputs.
  The proofs rest on BV/Proofs/Pdf*.lean:
    PdfLfsr            the Reed–Solomon encoder as a shift register on lists; it never panics
    PdfRS / PdfRSPoly  Reed–Solomon over GF(929): generator certificate, LFSR = polynomial division, validity
    PdfDims            ⌈·⌉ rows, the column search, padding
    PdfFrame           row indicators, start/stop, symbol-character tables (certificates)
    PdfByte / PdfNumeric / PdfText / PdfHigh   compaction round trips
    PdfAccept          EncodeWithColor as a whole: acceptance, no panic, closed form of the symbol
    PdfRender / PdfDecode   the ISO reference decoder run on the rendered picture
-/
import BV.Proofs.PdfDecode
import BV.Proofs.PdfRSPoly
namespace BV.Props.PdfA
open BV BV.Model.Pdf417 BV.Gen.Pdf417 BV.Spec.Pdf417
open BV.Proofs.PdfDims BV.Proofs.PdfFrame BV.Proofs.PdfRS BV.Proofs.PdfHigh BV.Proofs.PdfAccept
open BV.Proofs.PdfDecode BV.Proofs.PdfText

/-! ## 1. Reed–Solomon (C04, C12) -/

/-- (1a, certificate) For every level 0..8 the table `correctionFactors[level]` (as naturals, `factorsOf`)
    followed by the leading coefficient 1 is g(x) = ∏_{i=1}^{2^(level+1)} (x − 3^i) mod 929, coefficients lowest
    degree first — the order in which `Compute` indexes the table (`factors[i]` multiplies x^i).  `genPoly` is
    defined by iterated multiplication with the linear factors; equality is checked by kernel evaluation. -/
theorem C04_rs_generator (level : Nat) (h : level ≤ 8) :
    factorsOf level ++ [1] = genPoly (2 ^ (level + 1)) :=
  factors_eq_genPoly level h

/-- multiplication by a linear factor, justifying the name `genPoly`: evaluation of `mulLin p r` is evaluation
    of `p` times `(y − r)`, in every commutative ring of characteristic 929 -/
theorem C04_rs_mulLin {R : Type} [CommRing R] [CharP R 929] (p : List Nat) (r : Nat) (y : R) :
    evalLowZ (mulLin p r) y = evalLowZ p y * (y - (r : R)) :=
  evalLowZ_mulLin p r y

/-- (1b, general lemma) The LFSR `Compute` is polynomial division: for every level 0..8 and EVERY data list
    there are quotient digits `q` and a final register `T` of 2^(level+1) words < 929 such that
    data(y)·y^n = q(y)·g(y) + T(y) in every commutative ring `R` of characteristic 929 (g = y^n + Σ factors_i y^i,
    lists are read highest degree first), and `Compute` returns the word-wise negation of `T`.  With
    `R = (ZMod 929)[X]`, `y = X` this is an identity of polynomials. -/
theorem C04_rs_lfsr_division {R : Type} [CommRing R] [CharP R 929] (level : Nat) (h : level ≤ 8)
    (data : List Nat) (y : R) :
    ∃ q T : List Nat, T.length = 2 ^ (level + 1) ∧ (∀ x ∈ T, x < 929) ∧
      compute level data = .ok (T.map (fun word => if word > 0 then 929 - word else word)) ∧
      evalZ data y * y ^ (2 ^ (level + 1)) = evalZ q y * gEval (factorsOf level) y + evalZ T y := by
  obtain ⟨q, T, h1, h2, h3, h4, _⟩ := compute_division (R := R) level h data y
  exact ⟨q, T, h1, h2, by rw [compute_eq level h, h3], h4⟩

/-- (1b in Mathlib's terms) the register is the remainder of data(X)·X^n modulo the monic polynomial g_level,
    `Polynomial.modByMonic` over `ZMod 929`; the check words are its negated coefficients. -/
theorem C04_rs_remainder (level : Nat) (h : level ≤ 8) (data : List Nat) :
    ∃ T : List Nat, T.length = 2 ^ (level + 1) ∧ (∀ x ∈ T, x < 929) ∧
      compute level data = .ok (T.map (fun word => if word > 0 then 929 - word else word)) ∧
      toPoly T = Polynomial.modByMonic (toPoly data * Polynomial.X ^ (2 ^ (level + 1))) (gPoly level) := by
  obtain ⟨q, T, hT, hlt, hck, hdiv, _⟩ := compute_division (R := Polynomial F) level h data Polynomial.X
  refine ⟨T, hT, hlt, by rw [compute_eq level h, hck], ?_⟩
  have := Polynomial.div_modByMonic_unique (f := toPoly data * Polynomial.X ^ (2 ^ (level + 1))) (toPoly q) (toPoly T)
    (gPoly_monic level)
    ⟨by unfold toPoly gPoly; rw [hdiv]; ring, by rw [gPoly_degree level h, ← hT]; exact degree_toPoly_lt T⟩
  exact this.2.symm

/-- (C04 / C12) For every level 0..8 and every list of codewords < 929, `Compute` returns exactly 2^(level+1)
    check words < 929, and data followed by the check words is a Reed–Solomon codeword as ISO/IEC 15438
    defines it: it evaluates to zero at 3^1, …, 3^(2^(level+1)) modulo 929 (`Spec.RS.valid929`). -/
theorem C04_rs_valid (level : Nat) (h : level ≤ 8) (data : List Nat) (hd : ∀ d ∈ data, d < 929) :
    ∃ ec, compute level data = .ok ec ∧ ec.length = 2 ^ (level + 1) ∧ (∀ c ∈ ec, c < 929) ∧
      Spec.RS.valid929 (2 ^ (level + 1)) (data ++ ec) = true :=
  ⟨_, compute_eq level h data, checkWords_length level h data, checkWords_lt level data,
    checkWords_valid level h data hd⟩

set_option maxRecDepth 100000 in
example : Spec.RS.valid929 4 ([5, 453, 178, 121] ++ checkWords 1 [5, 453, 178, 121]) = true := by decide +kernel
set_option maxRecDepth 100000 in
example : compute 1 [5, 453, 178, 121] = .ok [204, 7, 105, 286] := by
  rw [compute_eq 1 (by decide)]; decide +kernel

/-- (C12) `encodeData` for levels 0..8 never fails and returns: the length descriptor (= number of data
    codewords + pads + 1), the data, the pad codewords 900, then exactly 2^(level+1) check words. -/
theorem C12_encodeData (cws : List Nat) (cols lvl : Nat) (h : lvl ≤ 8) :
    encodeData cws cols lvl = .ok (dataRegion cws cols lvl ++ checkWords lvl (dataRegion cws cols lvl)) ∧
    (checkWords lvl (dataRegion cws cols lvl)).length = 2 ^ (lvl + 1) ∧
    dataRegion cws cols lvl =
      (cws.length + (getPadding cws.length (2 ^ (lvl + 1)) cols).length + 1) ::
        (cws ++ getPadding cws.length (2 ^ (lvl + 1)) cols) :=
  ⟨encodeData_eq cws cols lvl h, checkWords_length lvl h _, rfl⟩

/-! ## 2. Dimensions (C13) -/

/-- `calculateNumberOfRows m k c` is ⌈(m+1+k)/c⌉ -/
theorem C13_rows_ceil (m k c : Nat) (hc : 0 < c) :
    calculateNumberOfRows m k c = (m + 1 + k + c - 1) / c ∧
    m + 1 + k ≤ c * calculateNumberOfRows m k c ∧ c * (calculateNumberOfRows m k c - 1) < m + 1 + k :=
  ⟨rows_eq_ceil m k c hc, (rows_bounds m k c hc).1, (rows_bounds m k c hc).2⟩

/-- (C13) For every number `m` of data codewords and every level 0..8: if the dimensions chosen by
    `calcDimensions` pass the limit test of `EncodeWithColor` (2 ≤ cols ≤ 30, 2 ≤ rows ≤ 30), then the row count
    is the ceiling for the column count, rows·cols = 1 (length descriptor) + m + pad + 2^(level+1) where `pad`
    is the number of pad codewords `getPadding` produces, pad < cols (less than one row of padding), and every
    pad codeword is 900. -/
theorem C13_dimensions (m lvl cols rows : Nat) (hl : lvl ≤ 8)
    (h : calcDimensions m (errorCorrectionWordCount lvl) = (cols, rows))
    (hlim : ¬ (cols < c_minCols ∨ cols > c_maxCols ∨ rows < c_minRows ∨ rows > c_maxRows)) :
    rows = calculateNumberOfRows m (2 ^ (lvl + 1)) cols ∧
    rows * cols = 1 + m + (getPadding m (2 ^ (lvl + 1)) cols).length + 2 ^ (lvl + 1) ∧
    (getPadding m (2 ^ (lvl + 1)) cols).length < cols ∧
    (∀ x ∈ getPadding m (2 ^ (lvl + 1)) cols, x = c_padding_codeword) := by
  rw [eccCount_eq] at h
  simp only [c_minCols, c_maxCols, c_minRows, c_maxRows] at hlim
  have hrows := calcDimensions_rows m _ cols rows (Nat.one_lt_two_pow (Nat.succ_ne_zero lvl)) h (by omega)
  obtain ⟨h1, h2, h3⟩ := padding_spec m (2 ^ (lvl + 1)) cols (by omega)
  rw [← hrows] at h2
  exact ⟨hrows, h2, h1, h3⟩

/-- (C13, converse) For every `m` and level 0..8 the limit test passes iff length descriptor, data and check
    words fit into 900 codewords; otherwise `calcDimensions` finds no column count (and returns (0, 0)). -/
theorem C13_accept_iff (m lvl : Nat) :
    (2 ≤ (calcDimensions m (errorCorrectionWordCount lvl)).1 ∧ (calcDimensions m (errorCorrectionWordCount lvl)).1 ≤ 30 ∧
      2 ≤ (calcDimensions m (errorCorrectionWordCount lvl)).2 ∧ (calcDimensions m (errorCorrectionWordCount lvl)).2 ≤ 30)
      ↔ m + 1 + 2 ^ (lvl + 1) ≤ 900 := by
  rw [eccCount_eq]
  exact calcDimensions_accept_iff m (2 ^ (lvl + 1)) (Nat.one_lt_two_pow (Nat.succ_ne_zero lvl))

example : calcDimensions 100 (errorCorrectionWordCount 5) = (7, 24) ∧ (getPadding 100 64 7).length = 3 ∧
    24 * 7 = 1 + 100 + 3 + 64 := by decide
example : calcDimensions 835 64 = (30, 30) ∧ calcDimensions 836 64 = (0, 0) := by decide

/-! ## 3. Row indicators, start/stop, symbol-character tables (C04) -/

/-- `getLeftCodeWord` is the ISO/IEC 15438 left row indicator used by the Spec, for all arguments: cluster 0
    carries 30·(r div 3) + (rows−1) div 3, cluster 3 carries 3·level + (rows−1) mod 3, cluster 6 carries cols−1 -/
theorem C04_left_indicator (r rows cols level : Nat) :
    getLeftCodeWord r rows cols level = leftIndicator r rows cols level :=
  left_eq r rows cols level

/-- `getRightCodeWord` is the ISO/IEC 15438 right row indicator used by the Spec, for all arguments -/
theorem C04_right_indicator (r rows cols level : Nat) :
    getRightCodeWord r rows cols level = rightIndicator r rows cols level :=
  right_eq r rows cols level

/-- within the encoder's limits the indicators are codeword values (< 929), and rows 0 and 1 declare the true
    row count, column count and security level in the way `Spec.decode` reads them -/
theorem C04_indicators_declare (r rows cols level : Nat) (hr : r < rows) (hrows : rows ≤ 30)
    (hcols : 1 ≤ cols ∧ cols ≤ 30) (hl : level ≤ 8) :
    getLeftCodeWord r rows cols level < 929 ∧ getRightCodeWord r rows cols level < 929 ∧
    3 * (getLeftCodeWord 0 rows cols level % 30) + getLeftCodeWord 1 rows cols level % 30 % 3 + 1 = rows ∧
    getRightCodeWord 0 rows cols level % 30 + 1 = cols ∧
    getLeftCodeWord 1 rows cols level % 30 / 3 = level := by
  obtain ⟨h1, h2⟩ := indicators_lt r rows cols level hr hrows hcols.2 hl
  exact ⟨h1, h2, indicators_declare rows cols level (by omega) hcols hl⟩

example : getLeftCodeWord 4 12 5 3 = 41 ∧ getRightCodeWord 4 12 5 3 = 33 ∧ getLeftCodeWord 5 12 5 3 = 34 := by
  decide

/-- the start word is the 17-module pattern 81111113 and the stop word the 18-module pattern 711311121 -/
theorem C04_start_stop :
    msbBits c_start_word 17 = expand [8, 1, 1, 1, 1, 1, 1, 3] ∧
    msbBits c_stop_word 18 = expand [7, 1, 1, 3, 1, 1, 1, 2, 1] :=
  ⟨start_word, stop_word⟩

/-- (certificate) the three generated codeword tables equal the frozen ISO snapshot of `Spec.Pdf417Patterns`,
    entry by entry (snapshot entries are bar/space widths, table entries 17-module values) -/
theorem C04_tables_snapshot :
    v_codewords.map (fun t => t.map Int.toNat) =
      [cluster0.map entryModules, cluster3.map entryModules, cluster6.map entryModules] := by
  show [v_codewords.getD 0 [], v_codewords.getD 1 [], v_codewords.getD 2 []].map _ = _
  simp only [List.map_cons, List.map_nil, table_eq_snapshot 0 (by decide), table_eq_snapshot 1 (by decide),
    table_eq_snapshot 2 (by decide)]
  rfl

/-- (certificates) every table has 929 entries; every entry has 4 bars and 4 spaces of 1..6 modules, 17 modules
    in total, starts with a bar, has the cluster number of its table (0, 3, 6) and its 17-module value reads
    back (run lengths) to its widths (`entryOk`); no pattern occurs twice within a cluster. -/
theorem C04_tables_wellformed :
    (cluster0.length = 929 ∧ cluster0.all (entryOk 0) = true ∧ cluster0.Nodup) ∧
    (cluster3.length = 929 ∧ cluster3.all (entryOk 3) = true ∧ cluster3.Nodup) ∧
    (cluster6.length = 929 ∧ cluster6.all (entryOk 6) = true ∧ cluster6.Nodup) :=
  ⟨clusterList_spec 0 (by decide), clusterList_spec 1 (by decide), clusterList_spec 2 (by decide)⟩

/-- no table lookup of `getCodeword` is out of range for a cluster index < 3 and a codeword < 929, and the
    Spec's symbol-character reader maps the 17 modules drawn for codeword `w` in a row of cluster index `ci`
    back to `w` (checking 17 modules, bar first, 4+4 elements of width 1..6, cluster rule, table membership) -/
theorem C04_symbol_readback (ci w : Nat) (hci : ci < 3) (hw : w < 929) :
    ∃ v, getCodeword ci w = .ok v ∧ v < 2 ^ 17 ∧ symbolValue ci (msbBits v 17) = .ok w :=
  symbolValue_getCodeword ci w hci hw

/-! ## 4. Compaction round trips (C04) -/

/-- (4a) Byte compaction, one byte in Text mode: shift 913 and the byte -/
theorem C04_byte_shift (b : UInt8) : encodeBinary [b] c_encText = [913, b.toNat] :=
  BV.Proofs.PdfByte.encodeBinary_shift b

/-- (4a) Byte compaction otherwise: latch 924 iff the byte count is a multiple of six, else 901, followed by
    codewords < 900 (five base-900 digits per six bytes, then one codeword per remaining byte) which the Spec
    byte decoder maps back to exactly the bytes -/
theorem C04_byte_latch (data : Bytes) (startmode : Nat) (h : ¬ (data.length = 1 ∧ startmode = c_encText)) :
    ∃ body, encodeBinary data startmode = (if data.length % 6 = 0 then 924 else 901) :: body ∧
      (∀ c ∈ body, c < 900) ∧ flushByte (data.length % 6 == 0) body = .ok data :=
  BV.Proofs.PdfByte.encodeBinary_latch data startmode h

/-- (4b) Numeric compaction: any run of ASCII digits is encoded without error into codewords < 900 (base-900
    digits of "1"+chunk for chunks of 44 digits) which the Spec numeric decoder maps back to the same digits -/
theorem C04_numeric (digits : List Nat) (h : ∀ d ∈ digits, 48 ≤ d ∧ d ≤ 57) :
    ∃ cws, encodeNumeric digits = .ok cws ∧ (∀ c ∈ cws, c < 900) ∧
      flushNumeric cws.length cws = .ok (digits.map UInt8.ofNat) :=
  BV.Proofs.PdfNumeric.encodeNumeric_roundtrip digits h

/-- (4c) Text compaction: for every run of text characters and every incoming sub-mode, the Spec Text decoder
    started in that sub-mode (no pending shift) and fed the codewords of `encodeText` appends exactly the text
    and ends in the sub-mode `encodeText` returns — including latches, shifts and the pad 29 (a pending `ps`
    in Alpha/Lower/Mixed, a latch to Alpha in Punctuation, where the encoder returns Upper). -/
theorem C04_text (text : List Nat) (submode : Nat) (hs : 3 ≤ submode ∧ submode ≤ 6)
    (ht : ∀ ch ∈ text, isText ch = true) (out : Array UInt8) :
    ∃ sh, (encodeText text submode).2.foldlM step (Mode.text (subOf submode) .none, out)
        = .ok (Mode.text (subOf (encodeText text submode).1) sh, out ++ (text.map UInt8.ofNat).toArray) :=
  encodeText_roundtrip text submode hs ht out

/-- (4c) the sub-mode loop never runs out of fuel: with fuel ≥ 4·len (the model supplies 4·len + 4) it equals
    the fuel-free character-by-character emitter -/
theorem C04_text_fuel (fuel : Nat) (text : List Nat) (sub : Nat) (tmp : Array Nat)
    (h : 4 * text.length ≤ fuel) :
    encodeTextLoop fuel text sub tmp = ((emitAll sub text).2, tmp ++ (emitAll sub text).1.toArray) :=
  loop_eq text fuel sub tmp h

/-- (4d) `highlevelEncode` never fails; all data codewords are < 929; the Spec compaction decoder (Text with
    its four sub-modes, Byte 901/924, Numeric 902, shift 913), started in Text/Alpha, maps them back to the
    data byte for byte — for EVERY byte string (including invalid UTF-8); and the last codeword is never 900,
    so that pad stripping cannot eat data. -/
theorem C04_highlevel (data : Bytes) :
    ∃ cws, highlevelEncode data = .ok cws ∧ (∀ c ∈ cws, c < 929) ∧
      Spec.Pdf417.decodeData cws = .ok data ∧ cws.getLast? ≠ some 900 :=
  highlevelEncode_spec data

example : highlevelEncode [104, 101, 108, 108, 111] = .ok [817, 131, 344] ∧
    decodeData [817, 131, 344] = .ok [104, 101, 108, 108, 111] := ⟨by rfl, by rfl⟩

/-! ## 5. Acceptance, no panic (C10) -/

/-- (C10) a security level ≥ 9 is rejected with an error -/
theorem C10_level_rejected (data : Bytes) (lvl : Nat) (s : Scheme) (h : 9 ≤ lvl) :
    encodeWithColor data lvl s = .error .rejected :=
  reject_level data lvl s h

/-- (C10) `EncodeWithColor` never panics: no table index (factor table, codeword tables) is out of range, for
    any data, any security level and any colour scheme -/
theorem C10_never_panics (data : Bytes) (lvl : Nat) (s : Scheme) :
    encodeWithColor data lvl s ≠ .error .panic := by
  by_cases h : lvl ≤ 8
  · obtain ⟨cws, _, _, _, _, hc⟩ := encodeWithColor_cases data lvl s h
    rcases hc with ⟨_, hc⟩ | ⟨_, cols, rows, _, _, _, _, _, _, hc⟩ <;> rw [hc] <;> simp
  · rw [reject_level data lvl s (by omega)]; simp

/-- the complete case analysis for levels 0..8: with `cws` the data codewords, the input is rejected iff
    length descriptor + data + check words exceed 900 codewords; otherwise the result is the symbol `symbolOf`
    with the dimensions `calcDimensions` chose (2..30 each, rows = ⌈(m+1+k)/cols⌉) -/
theorem C04_encode_cases (data : Bytes) (lvl : Nat) (s : Scheme) (h : lvl ≤ 8) :
    ∃ cws, highlevelEncode data = .ok cws ∧
      ((900 < cws.length + 1 + 2 ^ (lvl + 1) ∧ encodeWithColor data lvl s = .error .rejected) ∨
       (cws.length + 1 + 2 ^ (lvl + 1) ≤ 900 ∧
        ∃ cols rows, calcDimensions cws.length (2 ^ (lvl + 1)) = (cols, rows) ∧
          2 ≤ cols ∧ cols ≤ 30 ∧ 2 ≤ rows ∧ rows ≤ 30 ∧
          rows = calculateNumberOfRows cws.length (2 ^ (lvl + 1)) cols ∧
          encodeWithColor data lvl s = .ok (symbolOf data cws cols rows lvl s))) := by
  obtain ⟨cws, h1, _, _, _, h5⟩ := encodeWithColor_cases data lvl s h
  exact ⟨cws, h1, h5⟩

/-! ## 6. C04 end to end -/

/-- (C04) For every data string, security level and colour scheme for which `EncodeWithColor` returns a barcode
    `bc`: the level is ≤ 8; with `cws` the data codewords and (cols, rows) the chosen dimensions (each 2..30,
    rows·cols = 1 + |cws| + pad + 2^(level+1), pad < cols), the picture is 17·(cols+4)+1 wide and 2·rows high, and
    the ISO/IEC 15438 reference decoder `Spec.Pdf417.decode` accepts it — i.e. both pixel lines of every row
    agree, every row starts with 81111113 and ends with 711311121, every symbol character is a pattern of the
    cluster 3·(row mod 3), the left and right row indicators of every row are the ISO values for the true row
    number, row count, column count and security level, the length descriptor is rows·cols − 2^(level+1), the
    codeword sequence is a Reed–Solomon codeword over GF(929) with roots 3^1 … 3^(2^(level+1)), exactly the pad
    codewords are stripped, and compaction decoding yields byte for byte the data. -/
theorem C04_encode_decode (data : Bytes) (lvl : Nat) (s : Scheme) (bc : Barcode)
    (h : encodeWithColor data lvl s = .ok bc) :
    lvl ≤ 8 ∧ ∃ cws cols rows, highlevelEncode data = .ok cws ∧
      calcDimensions cws.length (2 ^ (lvl + 1)) = (cols, rows) ∧
      2 ≤ cols ∧ cols ≤ 30 ∧ 2 ≤ rows ∧ rows ≤ 30 ∧
      rows * cols = 1 + cws.length + (getPadding cws.length (2 ^ (lvl + 1)) cols).length + 2 ^ (lvl + 1) ∧
      (getPadding cws.length (2 ^ (lvl + 1)) cols).length < cols ∧
      bc.content = data ∧ bc.w = 17 * (cols + 4) + 1 ∧ bc.h = 2 * rows ∧
      decode bc.w bc.h bc.dark =
        .ok { rows := rows, cols := cols, level := lvl,
              dataCodewords := cws.length + (getPadding cws.length (2 ^ (lvl + 1)) cols).length + 1,
              padCount := (getPadding cws.length (2 ^ (lvl + 1)) cols).length,
              ecCount := 2 ^ (lvl + 1), content := data } := by
  obtain ⟨hl, cws, hcws, hlt, hdec, hlast, hsmall, cols, rows, hdim, hc1, hc2, hr1, hr2, hrows, rfl⟩ :=
    encodeWithColor_ok data lvl s bc h
  obtain ⟨hp1, hp2, _⟩ := padding_spec cws.length (2 ^ (lvl + 1)) cols (by omega)
  rw [← hrows] at hp2
  have hlen := symbolCodewords_length cws cols lvl hl (by omega)
  rw [← hrows] at hlen
  obtain ⟨hw, hh, _⟩ := BV.Proofs.PdfRender.symbol_lines data cws cols rows lvl s (by omega) hlen
  exact ⟨hl, cws, cols, rows, hcws, hdim, hc1, hc2, hr1, hr2, hp2, hp1, rfl, hw, hh,
    decode_symbolOf data cws cols rows lvl s ⟨hc1, hc2⟩ ⟨hr1, hr2⟩ hl hrows hsmall hlt hdec hlast⟩

/-- the hypothesis of `C04_encode_decode` is satisfiable: "hello" at level 2 is accepted (3 data codewords,
    3 columns × 4 rows) -/
example : ∃ bc, encodeWithColor [104, 101, 108, 108, 111] 2 scheme16 = .ok bc := by
  obtain ⟨cws, h1, h2⟩ := C04_encode_cases [104, 101, 108, 108, 111] 2 scheme16 (by decide)
  have e : highlevelEncode [104, 101, 108, 108, 111] = .ok [817, 131, 344] := by rfl
  rw [e] at h1
  injection h1 with h1
  subst h1
  rcases h2 with ⟨hbig, _⟩ | ⟨_, cols, rows, _, _, _, _, _, _, hok⟩
  · simp at hbig
  · exact ⟨_, hok⟩

example : calcDimensions 3 8 = (3, 4) ∧
    symbolCodewords [817, 131, 344] 3 2 = [4, 817, 131, 344, 501, 447, 130, 810, 191, 712, 824, 227] := by
  decide

end BV.Props.PdfA
