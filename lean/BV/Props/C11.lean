/-
  C11 — bounds, colours, metadata.

  "Every encoded barcode has bounds starting at (0,0) with the size its symbology prescribes (1-D: module count
  × 1; QR 17+4v square; DataMatrix, Aztec and PDF417 their standard sizes), and every pixel inside is exactly the
  foreground or the background colour of the colour scheme in force: black on white for the plain Encode
  functions, the caller's scheme for the WithColor variants, which ColorModel and ColorScheme then report.  The
  module pattern does not depend on the colour scheme.  Metadata names the right symbology and dimensionality,
  and Content returns the text that was encoded."

  Bounds start at (0,0) by construction: a `Barcode` only has a width `w` and a height `h`
  (`image.Rect(0, 0, w, h)`).  The statements are put together here from the lemmas of BV/Proofs/Render.lean
  (vocabulary, 1-D families), RenderPdf.lean, RenderDm.lean, RenderAztec.lean, RenderQr.lean.

  Statements proved elsewhere and only cited here:
  * widths of the 1-D symbols (`bc.w` = number of modules of the drawn row): `BV.Props.C06.C06_roundtrip`
    (EAN: 67 / 95), `BV.Props.C05.C05_roundtrip` / `C05_roundtrip_noChecksum` (Code 128: the row is the list of
    symbol patterns), `BV.Props.C07.C07_code39_roundtrip` / `C07_code93_roundtrip`, `BV.Props.C08.C08_codabar_roundtrip`
    / `C08_tof_roundtrip` (`bc.row0` = the reference drawing, and `row0` has `bc.w` entries by definition);
  * content of EAN (`bc.content = completed code`, the input completed by its check digit):
    `BV.Props.C06.C06_roundtrip`;
  * content of Code 39 / Code 93 in full-ASCII mode (`info.basic = runeList bc.content`: the basic-alphabet
    spelling of the text): `BV.Props.C07.C07_code39_roundtrip`, `BV.Props.C07.C07_code93_roundtrip`.

  "certificate" = a finite fact about generated constants checked by kernel evaluation (`decide`).
-/
import BV.Proofs.RenderPdf
import BV.Proofs.RenderDm
import BV.Proofs.RenderAztec
import BV.Proofs.RenderQr
import BV.Props.QrA
namespace BV.Props.C11
open BV BV.Model BV.Proofs.Render

/-! ## vocabulary -/

/-- `SameButScheme r r0 s`: the two encoder results are both the same error, or both barcodes that agree in
    kind, dimensionality, width, height, content, checksum and every module, and the first carries scheme `s`. -/
theorem SameButScheme_def (r r0 : Res Barcode) (s : Scheme) :
    SameButScheme r r0 s ↔
      match r, r0 with
      | .ok b, .ok b0 => b.scheme = s ∧ b.kind = b0.kind ∧ b.dims = b0.dims ∧ b.w = b0.w ∧ b.h = b0.h ∧
                         b.content = b0.content ∧ b.checksum = b0.checksum ∧ ∀ x y, b.dark x y = b0.dark x y
      | .error e, .error e0 => e = e0
      | _, _ => False := Iff.rfl

/-! ## two colours, and what ColorModel / ColorScheme report -/

/-- C11, colours.  Every pixel of every barcode value is the foreground or the background colour of its scheme
    (foreground exactly on the dark modules); `ColorModel()` reports the model of that scheme and
    `ColorScheme()` the scheme itself. -/
theorem C11_two_colours (b : Barcode) :
    (∀ x y, b.colourAt x y = b.scheme.fg ∨ b.colourAt x y = b.scheme.bg) ∧
    (∀ x y, b.colourAt x y = (if b.dark x y then b.scheme.fg else b.scheme.bg)) ∧
    b.view.colourAt = b.colourAt ∧ b.view.model = b.scheme.model ∧ b.view.scheme = some b.scheme := by
  refine ⟨fun x y => ?_, fun _ _ => rfl, rfl, rfl, rfl⟩
  unfold Barcode.colourAt
  cases b.dark x y
  · right; rfl
  · left; rfl

/-- C11, plain `Encode`.  Every plain encoder is its `WithColor` variant called with `ColorScheme16`
    (16-bit gray, black `0000` on white `ffff`); with the `…_scheme_independent` / `…_metadata` theorems below:
    a barcode returned by a plain encoder has scheme `scheme16`. -/
theorem C11_plain_is_scheme16 :
    (∀ a, Ean.encode a = Ean.encodeWithColor a scheme16) ∧
    (∀ a cs full, Code39.encode a cs full = Code39.encodeWithColor a cs full scheme16) ∧
    (∀ a cs full, Code93.encode a cs full = Code93.encodeWithColor a cs full scheme16) ∧
    (∀ a, Code128.encode a = Code128.encodeWithColor a scheme16) ∧
    (∀ a, Code128.encodeWithoutChecksum a = Code128.encodeWithoutChecksumWithColor a scheme16) ∧
    (∀ a, Codabar.encode a = Codabar.encodeWithColor a scheme16) ∧
    (∀ a il, Twooffive.encode a il = Twooffive.encodeWithColor a il scheme16) ∧
    (∀ a l m, Qr.encode a l m = Qr.encodeWithColor a l m scheme16) ∧
    (∀ a, Datamatrix.encode a = Datamatrix.encodeWithColor a scheme16) ∧
    (∀ a e u, Aztec.encode a e u = Aztec.encodeWithColor a e u scheme16) ∧
    (∀ a l, Pdf417.encode a l = Pdf417.encodeWithColor a l scheme16) ∧
    scheme16 = { model := "Gray16Model", bg := "Gray16:ffff", fg := "Gray16:0000" } :=
  ⟨fun _ => rfl, fun _ _ _ => rfl, fun _ _ _ => rfl, fun _ => rfl, fun _ => rfl, fun _ => rfl, fun _ _ => rfl,
   fun _ _ _ => rfl, fun _ => rfl, fun _ _ _ => rfl, fun _ _ => rfl, rfl⟩

/-! ## the module pattern, bounds, metadata, content and acceptance do not depend on the colour scheme -/

/-- C11, EAN: `EncodeWithColor` with any scheme fails exactly like `Encode`, or returns the same symbol with
    the caller's scheme. -/
theorem C11_ean_scheme_independent (code : Bytes) (s : Scheme) :
    SameButScheme (Ean.encodeWithColor code s) (Ean.encode code) s :=
  (ean_uniform code).sameButScheme s

/-- C11, Code 39: the same for every checksum / full-ASCII flag. -/
theorem C11_code39_scheme_independent (content : Bytes) (cs full : Bool) (s : Scheme) :
    SameButScheme (Code39.encodeWithColor content cs full s) (Code39.encode content cs full) s :=
  (code39_uniform content cs full).sameButScheme s

/-- C11, Code 93: the same for every checksum / full-ASCII flag. -/
theorem C11_code93_scheme_independent (content : Bytes) (cs full : Bool) (s : Scheme) :
    SameButScheme (Code93.encodeWithColor content cs full s) (Code93.encode content cs full) s :=
  (code93_uniform content cs full).sameButScheme s

/-- C11, Code 128. -/
theorem C11_code128_scheme_independent (content : Bytes) (s : Scheme) :
    SameButScheme (Code128.encodeWithColor content s) (Code128.encode content) s :=
  (code128_uniform content).sameButScheme s

/-- C11, Code 128 without the check symbol. -/
theorem C11_code128_noChecksum_scheme_independent (content : Bytes) (s : Scheme) :
    SameButScheme (Code128.encodeWithoutChecksumWithColor content s) (Code128.encodeWithoutChecksum content) s :=
  (code128nc_uniform content).sameButScheme s

/-- C11, Codabar. -/
theorem C11_codabar_scheme_independent (content : Bytes) (s : Scheme) :
    SameButScheme (Codabar.encodeWithColor content s) (Codabar.encode content) s :=
  (codabar_uniform content).sameButScheme s

/-- C11, 2 of 5 (standard and interleaved). -/
theorem C11_twooffive_scheme_independent (content : Bytes) (interleaved : Bool) (s : Scheme) :
    SameButScheme (Twooffive.encodeWithColor content interleaved s) (Twooffive.encode content interleaved) s :=
  (twooffive_uniform content interleaved).sameButScheme s

/-- C11, QR Code, for every level and encoding mode: the scheme is only stored in the `color` field of the
    nine bitmaps of `render`; drawing, the walk over the free modules, the penalties and the mask choice do not
    read it. -/
theorem C11_qr_scheme_independent (content : Bytes) (level mode : Nat) (s : Scheme) :
    SameButScheme (Qr.encodeWithColor content level mode s) (Qr.encode content level mode) s :=
  sameButScheme_of_map _ _ _ (BV.Proofs.RenderQr.qr_map content level mode s)

/-- C11, DataMatrix: the scheme is only stored in the `color` field of the code layout and of the symbol;
    `SetValues` and `Merge` (including their panic paths) do not read it. -/
theorem C11_datamatrix_scheme_independent (content : Bytes) (s : Scheme) :
    SameButScheme (Datamatrix.encodeWithColor content s) (Datamatrix.encode content) s :=
  sameButScheme_of_map _ _ _ (BV.Proofs.RenderDm.dm_map content s)

/-- C11, Aztec, for every error correction percentage and layer request. -/
theorem C11_aztec_scheme_independent (data : Bytes) (minECCPercent userSpecifiedLayers : Int) (s : Scheme) :
    SameButScheme (Aztec.encodeWithColor data minECCPercent userSpecifiedLayers s)
      (Aztec.encode data minECCPercent userSpecifiedLayers) s :=
  sameButScheme_of_map _ _ _ (BV.Proofs.RenderAztec.aztec_map data minECCPercent userSpecifiedLayers s)

/-- C11, PDF417, for every security level. -/
theorem C11_pdf417_scheme_independent (data : Bytes) (securityLevel : Nat) (s : Scheme) :
    SameButScheme (Pdf417.encodeWithColor data securityLevel s) (Pdf417.encode data securityLevel) s :=
  sameButScheme_of_map _ _ _ (BV.Proofs.RenderPdf.pdf_map data securityLevel s)

/-! ## metadata (kind, dimensionality, height of the 1-D symbols, scheme in force)

The kind strings are the generated constants `BV.Gen.Root.c_Type…` read through `kindStr`; that they are the
expected strings is a certificate (`BV.Proofs.Render.kind_…`, by `decide`). -/

/-- C11, EAN metadata: an 8-digit content is an "EAN 8", a 13-digit content an "EAN 13" (no other length is
    returned); one-dimensional, height 1, the caller's scheme. -/
theorem C11_ean_metadata (code : Bytes) (s : Scheme) (b : Barcode) (h : Ean.encodeWithColor code s = .ok b) :
    ((b.content.length = 8 ∧ b.kind = "EAN 8") ∨ (b.content.length = 13 ∧ b.kind = "EAN 13")) ∧
    b.dims = 1 ∧ b.h = 1 ∧ b.scheme = s := by
  obtain ⟨k, hk, h1⟩ := (ean_uniform code).ok h
  rcases hk with ⟨hl, rfl⟩ | ⟨hl, rfl⟩
  · exact ⟨Or.inl ⟨hl, h1.kind⟩, h1.dims, h1.h, h1.scheme⟩
  · exact ⟨Or.inr ⟨hl, h1.kind⟩, h1.dims, h1.h, h1.scheme⟩

/-- C11, Code 39 metadata. -/
theorem C11_code39_metadata (content : Bytes) (cs full : Bool) (s : Scheme) (b : Barcode)
    (h : Code39.encodeWithColor content cs full s = .ok b) :
    b.kind = "Code 39" ∧ b.dims = 1 ∧ b.h = 1 ∧ b.scheme = s := by
  obtain ⟨_, ⟨rfl, _⟩, h1⟩ := (code39_uniform content cs full).ok h
  exact h1.and

/-- C11, Code 93 metadata. -/
theorem C11_code93_metadata (content : Bytes) (cs full : Bool) (s : Scheme) (b : Barcode)
    (h : Code93.encodeWithColor content cs full s = .ok b) :
    b.kind = "Code 93" ∧ b.dims = 1 ∧ b.h = 1 ∧ b.scheme = s := by
  obtain ⟨_, ⟨rfl, _⟩, h1⟩ := (code93_uniform content cs full).ok h
  exact h1.and

/-- C11, Code 128 metadata (with and without the check symbol). -/
theorem C11_code128_metadata (content : Bytes) (s : Scheme) (b : Barcode)
    (h : Code128.encodeWithColor content s = .ok b ∨ Code128.encodeWithoutChecksumWithColor content s = .ok b) :
    b.kind = "Code 128" ∧ b.dims = 1 ∧ b.h = 1 ∧ b.scheme = s := by
  rcases h with h | h
  · obtain ⟨_, ⟨rfl, _⟩, h1⟩ := (code128_uniform content).ok h
    exact h1.and
  · obtain ⟨_, ⟨rfl, _⟩, h1⟩ := (code128nc_uniform content).ok h
    exact h1.and

/-- C11, Codabar metadata. -/
theorem C11_codabar_metadata (content : Bytes) (s : Scheme) (b : Barcode)
    (h : Codabar.encodeWithColor content s = .ok b) :
    b.kind = "Codabar" ∧ b.dims = 1 ∧ b.h = 1 ∧ b.scheme = s := by
  obtain ⟨_, ⟨rfl, _⟩, h1⟩ := (codabar_uniform content).ok h
  exact h1.and

/-- C11, 2 of 5 metadata: the kind names the variant. -/
theorem C11_twooffive_metadata (content : Bytes) (interleaved : Bool) (s : Scheme) (b : Barcode)
    (h : Twooffive.encodeWithColor content interleaved s = .ok b) :
    b.kind = (if interleaved then "2 of 5 (interleaved)" else "2 of 5") ∧ b.dims = 1 ∧ b.h = 1 ∧ b.scheme = s := by
  obtain ⟨_, ⟨rfl, _⟩, h1⟩ := (twooffive_uniform content interleaved).ok h
  exact h1.and

/-- what `EncodeWithColor` of package `qr` returns: the barcode view of the symbol that `encodeQR` built, for which
    `BV.Props.QrA.encodeQR_size` gives side, content and colour -/
theorem qr_ok (content : Bytes) (level mode : Nat) (s : Scheme) (b : Barcode)
    (h : Qr.encodeWithColor content level mode s = .ok b) :
    b.kind = "QR Code" ∧ b.dims = 2 ∧ b.content = content ∧ b.checksum = none ∧ b.scheme = s ∧ b.w = b.h ∧
    ∃ qr vi mask, Qr.encodeQR content level mode s = .ok (qr, vi, mask) ∧ vi ∈ Qr.versionInfos ∧
      b.w = 17 + 4 * vi.version := by
  unfold Qr.encodeWithColor at h
  cases hq : Qr.encodeQR content level mode s with
  | error e => rw [hq] at h; cases h
  | ok r =>
    obtain ⟨qr, vi, mask⟩ := r
    rw [hq] at h
    cases h
    have hs := BV.Props.QrA.encodeQR_size content level mode s qr vi mask hq
    exact ⟨kind_qr, rfl, hs.2.2.2.2.2.1, rfl, hs.2.2.2.2.2.2, rfl, qr, vi, mask, rfl, hs.1, hs.2.2.1⟩

/-- C11, QR Code metadata. -/
theorem C11_qr_metadata (content : Bytes) (level mode : Nat) (s : Scheme) (b : Barcode)
    (h : Qr.encodeWithColor content level mode s = .ok b) :
    b.kind = "QR Code" ∧ b.dims = 2 ∧ b.checksum = none ∧ b.scheme = s :=
  have h1 := qr_ok content level mode s b h
  ⟨h1.1, h1.2.1, h1.2.2.2.1, h1.2.2.2.2.1⟩

/-- C11, DataMatrix metadata. -/
theorem C11_datamatrix_metadata (content : Bytes) (s : Scheme) (b : Barcode)
    (h : Datamatrix.encodeWithColor content s = .ok b) :
    b.kind = "DataMatrix" ∧ b.dims = 2 ∧ b.checksum = none ∧ b.scheme = s :=
  have h1 := BV.Proofs.RenderDm.dm_ok content s b h
  ⟨h1.1, h1.2.1, h1.2.2.2.1, h1.2.2.2.2.1⟩

/-- C11, Aztec metadata. -/
theorem C11_aztec_metadata (data : Bytes) (e u : Int) (s : Scheme) (b : Barcode)
    (h : Aztec.encodeWithColor data e u s = .ok b) :
    b.kind = "Aztec" ∧ b.dims = 2 ∧ b.checksum = none ∧ b.scheme = s :=
  have h1 := BV.Proofs.RenderAztec.aztec_ok data e u s b h
  ⟨h1.1, h1.2.1, h1.2.2.2.1, h1.2.2.2.2.1⟩

/-- C11, PDF417 metadata. -/
theorem C11_pdf417_metadata (data : Bytes) (lvl : Nat) (s : Scheme) (b : Barcode)
    (h : Pdf417.encodeWithColor data lvl s = .ok b) :
    b.kind = "PDF417" ∧ b.dims = 2 ∧ b.checksum = none ∧ b.scheme = s :=
  have h1 := BV.Proofs.RenderPdf.pdf_ok data lvl s b h
  ⟨h1.1, h1.2.1, h1.2.2.2.1, h1.2.2.2.2.1⟩

/-- C11, plain `Encode`, spelled out: whatever a plain encoder returns carries `ColorScheme16`, so by
    `C11_two_colours` its pixels are `Gray16:0000` (dark modules) or `Gray16:ffff`, and `ColorModel()` is Gray16. -/
theorem C11_plain_scheme (b : Barcode) :
    (∀ a, Ean.encode a = .ok b → b.scheme = scheme16) ∧
    (∀ a cs full, Code39.encode a cs full = .ok b → b.scheme = scheme16) ∧
    (∀ a cs full, Code93.encode a cs full = .ok b → b.scheme = scheme16) ∧
    (∀ a, Code128.encode a = .ok b → b.scheme = scheme16) ∧
    (∀ a, Code128.encodeWithoutChecksum a = .ok b → b.scheme = scheme16) ∧
    (∀ a, Codabar.encode a = .ok b → b.scheme = scheme16) ∧
    (∀ a il, Twooffive.encode a il = .ok b → b.scheme = scheme16) ∧
    (∀ a l m, Qr.encode a l m = .ok b → b.scheme = scheme16) ∧
    (∀ a, Datamatrix.encode a = .ok b → b.scheme = scheme16) ∧
    (∀ a e u, Aztec.encode a e u = .ok b → b.scheme = scheme16) ∧
    (∀ a l, Pdf417.encode a l = .ok b → b.scheme = scheme16) :=
  ⟨fun a h => (C11_ean_metadata a scheme16 b h).2.2.2,
   fun a cs full h => (C11_code39_metadata a cs full scheme16 b h).2.2.2,
   fun a cs full h => (C11_code93_metadata a cs full scheme16 b h).2.2.2,
   fun a h => (C11_code128_metadata a scheme16 b (Or.inl h)).2.2.2,
   fun a h => (C11_code128_metadata a scheme16 b (Or.inr h)).2.2.2,
   fun a h => (C11_codabar_metadata a scheme16 b h).2.2.2,
   fun a il h => (C11_twooffive_metadata a il scheme16 b h).2.2.2,
   fun a l m h => (C11_qr_metadata a l m scheme16 b h).2.2.2,
   fun a h => (C11_datamatrix_metadata a scheme16 b h).2.2.2,
   fun a e u h => (C11_aztec_metadata a e u scheme16 b h).2.2.2,
   fun a l h => (C11_pdf417_metadata a l scheme16 b h).2.2.2⟩

/-! ## content

EAN (`Content()` = the input completed by its check digit) and the full-ASCII modes of Code 39 / Code 93
(`Content()` = the basic-alphabet spelling) are `C06_roundtrip`, `C07_code39_roundtrip`, `C07_code93_roundtrip`. -/

/-- C11, content of Code 39 and Code 93 in basic mode: `Content()` is the text that was passed in. -/
theorem C11_code39_code93_content (content : Bytes) (cs : Bool) (s : Scheme) (b : Barcode) :
    (Code39.encodeWithColor content cs false s = .ok b → b.content = content) ∧
    (Code93.encodeWithColor content cs false s = .ok b → b.content = content) :=
  ⟨fun h => let ⟨_, hk, _⟩ := (code39_uniform content cs false).ok h; hk.2 rfl,
   fun h => let ⟨_, hk, _⟩ := (code93_uniform content cs false).ok h; hk.2 rfl⟩

/-- C11, content of Code 128 (both variants), Codabar and 2 of 5: `Content()` is the text that was passed in. -/
theorem C11_code128_codabar_twooffive_content (content : Bytes) (il : Bool) (s : Scheme) (b : Barcode) :
    (Code128.encodeWithColor content s = .ok b → b.content = content) ∧
    (Code128.encodeWithoutChecksumWithColor content s = .ok b → b.content = content) ∧
    (Codabar.encodeWithColor content s = .ok b → b.content = content) ∧
    (Twooffive.encodeWithColor content il s = .ok b → b.content = content) :=
  ⟨fun h => let ⟨_, hk, _⟩ := (code128_uniform content).ok h; hk.2,
   fun h => let ⟨_, hk, _⟩ := (code128nc_uniform content).ok h; hk.2,
   fun h => let ⟨_, hk, _⟩ := (codabar_uniform content).ok h; hk.2,
   fun h => let ⟨_, hk, _⟩ := (twooffive_uniform content il).ok h; hk.2⟩

/-- C11, content of the 2-D symbologies: `Content()` is the text that was passed in. -/
theorem C11_2d_content (content : Bytes) (s : Scheme) (b : Barcode) :
    (∀ level mode, Qr.encodeWithColor content level mode s = .ok b → b.content = content) ∧
    (Datamatrix.encodeWithColor content s = .ok b → b.content = content) ∧
    (∀ e u, Aztec.encodeWithColor content e u s = .ok b → b.content = content) ∧
    (∀ lvl, Pdf417.encodeWithColor content lvl s = .ok b → b.content = content) :=
  ⟨fun level mode h => (qr_ok content level mode s b h).2.2.1,
   fun h => (BV.Proofs.RenderDm.dm_ok content s b h).2.2.1,
   fun e u h => (BV.Proofs.RenderAztec.aztec_ok content e u s b h).2.2.1,
   fun lvl h => (BV.Proofs.RenderPdf.pdf_ok content lvl s b h).2.2.1⟩

/-! ## sizes of the 2-D symbols -/

/-- C11, QR size (lifted from `BV.Props.QrA.encodeQR_size`): the symbol is a square of side 17 + 4·v for a
    version 1 ≤ v ≤ 40 — the version of the table row that `encodeQR` chose. -/
theorem C11_qr_size (content : Bytes) (level mode : Nat) (s : Scheme) (b : Barcode)
    (h : Qr.encodeWithColor content level mode s = .ok b) :
    b.w = b.h ∧ ∃ v, 1 ≤ v ∧ v ≤ 40 ∧ b.w = 17 + 4 * v ∧
      ∃ qr vi mask, Qr.encodeQR content level mode s = .ok (qr, vi, mask) ∧ vi.version = v := by
  obtain ⟨_, _, _, _, _, hwh, qr, vi, mask, hq, hmem, hw⟩ := qr_ok content level mode s b h
  have hv := BV.Props.QrA.versionInfos_sorted_complete.2.2.1 vi hmem
  exact ⟨hwh, vi.version, hv.1, hv.2.1, hw, qr, vi, mask, hq, rfl⟩

/-- C11 (certificate).  The rows of the generated DataMatrix size table are exactly the 24 square ECC 200 sizes,
    in this order. -/
theorem C11_datamatrix_table :
    Datamatrix.codeSizes.map (fun s => (s.rows, s.columns)) =
      ([10, 12, 14, 16, 18, 20, 22, 24, 26, 32, 36, 40, 44, 48, 52, 64, 72, 80, 88, 96, 104, 120, 132, 144] : List Nat).map
        (fun (n : Nat) => ((n : Int), (n : Int))) :=
  BV.Proofs.RenderDm.codeSizes_sides

/-- C11, DataMatrix size: the symbol is a square whose side is one of the 24 standard sizes, namely that of
    the first table row with enough data codewords for the encoded text (`chooseSize`, the `for … break` loop
    of `EncodeWithColor`). -/
theorem C11_datamatrix_size (content : Bytes) (s : Scheme) (b : Barcode)
    (h : Datamatrix.encodeWithColor content s = .ok b) :
    b.w = b.h ∧
    b.w ∈ [10, 12, 14, 16, 18, 20, 22, 24, 26, 32, 36, 40, 44, 48, 52, 64, 72, 80, 88, 96, 104, 120, 132, 144] ∧
    ∃ sz, Datamatrix.codeSizes.find?
        (fun sz => sz.dataCodewords ≥ ((Datamatrix.encodeText content).length : Int)) = some sz ∧
      b.w = sz.columns.toNat ∧ b.h = sz.rows.toNat := by
  obtain ⟨_, _, _, _, _, sz, hc, hm, hw, hh⟩ := BV.Proofs.RenderDm.dm_ok content s b h
  obtain ⟨h1, h2⟩ := BV.Proofs.RenderDm.codeSizes_mem sz hm
  refine ⟨by rw [hw, hh, h1], ?_, sz, hc, hw, hh⟩
  rw [hw, h1]
  exact h2

/-- C11, Aztec size: for the layout that the layer selection of `EncodeWithColor` chose (`chooseLayout`:
    the explicit request, or the automatic search), the symbol is a square of side 11 + 4·L for a compact symbol
    with 1 ≤ L ≤ 4 layers, and of side 15 + 4·L + 2·⌊(2L+6)/15⌋ for a full-range symbol with 1 ≤ L ≤ 32 layers
    (14 + 4·L plus the centre line plus two reference grid lines per 15 modules of half width). -/
theorem C11_aztec_size (data : Bytes) (e u : Int) (s : Scheme) (b : Barcode)
    (h : Aztec.encodeWithColor data e u s = .ok b) :
    b.w = b.h ∧ ∃ lay, BV.Proofs.RenderAztec.chooseLayout data e u = .ok lay ∧ 1 ≤ lay.layers ∧
      (if lay.compact then lay.layers ≤ 4 ∧ b.w = 11 + 4 * lay.layers
       else lay.layers ≤ 32 ∧ b.w = 15 + 4 * lay.layers + 2 * ((2 * lay.layers + 6) / 15)) := by
  obtain ⟨_, _, _, _, _, lay, hl, hleg, hw, hh⟩ := BV.Proofs.RenderAztec.aztec_ok data e u s b h
  refine ⟨by rw [hw, hh], lay, hl, hleg.1, ?_⟩
  have h2 := hleg.2
  unfold BV.Proofs.RenderAztec.sideOf at hw
  cases hc : lay.compact
  · rw [hc] at h2 hw
    exact ⟨h2, hw⟩
  · rw [hc] at h2 hw
    exact ⟨h2, hw⟩

/-- the layer selection cited in `C11_aztec_size` is literally the first statements of `EncodeWithColor` -/
theorem C11_aztec_chooseLayout (data : Bytes) (e u : Int) :
    BV.Proofs.RenderAztec.chooseLayout data e u =
      (let bits := Aztec.highlevelEncode data
       let eccBits : Int := Int.tdiv ((bits.length : Int) * e) 100 + 11
       let totalSizeBits : Int := bits.length + eccBits
       if u != Int.ofNat Gen.Aztec.c_DEFAULT_LAYERS then Aztec.explicitLayers bits eccBits u
       else Aztec.autoLayers bits eccBits totalSizeBits (Gen.Aztec.c_max_nb_bits + 2) 0 0 []) := rfl

/-- C11, PDF417 size: with `(cols, rows)` the dimensions that `calcDimensions` chose for the data and error
    correction codewords, 2 ≤ cols ≤ 30 and 2 ≤ rows ≤ 30, the symbol is 17·(cols+4)+1 modules wide (start
    pattern, left indicator, `cols` data columns, right indicator of 17 modules each, the stop pattern of 18)
    and 2·rows pixels high (`moduleHeight = 2`): the code words fill exactly `rows` rows. -/
theorem C11_pdf417_size (data : Bytes) (lvl : Nat) (s : Scheme) (b : Barcode)
    (h : Pdf417.encodeWithColor data lvl s = .ok b) :
    ∃ dataWords, Pdf417.highlevelEncode data = .ok dataWords ∧
      ∃ cols rows, Pdf417.calcDimensions dataWords.length (Pdf417.errorCorrectionWordCount lvl) = (cols, rows) ∧
        2 ≤ cols ∧ cols ≤ 30 ∧ 2 ≤ rows ∧ rows ≤ 30 ∧ b.w = 17 * (cols + 4) + 1 ∧ b.h = rows * 2 :=
  (BV.Proofs.RenderPdf.pdf_ok data lvl s b h).2.2.2.2.2

/-! ## the hypotheses are satisfiable: concrete symbols with a scheme other than `ColorScheme16`

`check r kind dims w h s c00 c10` = "`r` is a barcode with this kind, dimensionality, width, height, scheme and
these colours at the pixels (0,0) and (1,0)"; `red` is red on yellow in the RGBA model. -/

example : red ≠ scheme16 := by decide

-- Codabar "A12B": with the caller's scheme and with the plain encoder (black on white), same 41 modules
example : check (Codabar.encodeWithColor [65, 49, 50, 66] red) "Codabar" 1 41 1 red "RGBA:ff0000ff" "RGBA:ffff00ff" = true := by
  decide +kernel
example : check (Codabar.encode [65, 49, 50, 66]) "Codabar" 1 41 1 scheme16 "Gray16:0000" "Gray16:ffff" = true := by
  decide +kernel
-- a rejected input is rejected whatever the scheme is
example : (isRejected (Codabar.encodeWithColor [33] red) && isRejected (Codabar.encode [33])) = true := by
  decide +kernel
-- EAN-8 from seven digits
example : check (Ean.encodeWithColor [49, 50, 51, 52, 53, 54, 55] red) "EAN 8" 1 67 1 red "RGBA:ff0000ff" "RGBA:ffff00ff" = true := by
  decide +kernel
-- PDF417 "A12B", security level 2: 3 columns, 4 rows
example : check (Pdf417.encodeWithColor [65, 49, 50, 66] 2 red) "PDF417" 2 120 8 red "RGBA:ff0000ff" "RGBA:ff0000ff" = true := by
  decide +kernel
-- Aztec "A12B", 33 % error correction, automatic layers: compact, one layer
example : check (Aztec.encodeWithColor [65, 49, 50, 66] 33 0 red) "Aztec" 2 15 15 red "RGBA:ffff00ff" "RGBA:ffff00ff" = true := by
  decide +kernel
-- DataMatrix "A12B": 10 × 10
example : check (Datamatrix.encodeWithColor [65, 49, 50, 66] red) "DataMatrix" 2 10 10 red "RGBA:ff0000ff" "RGBA:ffff00ff" = true := by
  decide +kernel
-- QR "AC-42", level H, alphanumeric (through the acceptance theorem of QrA; evaluating the eight masks and
-- their penalties in the kernel is too slow)
example : ∃ b, Qr.encodeWithColor [65, 67, 45, 52, 50] 3 2 red = .ok b ∧ b.kind = "QR Code" ∧ b.scheme = red ∧
    b.w = b.h ∧ ∃ v, 1 ≤ v ∧ v ≤ 40 ∧ b.w = 17 + 4 * v := by
  obtain ⟨_, enc, hg, h⟩ := BV.Props.QrA.encodeWithColor_no_panic [65, 67, 45, 52, 50] 3 2 red (by decide)
  have he : Qr.getEncoder 2 = some Qr.encodeAlphaNumeric := rfl
  rw [he] at hg
  cases hg
  have hs : (Qr.encodeAlphaNumeric [65, 67, 45, 52, 50] 3).isSome = true := by decide +kernel
  rcases h with ⟨h, _⟩ | ⟨_, b, h⟩
  · rw [h] at hs; cases hs
  · obtain ⟨h1, v, h2, h3, h4, _⟩ := C11_qr_size _ _ _ _ _ h
    exact ⟨b, h, (C11_qr_metadata _ _ _ _ _ h).1, (C11_qr_metadata _ _ _ _ _ h).2.2.2, h1, v, h2, h3, h4⟩

end BV.Props.C11
