/-
  GenDm — the straight-line Go functions of package `datamatrix`, machine-translated into `BV.Gen.Datamatrix.f_*` on every run
  (go/cmd/extract/funcs.go), agree with the hand-written model functions.
  A semantic edit of one of these Go functions changes the generated text and breaks the corresponding theorem here,
  whether or not the correspondence check samples an input that shows the difference.
-/
import BV.Gen.DatamatrixFns
import BV.Model.Datamatrix
namespace BV.Props.GenDm
open BV

@[simp] theorem idpure {α : Type} (x : α) : (pure x : Id α) = x := rfl

/-! ### datamatrix -/

open Model.Datamatrix in
/-- the seven `dmCodeSize` methods -/
theorem gen_dm_codeSize (s : CodeSize) (idx : Int) :
    Gen.Datamatrix.f_dmCodeSize_RegionRows s.rows s.columns s.regionCountHorizontal s.regionCountVertical
      s.eccCount s.blockCount = s.regionRows ∧
    Gen.Datamatrix.f_dmCodeSize_RegionColumns s.rows s.columns s.regionCountHorizontal s.regionCountVertical
      s.eccCount s.blockCount = s.regionColumns ∧
    Gen.Datamatrix.f_dmCodeSize_MatrixRows s.rows s.columns s.regionCountHorizontal s.regionCountVertical
      s.eccCount s.blockCount = s.matrixRows ∧
    Gen.Datamatrix.f_dmCodeSize_MatrixColumns s.rows s.columns s.regionCountHorizontal s.regionCountVertical
      s.eccCount s.blockCount = s.matrixColumns ∧
    Gen.Datamatrix.f_dmCodeSize_DataCodewords s.rows s.columns s.regionCountHorizontal s.regionCountVertical
      s.eccCount s.blockCount = s.dataCodewords ∧
    Gen.Datamatrix.f_dmCodeSize_DataCodewordsForBlock s.rows s.columns s.regionCountHorizontal
      s.regionCountVertical s.eccCount s.blockCount idx = s.dataCodewordsForBlock idx ∧
    Gen.Datamatrix.f_dmCodeSize_ErrorCorrectionCodewordsPerBlock s.rows s.columns s.regionCountHorizontal
      s.regionCountVertical s.eccCount s.blockCount = s.errorCorrectionCodewordsPerBlock := by
  refine ⟨rfl, rfl, rfl, rfl, rfl, ?_, rfl⟩
  unfold Gen.Datamatrix.f_dmCodeSize_DataCodewordsForBlock CodeSize.dataCodewordsForBlock
  simp only [Id.run, pure, Bool.and_eq_true, beq_iff_eq, decide_eq_true_eq]
  split
  · split <;> rfl
  · rfl

/-! ### the placement helpers as call scripts -/

open Model.Datamatrix in
/-- runs a generated call script: one `Set(row, col, value, bitNum)` per entry, in order, stopping at the first panic -/
def runScript (l : CodeLayout) (value : UInt8) : List (List Int) → Res CodeLayout
  | [] => .ok l
  | [[r, c, k]] => l.set r c value k.toNat
  | [r, c, k] :: rest => do
    let l ← l.set r c value k.toNat
    runScript l value rest
  | _ :: _ => .error .panic

open Model.Datamatrix in
/-- `SetSimple`, `Corner1` and `Corner2` of the model perform exactly the calls of `Set` that the Go functions contain,
    with the same arguments in the same order.  (The scripts of `Corner3` and `Corner4` are tied in `GenDmUnused`,
    which is not among the obligations of any property: the walk of `SetValues` reaches neither on the 24 square
    sizes of `codeSizes` — on what grounds, see there — and an edit of dead code must not raise an alarm.) -/
theorem gen_dm_scripts (l : CodeLayout) (row col : Int) (value : UInt8) :
    l.setSimple row col value = runScript l value (Gen.Datamatrix.s_codeLayout_SetSimple row col) ∧
    l.corner1 value = runScript l value (Gen.Datamatrix.s_codeLayout_Corner1 l.size.matrixColumns l.size.matrixRows) ∧
    l.corner2 value = runScript l value (Gen.Datamatrix.s_codeLayout_Corner2 l.size.matrixColumns l.size.matrixRows) :=
  ⟨rfl, rfl, rfl⟩

example : Gen.Datamatrix.f_dmCodeSize_DataCodewordsForBlock 144 144 6 6 620 10 9 = 155 := by decide

end BV.Props.GenDm
