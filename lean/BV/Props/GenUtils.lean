/-
  GenUtils — the straight-line Go functions of package `utils`, machine-translated into `BV.Gen.Utils.f_*` on every run
  (go/cmd/extract/funcs.go), agree with the hand-written model functions.
  A semantic edit of one of these Go functions changes the generated text and breaks the corresponding theorem here,
  whether or not the correspondence check samples an input that shows the difference.
-/
import BV.Gen.UtilsFns
import BV.Model.Util
namespace BV.Props.GenUtils
open BV

@[simp] theorem idpure {α : Type} (x : α) : (pure x : Id α) = x := rfl

/-! ### utils -/

/-- `utils.RuneToInt` -/
theorem gen_runeToInt (r : Nat) : Gen.Utils.f_RuneToInt (r : Int) = Model.runeToInt r := by
  unfold Gen.Utils.f_RuneToInt Model.runeToInt
  simp only [Id.run, pure]
  by_cases h : 48 ≤ r ∧ r ≤ 57
  · have h1 : (r : Int) ≥ 48 := by omega
    have h2 : (r : Int) ≤ 57 := by omega
    simp [h, h1, h2]
  · by_cases h1 : (r : Int) ≥ 48
    · have h2 : ¬ (r : Int) ≤ 57 := by omega
      simp [h, h1, h2]
    · simp [h, h1]

/-- `utils.IntToRune` -/
theorem gen_intToRune (i : Int) : Gen.Utils.f_IntToRune i = (Model.intToRune i : Int) := by
  unfold Gen.Utils.f_IntToRune Model.intToRune
  simp only [Id.run, pure]
  by_cases h : 0 ≤ i ∧ i ≤ 9
  · simp [h]
    omega
  · by_cases h1 : i ≥ 0
    · have h2 : ¬ i ≤ 9 := fun hh => h ⟨h1, hh⟩
      simp [h1, h2]
    · simp [h1]

example : Gen.Utils.f_RuneToInt 55 = 7 ∧ Gen.Utils.f_RuneToInt 65 = -1 ∧ Gen.Utils.f_IntToRune 4 = 52 := by decide

end BV.Props.GenUtils
