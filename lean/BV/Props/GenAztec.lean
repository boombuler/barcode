/-
  GenAztec — the straight-line Go functions of package `aztec`, machine-translated into `BV.Gen.Aztec.f_*` on every run
  (go/cmd/extract/funcs.go), agree with the hand-written model functions.
  A semantic edit of one of these Go functions changes the generated text and breaks the corresponding theorem here,
  whether or not the correspondence check samples an input that shows the difference.
-/
import BV.Gen.AztecFns
import BV.Model.Aztec
namespace BV.Props.GenAztec
open BV

@[simp] theorem idpure {α : Type} (x : α) : (pure x : Id α) = x := rfl

/-! ### aztec -/

/-- `totalBitsInLayer`, `encodingMode.BitCount` -/
theorem gen_aztec (layers em : Nat) (compact : Bool) :
    Gen.Aztec.f_totalBitsInLayer (layers : Int) compact = (Model.Aztec.totalBitsInLayer layers compact : Int) ∧
    Gen.Aztec.f_encodingMode_BitCount (em : Int) = (Model.Aztec.BitCount em : Int) := by
  constructor
  · unfold Gen.Aztec.f_totalBitsInLayer Model.Aztec.totalBitsInLayer
    cases compact <;> simp [Id.run, Int.natCast_add, Int.natCast_mul]
  · unfold Gen.Aztec.f_encodingMode_BitCount Model.Aztec.BitCount
    by_cases h : em = 2
    · subst h; rfl
    · have h' : ¬ (em : Int) = 2 := by omega
      have h2 : Gen.Aztec.c_mode_digit = 2 := rfl
      simp [Id.run, h, h', Model.Aztec.mode_digit, h2]

example : Gen.Aztec.f_totalBitsInLayer 4 true = 608 := by decide

end BV.Props.GenAztec
