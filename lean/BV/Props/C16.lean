/-
  C16 — concurrent use (partial by nature: the Go scheduler and memory model are not modelled).

  What is proved: (1) the only shared mutable state, the generator-polynomial cache, is accessed under the mutex
  only (generated facts) and its result does not depend on the state (C17), so every serial order of encodes
  gives every call its stand-alone result (that a concurrent execution under the mutex is equivalent to a serial
  one is assumed, not proved); (2) the producer/consumer
  protocol of the channel pipelines: with one unbuffered channel, a producer that sends `k` values and closes,
  and a consumer that performs `j` receives, both goroutines finish iff `k ≤ j`; otherwise the producer leaks
  (the pipeline sites of the Go source are not instantiated, and `iterateModules` has two channels);
  (3) which functions start goroutines at all (generated).
-/
import BV.Proofs.Purity
import BV.Gen
import BV.Props.C15
namespace BV.Props.C16
open BV BV.Proofs.Purity

/-- goroutines are started only by `BitList.IterateBytes`, `qr.stringToAlphaIdx` and `qr.iterateModules` (two) -/
theorem C16_goroutine_sites :
    Gen.Utils.fact_goStatements = ["BitList_IterateBytes"] ∧
    Gen.Qr.fact_goStatements = ["stringToAlphaIdx", "iterateModules", "iterateModules"] ∧
    Gen.Root.fact_goStatements = [] ∧ Gen.Datamatrix.fact_goStatements = [] ∧ Gen.Aztec.fact_goStatements = [] ∧
    Gen.Pdf417.fact_goStatements = [] ∧ Gen.Code128.fact_goStatements = [] ∧ Gen.Code39.fact_goStatements = [] ∧
    Gen.Code93.fact_goStatements = [] ∧ Gen.Codabar.fact_goStatements = [] ∧ Gen.Ean.fact_goStatements = [] ∧
    Gen.Twooffive.fact_goStatements = [] := by
  decide +kernel

/-- the cache is only touched under the lock (precondition of serialisability) -/
theorem C16_cache_guarded :
    Gen.Utils.fact_polynomesAccess = ["ReedSolomonEncoder_getPolynomial"] ∧
    "ReedSolomonEncoder_getPolynomial" ∈ Gen.Utils.fact_lockedFuncs :=
  C15.C15_cache_guarded

/-- every SEQUENTIAL run of encoder calls on the shared cache, in whatever order (`order` is any list; that it
    permutes a given `reqs` is not used), returns to each call exactly its stand-alone result. That a concurrent
    execution behaves like some sequential one is not proved here: it rests on `C16_cache_guarded` and on the Go
    mutex, which is not modelled. -/
theorem C16_serialisable (f : Model.GF.Field) (reqs order : List (List Nat × Nat)) (_h : order.Perm reqs) :
    C17.runEncoder f Model.GF.newEncoder order = order.map (fun r => Model.GF.rsEncode f r.1 r.2) :=
  C15.C15_rs_history_free f order

/-- pipelines: a producer sending `k` values then closing and a consumer performing `j ≥ k` receives (receives
    on the closed channel return at once) run to completion: no deadlock, nothing left running (`j + 1` steps are
    enough, `run_done`). This is the shape of `IterateBytes` with `splitToBlocks` and of `stringToAlphaIdx` with
    its consumer; that `k ≤ j` holds at those sites is read off the Go source, not proved. `iterateModules` chains
    two channels whose consumers `range` until the close, which this one-channel model with a fixed number of
    receives does not cover. -/
theorem C16_pipeline_completes (k j : Nat) (h : k ≤ j) :
    (Chan.run (k + j + 2) { toSend := k, closed := false, toRecv := j }).done = true :=
  run_done k j h _ (by omega)

/-- and the condition is necessary: a consumer that returns early leaves the producer blocked for ever -/
theorem C16_pipeline_leaks (k j : Nat) (h : j < k) (fuel : Nat) :
    (Chan.run fuel { toSend := k, closed := false, toRecv := j }).done = false :=
  run_leak k j h fuel

example : (Chan.run 20 { toSend := 5, closed := false, toRecv := 7 }).done = true := by decide
example : (Chan.run 20 { toSend := 5, closed := false, toRecv := 4 }).done = false := by decide

end BV.Props.C16
