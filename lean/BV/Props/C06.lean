/-
  C06 — EAN-8 / EAN-13: GS1 check digit, acceptance, and round trip through the reference decoder.
  The statements, put together from the lemmas of BV/Proofs/Ean.lean (shared lemmas: BV/Proofs/Ascii.lean,
  BV/Proofs/Utf8.lean, BV/Proofs/OneD.lean).

  Vocabulary (defined in BV/Proofs/OneD.lean and BV/Proofs/Ean.lean, restated by `rfl`-lemmas below):
    `AllDigits s`   every byte of `s` is an ASCII digit '0'..'9'
    `digitsOf s`    the digit values (byte − 48)
    `digitByte d`   the ASCII byte of digit `d`
    `Accepts code`  7 or 12 digits, or 8 or 13 digits ending in the GS1 check digit of the others
    `completed code` the 7/12-digit input with its check digit appended (8/13-digit input unchanged)
-/
import BV.Proofs.Ean
namespace BV.Props.C06
open BV BV.Spec.OneD BV.Proofs.OneD BV.Proofs.Ean

/-! ### the vocabulary, spelled out -/

theorem AllDigits_def (s : Bytes) : AllDigits s ↔ ∀ b ∈ s, 48 ≤ b.toNat ∧ b.toNat ≤ 57 := by
  simp only [AllDigits, isDigitByte_iff]

theorem digitsOf_def (s : Bytes) : digitsOf s = s.map (fun b => b.toNat - 48) := rfl

theorem digitByte_def (d : Nat) : digitByte d = UInt8.ofNat (48 + d) := rfl

theorem Accepts_def (code : Bytes) : Accepts code ↔
    AllDigits code ∧ (code.length = 7 ∨ code.length = 12 ∨
      ((code.length = 8 ∨ code.length = 13) ∧
        (digitsOf code).getLast? = some (gs1Check (digitsOf code).dropLast))) := Iff.rfl

theorem completed_def (code : Bytes) : completed code =
    if code.length = 7 ∨ code.length = 12 then code ++ [digitByte (gs1Check (digitsOf code))] else code := rfl

/-! ### table certificates (finite facts about the generated table, by evaluation) -/

/-- certificate: the generated `encoderTable` has exactly the keys '0'..'9' (each once, in order) -/
theorem C06_table_keys : Gen.Ean.v_encoderTable.map (·.1) = [48, 49, 50, 51, 52, 53, 54, 55, 56, 57] := table_keys

/-- certificate: `LeftOdd` is set L of ISO/IEC 15420, `Right` its complement (set R), `LeftEven` the reversed `Right`
    (set G), and `CheckSum` the first-digit parity row -/
theorem C06_table_entries :
    Gen.Ean.v_encoderTable.map (·.2.1) = eanL ∧
    Gen.Ean.v_encoderTable.map (·.2.2.2.1) = eanL.map (fun p => p.map (!·)) ∧
    Gen.Ean.v_encoderTable.map (·.2.2.1) = (Gen.Ean.v_encoderTable.map (·.2.2.2.1)).map List.reverse ∧
    Gen.Ean.v_encoderTable.map (·.2.2.1) = eanG ∧
    Gen.Ean.v_encoderTable.map (·.2.2.2.1) = eanR ∧
    Gen.Ean.v_encoderTable.map (·.2.2.2.2) = eanParity := by decide +kernel

/-- certificate: the 20 left-hand patterns (sets L and G together) are pairwise distinct, so are the 10 set-R
    patterns and the 10 parity rows: digit and parity recovery by the decoder is unambiguous -/
theorem C06_patterns_distinct : (eanL ++ eanG).Nodup ∧ eanR.Nodup ∧ eanParity.Nodup := patterns_distinct

/-- certificate: every pattern has 7 modules and every parity row 6 entries -/
theorem C06_pattern_sizes :
    (∀ p ∈ eanL ++ eanG ++ eanR, p.length = 7) ∧ (∀ p ∈ eanParity, p.length = 6) ∧
    eanL.length = 10 ∧ eanG.length = 10 ∧ eanR.length = 10 ∧ eanParity.length = 10 := pattern_sizes

/-! ### the property -/

/-- C06, acceptance.  For EVERY byte string `code` (any length, any bytes, including invalid UTF-8):
    the encoder succeeds exactly when `code` consists of 7 or 12 ASCII digits, or of 8 or 13 ASCII digits whose last
    digit is the GS1 modulo-10 check digit of the preceding ones; every other input is rejected with an error
    (never a panic). -/
theorem C06_accept (code : Bytes) :
    ((∃ bc, Model.Ean.encode code = .ok bc) ↔ Accepts code) ∧
    (¬ Accepts code → Model.Ean.encode code = .error .rejected) :=
  accept_iff (encode_accepts code scheme16) (encode_rejects code scheme16)

/-- C06, result.  Whenever the encoder returns a barcode `bc` for `code`:
    `Content()` is the input completed by its GS1 check digit, an 8- or 13-digit string; the kind is "EAN 8" / "EAN 13",
    the symbol is 67 / 95 modules wide, one-dimensional of height 1; the reference decoder (guard bars, L/G/R digit
    sets, first-digit parity pattern) reads exactly the digits of `Content()` from the drawn row; the last digit of
    `Content()` is the GS1 check digit of the others and it is what `CheckSum()` reports. -/
theorem C06_roundtrip (code : Bytes) (bc : Barcode) (h : Model.Ean.encode code = .ok bc) :
    bc.content = completed code ∧
    AllDigits bc.content ∧
    (bc.content.length = 8 ∨ bc.content.length = 13) ∧
    bc.kind = (if bc.content.length = 8 then "EAN 8" else "EAN 13") ∧
    bc.w = (if bc.content.length = 8 then 67 else 95) ∧
    bc.h = 1 ∧ bc.dims = 1 ∧
    eanDecode bc.row0 = .ok (digitsOf bc.content) ∧
    (digitsOf bc.content).getLast? = some (gs1Check (digitsOf bc.content).dropLast) ∧
    bc.checksum = some ((gs1Check (digitsOf bc.content).dropLast : Nat) : Int) := by
  obtain ⟨hacc, rfl⟩ := ok_inv (encode_accepts code scheme16) (encode_rejects code scheme16) h
  obtain ⟨hd, hl, hc⟩ := completed_spec code hacc
  have hrow := expected_decode (completed code) scheme16 hd hl
  have hlast : (digitsOf (completed code)).getLastD 0 = gs1Check (digitsOf (completed code)).dropLast := by
    rw [List.getLastD_eq_getLast?, hc]; rfl
  refine ⟨rfl, hd, hl, rfl, ?_, rfl, rfl, hrow, hc, ?_⟩
  · show (if (completed code).length = 8 then sym8 _ else sym13 _).length =
      (if (completed code).length = 8 then 67 else 95)
    rcases hl with hl | hl
    · simp only [hl, if_true]
      exact (sym8_frame _ (by rw [digitsOf_length, hl]) (digitsOf_lt hd)).1
    · simp only [hl, show ¬ ((13 : Nat) = 8) by decide, if_false]
      exact (sym13_frame _ (by rw [digitsOf_length, hl]) (digitsOf_lt hd)).1
  · show some (((digitsOf (completed code)).getLastD 0 : Nat) : Int) = _
    rw [hlast]
    rfl

/-- C06, guard bars spelled out: normal guard 101 at both ends, centre guard 01010 after the left half. -/
theorem C06_guards (code : Bytes) (bc : Barcode) (h : Model.Ean.encode code = .ok bc) :
    bc.row0.take 3 = [true, false, true] ∧
    (bc.row0.drop (if bc.content.length = 8 then 31 else 45)).take 5 = [false, true, false, true, false] ∧
    bc.row0.drop (if bc.content.length = 8 then 64 else 92) = [true, false, true] := by
  obtain ⟨hacc, rfl⟩ := ok_inv (encode_accepts code scheme16) (encode_rejects code scheme16) h
  obtain ⟨hd, hl, _⟩ := completed_spec code hacc
  rw [expected, row0_mk1D]
  show _ ∧ (List.drop (if (completed code).length = 8 then 31 else 45) _).take 5 = _ ∧
    List.drop (if (completed code).length = 8 then 64 else 92) _ = _
  rcases hl with hl | hl
  · simp only [hl, if_true]
    obtain ⟨_, h1, h2, h3, _⟩ := sym8_frame _ (by rw [digitsOf_length, hl]) (digitsOf_lt hd)
    exact ⟨h1, h2, h3⟩
  · simp only [hl, show ¬ ((13 : Nat) = 8) by decide, if_false]
    obtain ⟨_, h1, h2, h3, _⟩ := sym13_frame _ (by rw [digitsOf_length, hl]) (digitsOf_lt hd)
    exact ⟨h1, h2, h3⟩

/-! ### the hypotheses are satisfiable: concrete inputs -/

/-- "5512345" (7 digits) is accepted and completed to "55123457" -/
example : Accepts [53, 53, 49, 50, 51, 52, 53] ∧ completed [53, 53, 49, 50, 51, 52, 53] = [53, 53, 49, 50, 51, 52, 53, 55] := by
  decide

/-- "5901234123457" (13 digits, correct check digit) is accepted; with a wrong last digit it is not -/
example : Accepts [53, 57, 48, 49, 50, 51, 52, 49, 50, 51, 52, 53, 55] ∧
    ¬ Accepts [53, 57, 48, 49, 50, 51, 52, 49, 50, 51, 52, 53, 56] := by decide

/-- a non-ASCII input of 12 bytes and a 9-digit input are not accepted -/
example : ¬ Accepts [53, 57, 48, 49, 50, 51, 52, 49, 50, 51, 0xC3, 0xA9] ∧ ¬ Accepts [49, 50, 51, 52, 53, 54, 55, 56, 57] := by
  decide

/-- so the encoder returns a barcode for "5512345", and `C06_roundtrip` applies to it -/
example : ∃ bc, Model.Ean.encode [53, 53, 49, 50, 51, 52, 53] = .ok bc ∧
    bc.content = [53, 53, 49, 50, 51, 52, 53, 55] ∧ bc.checksum = some 7 := by
  obtain ⟨bc, h⟩ := (C06_accept [53, 53, 49, 50, 51, 52, 53]).1.2 (by decide)
  obtain ⟨h1, _, _, _, _, _, _, _, _, h2⟩ := C06_roundtrip _ bc h
  refine ⟨bc, h, by rw [h1]; decide, ?_⟩
  rw [h2, h1]
  decide

end BV.Props.C06
