/-
  C01 (part B) — content round trip of the QR encoder at the bit-stream and codeword level: what
  `Model.Qr.encodeNumeric / encodeAlphaNumeric / encodeUnicode / encodeAuto` write is read back by the reference
  parser of ISO/IEC 18004 (`Spec.Qr.parseSegments`) as byte-for-byte the content, with a conformant terminator and
  pad codewords; packing into codewords, splitting into blocks and interleaving is undone by the reference
  de-interleaver `Spec.Qr.deinterleave`.  Only property statements live here; the lemmas are in BV/Proofs.
  In every theorem the error correction level is arbitrary (for a level above 3 no table row matches, the encoders
  return `none` and the hypothesis is false).
-/
import BV.Proofs.QrChain
namespace BV.Props.QrB
open BV BV.Model.Qr BV.Spec.Qr
open BV.Proofs.Bits BV.Proofs.QrStream BV.Proofs.QrAlnum BV.Proofs.QrBlocks BV.Proofs.QrChain
open BV.Proofs.QrTables BV.Proofs.QrStreamA BV.Proofs.QrAccept

/-- Numeric mode, content: whatever byte string `encodeNumeric` accepts (at any level), the reference parser,
    run on the produced stream with any fuel ≥ 2 (`decode` uses `size/4 + 2`), succeeds and returns exactly one
    segment of mode 1 whose content is the input byte for byte, a terminator of `min 4 (cap - used)` bits and
    the pad codewords that fill the remaining capacity.  (`parseTail` only succeeds if terminator and bit padding
    are zero and the pad codewords alternate 0xEC / 0x11, so success includes these checks.) -/
theorem numeric_stream_roundtrip (content : Bytes) (l : Nat) (bits : List Bool) (vi : VersionInfo)
    (h : encodeNumeric content l = some (bits, vi)) (fuel : Nat) (hf : 2 ≤ fuel) :
    parseSegments vi.version bits.toArray fuel 0 [] [] =
      .ok (streamResult 1 content (4 + countBits vi.version 1 + numBitCount content.length)
        (vi.totalDataBytes * 8)) := by
  obtain ⟨f, rfl⟩ : ∃ f, fuel = f + 2 := ⟨fuel - 2, by omega⟩
  exact numeric_stream h f

/-- Numeric mode, acceptance and shape: accepted content consists of ASCII digits only (no sign, no other byte);
    the stream meets `StreamSpec` (table row of the requested level, count fits its field, segment fits the
    capacity, `8·totalDataBytes` bits in total); and it is mode indicator 0001, count, the digit groups, then
    terminator / bit padding / pad codewords exactly as `padded` says. -/
theorem numeric_stream_shape (content : Bytes) (l : Nat) (bits : List Bool) (vi : VersionInfo)
    (h : encodeNumeric content l = some (bits, vi)) :
    (∀ b ∈ content, 48 ≤ b.toNat ∧ b.toNat ≤ 57) ∧
    StreamSpec 1 content (numericBits content.length) l bits vi ∧
    ∃ chunks, numericChunks content.length content = some chunks ∧
      bits = padded (header 1 content.length vi ++ chunks) (8 * vi.totalDataBytes) := by
  have hs := encodeNumeric_stream h
  have hd := ((encodeNumeric_isSome content l).mp (by rw [h]; rfl)).1
  rw [encodeNumeric_eq] at h
  obtain ⟨_, chunks, hch, rfl⟩ := encodeWith_eq_some.mp h
  exact ⟨hd, hs, chunks, hch, addPaddingAndTerminator_padded _ _⟩

/-- a digit group of 1, 2 or 3 ASCII digits has a value below 10, 100, 1000 and its decimal digits (as the
    reference parser regenerates them) are the group itself -/
theorem digit_groups (a b c : UInt8) (ha : 48 ≤ a.toNat ∧ a.toNat ≤ 57) (hb : 48 ≤ b.toNat ∧ b.toNat ≤ 57)
    (hc : 48 ≤ c.toNat ∧ c.toNat ≤ 57) :
    (decVal [a] < 10 ∧ digitsOf (decVal [a]) 1 = [a]) ∧
    (decVal [a, b] < 100 ∧ digitsOf (decVal [a, b]) 2 = [a, b]) ∧
    (decVal [a, b, c] < 1000 ∧ digitsOf (decVal [a, b, c]) 3 = [a, b, c]) :=
  ⟨by simpa using digits_spec [a] (by simp [ha]), by simpa using digits_spec [a, b] (by simp [ha, hb]),
    by simpa using digits_spec [a, b, c] (by simp [ha, hb, hc])⟩

/-- Alphanumeric mode, content: every accepted byte string is read back unchanged as one segment of mode 2. -/
theorem alnum_stream_roundtrip (content : Bytes) (l : Nat) (bits : List Bool) (vi : VersionInfo)
    (h : encodeAlphaNumeric content l = some (bits, vi)) (fuel : Nat) (hf : 2 ≤ fuel) :
    parseSegments vi.version bits.toArray fuel 0 [] [] =
      .ok (streamResult 2 content (4 + countBits vi.version 2 + alnumBitCount content.length)
        (vi.totalDataBytes * 8)) := by
  obtain ⟨f, rfl⟩ : ∃ f, fuel = f + 2 := ⟨fuel - 2, by omega⟩
  exact alnum_stream h f

/-- Alphanumeric mode, acceptance and shape: every accepted byte is one of the 45 characters of `charSet` (so the
    content is ASCII and its byte length is its character count), its value is below 45 and the table of the
    standard has the same byte at that value; the stream meets `StreamSpec`; and it is 0010, count, the pairs and
    the trailing single, then the padding of `padded`. -/
theorem alnum_stream_shape (content : Bytes) (l : Nat) (bits : List Bool) (vi : VersionInfo)
    (h : encodeAlphaNumeric content l = some (bits, vi)) :
    (∀ b ∈ content, b ∈ Gen.Qr.c_charSet ∧ alnumVal b < 45 ∧ alnumChars.getD (alnumVal b) 0 = b) ∧
    StreamSpec 2 content (alnumBits content.length) l bits vi ∧
    bits = padded (header 2 content.length vi ++ pairBits (content.map alnumVal)) (8 * vi.totalDataBytes) := by
  have hs := encodeAlphaNumeric_stream h
  rw [encodeAlphaNumeric_eq] at h
  obtain ⟨_, p, hseg, rfl⟩ := encodeWith_eq_some.mp h
  obtain ⟨hmem, rfl, _⟩ := alnumSeg_accepted hseg
  exact ⟨fun b hb => ⟨hmem b hb, alnumVal_spec (hmem b hb)⟩, hs,
    addPaddingAndTerminator_padded _ _⟩

/-- Byte mode, content: every byte string that fits (all 256 byte values, valid UTF-8 or not) is read back
    unchanged as one segment of mode 4. -/
theorem byte_stream_roundtrip (content : Bytes) (l : Nat) (bits : List Bool) (vi : VersionInfo)
    (h : encodeUnicode content l = some (bits, vi)) (fuel : Nat) (hf : 2 ≤ fuel) :
    parseSegments vi.version bits.toArray fuel 0 [] [] =
      .ok (streamResult 4 content (4 + countBits vi.version 4 + 8 * content.length)
        (vi.totalDataBytes * 8)) := by
  obtain ⟨f, rfl⟩ : ∃ f, fuel = f + 2 := ⟨fuel - 2, by omega⟩
  exact byte_stream h f

/-- Byte mode, shape: the stream meets `StreamSpec` and is 0100, count, eight bits per byte, then the padding. -/
theorem byte_stream_shape (content : Bytes) (l : Nat) (bits : List Bool) (vi : VersionInfo)
    (h : encodeUnicode content l = some (bits, vi)) :
    StreamSpec 4 content (byteBits content.length) l bits vi ∧
    bits = padded (header 4 content.length vi ++ content.flatMap (fun b => msbBits b.toNat 8))
      (8 * vi.totalDataBytes) := by
  have hs := encodeUnicode_stream h
  rw [encodeUnicode_eq] at h
  obtain ⟨_, p, hp, rfl⟩ := encodeWith_eq_some.mp h
  cases hp
  exact ⟨hs, addPaddingAndTerminator_padded _ _⟩

/-- Automatic mode, content: whatever `encodeAuto` accepts is read back unchanged, as a single segment whose mode
    is 1, 2 or 4, with conformant terminator and padding; the version is a table row of the requested level and
    the stream has exactly `cap` bits. -/
theorem auto_stream_roundtrip (content : Bytes) (l : Nat) (bits : List Bool) (vi : VersionInfo)
    (h : encodeAuto content l = some (bits, vi)) (fuel : Nat) (hf : 2 ≤ fuel) :
    vi ∈ versionInfos ∧ vi.level = l ∧ bits.length = vi.totalDataBytes * 8 ∧
    ∃ m used, (m = 1 ∨ m = 2 ∨ m = 4) ∧ used ≤ vi.totalDataBytes * 8 ∧
      parseSegments vi.version bits.toArray fuel 0 [] [] =
        .ok (streamResult m content used (vi.totalDataBytes * 8)) := by
  obtain ⟨f, rfl⟩ : ∃ f, fuel = f + 2 := ⟨fuel - 2, by omega⟩
  exact encoder_stream (mode := 0) rfl h f

/-- For every row `vi` of the generated table and every list of `vi.totalDataBytes` data codewords:
    `splitToBlocks` succeeds; the number of check codewords and the block lengths of the row are those of Table 9
    of the standard for (version, level); every block has its ISO length and its check part is `calcECC` of its
    data part with the ISO number of check codewords; the data parts in block order concatenate to the input;
    and the reference de-interleaver applied to `interleave blocks` returns, for every block, its data part
    followed by its `ec` check codewords (as `interleave` reads them: `eccRow`, zero filled to `ec`). -/
theorem blocks_roundtrip (vi : VersionInfo) (hvi : vi ∈ versionInfos) (data : List Nat)
    (hlen : data.length = vi.totalDataBytes) :
    ∃ blocks ec lens,
      splitToBlocks data vi = .ok blocks ∧
      isoBlocks vi.version vi.level = some (ec, lens) ∧
      ec = vi.errorCorrectionCodewordsPerBlock ∧
      blocks.map (·.data.length) = lens ∧
      (∀ b ∈ blocks, b.ecc = calcECC b.data ec) ∧
      blocks.flatMap (·.data) = data ∧
      deinterleave (interleave blocks vi).toArray lens ec = blocks.map (fun b => b.data ++ eccRow ec b) := by
  obtain ⟨hn, hiso⟩ := blocks_of_mem vi hvi
  obtain ⟨blocks, h1, h2, h3, h4⟩ := splitToBlocks_spec vi data hn
  exact ⟨blocks, _, _, h1, hiso, rfl, h2, h3, h4 hlen,
    h2 ▸ deinterleave_interleave blocks vi (data_length_le h2)⟩

/-- The same with the two facts about `calcECC` that belong to C17 as explicit hypotheses — `hLen`: it returns
    exactly `k` codewords; `hRS`: data followed by `calcECC data k` is a Reed–Solomon codeword of the QR field with
    roots α^0 … α^(k-1).  Then the de-interleaved blocks are literally `data ++ ecc`, have the lengths `decode`
    checks, and pass its Reed–Solomon check.  As stated, for every `data` and `k`, the hypotheses cannot be met
    (`valid` requires codewords below 256): they hold under the guards of `QrMatrix.calcECC_spec`, and
    `QrMatrix.blocks_valid` is the statement with those guards. -/
theorem blocks_roundtrip_valid
    (hLen : ∀ (data : List Nat) (k : Nat), (calcECC data k).length = k)
    (hRS : ∀ (data : List Nat) (k : Nat), Spec.RS.qrField.valid 0 k (data ++ calcECC data k) = true)
    (vi : VersionInfo) (hvi : vi ∈ versionInfos) (data : List Nat) (hlen : data.length = vi.totalDataBytes) :
    ∃ blocks ec lens,
      splitToBlocks data vi = .ok blocks ∧
      isoBlocks vi.version vi.level = some (ec, lens) ∧
      deinterleave (interleave blocks vi).toArray lens ec = blocks.map (fun b => b.data ++ b.ecc) ∧
      ((deinterleave (interleave blocks vi).toArray lens ec).zip lens).all
        (fun (p : List Nat × Nat) => p.1.length == p.2 + ec) = true ∧
      (deinterleave (interleave blocks vi).toArray lens ec).all
        (fun b => Spec.RS.qrField.valid 0 ec b) = true := by
  obtain ⟨blocks, ec, lens, h1, h2, h3, h4, h5, h6, h7⟩ := blocks_roundtrip vi hvi data hlen
  exact ⟨blocks, ec, lens, h1, h2,
    deinterleaved_checks h4 h7 (fun b hb => by rw [h5 b hb]; exact ⟨hLen _ _, hRS _ _⟩)⟩

/-- `iterateBytes` (= `pack8`) on a stream of `8·n` bits gives `n` codewords below 256, and writing every
    codeword as 8 bits, most significant first — what `Spec.Qr.decode` does with the data codewords — gives the
    stream back. -/
theorem pack8_roundtrip (bits : List Bool) (n : Nat) (h : bits.length = 8 * n) :
    (iterateBytes bits).length = n ∧ (∀ c ∈ iterateBytes bits, c < 256) ∧
    (iterateBytes bits).flatMap (fun c => msbBits c 8) = bits :=
  pack8_unpack n bits h

/-- conversely the bits of a codeword list pack to the codewords, and the reference reader `bitsToNatAt … (8·i) 8`
    (the way `decode` reads codeword `i` of the symbol) returns codeword `i` -/
theorem unpack_pack8 (cw : List Nat) (h : ∀ c ∈ cw, c < 256) :
    iterateBytes (cw.flatMap (fun c => msbBits c 8)) = cw ∧
    ∀ i, i < cw.length → bitsToNatAt (cw.flatMap (fun c => msbBits c 8)).toArray (8 * i) 8 = cw.getD i 0 := by
  refine ⟨pack8_flatMap_msbBits cw h, ?_⟩
  intro i hi
  have := readAt_flatMap cw [] [] i hi h
  simpa [bitsToNatAt_eq] using this

/-- `msbBits` and `bitsToNat` are inverse to each other: a value below `2^k` is read back from its `k` bits, and a
    bit list is the `msbBits` of its value -/
theorem msbBits_inverse (x k : Nat) (hx : x < 2 ^ k) (l : List Bool) :
    bitsToNat (msbBits x k) = x ∧ msbBits (bitsToNat l) l.length = l :=
  ⟨bitsToNat_msbBits_of_lt x k hx, msbBits_bitsToNat l⟩

/-- From the accepted content to the interleaved codeword sequence and back: for whatever `encodeAuto` accepts,
    `splitToBlocks` on the packed stream succeeds with the ISO block structure, and the data bit stream that
    `Spec.Qr.decode` rebuilds from the de-interleaved blocks (first `l` codewords of every block, 8 bits each) is
    the encoder's stream, which the reference parser — with the fuel `decode` uses — reads as the content. -/
theorem data_path_roundtrip (content : Bytes) (l : Nat) (bits : List Bool) (vi : VersionInfo)
    (h : encodeAuto content l = some (bits, vi)) :
    ∃ blocks ec lens m used,
      splitToBlocks (iterateBytes bits) vi = .ok blocks ∧
      isoBlocks vi.version vi.level = some (ec, lens) ∧
      (m = 1 ∨ m = 2 ∨ m = 4) ∧
      (((deinterleave (interleave blocks vi).toArray lens ec).zip lens).flatMap
        (fun (b, l) => (b.take l).flatMap (fun c => msbBits c 8))) = bits ∧
      parseSegments vi.version bits.toArray (bits.toArray.size / 4 + 2) 0 [] [] =
        .ok (streamResult m content used (vi.totalDataBytes * 8)) := by
  obtain ⟨hvi, _, hlen, m, used, hm, _, hp⟩ :=
    auto_stream_roundtrip content l bits vi h (bits.toArray.size / 4 + 2) (by omega)
  obtain ⟨p1, _, p3⟩ := pack8_unpack vi.totalDataBytes bits (by omega)
  obtain ⟨blocks, ec, lens, h1, h2, _, h4, _, h6, h7⟩ := blocks_roundtrip vi hvi (iterateBytes bits) p1
  refine ⟨blocks, ec, lens, m, used, h1, h2, hm, ?_, hp⟩
  rw [h7, ← h4, zip_take_data, h6]
  exact p3

/-- non-vacuity, numeric: "0123456" at level M is accepted, so the theorem applies to it -/
example : (encodeNumeric [48, 49, 50, 51, 52, 53, 54] 1).isSome = true ∧
    ∀ bits vi, encodeNumeric [48, 49, 50, 51, 52, 53, 54] 1 = some (bits, vi) →
      parseSegments vi.version bits.toArray 2 0 [] [] =
        .ok (streamResult 1 [48, 49, 50, 51, 52, 53, 54] (4 + countBits vi.version 1 + numBitCount 7)
          (vi.totalDataBytes * 8)) :=
  ⟨by decide +kernel, fun bits vi h => numeric_stream_roundtrip _ 1 bits vi h 2 (by omega)⟩

/-- the same content evaluated directly: model and reference parser agree with the theorem -/
example : (match encodeNumeric [48, 49, 50, 51, 52, 53, 54] 1 with
    | some (bits, vi) =>
      (match parseSegments vi.version bits.toArray 2 0 [] [] with
       | .ok p => some (p.modes, p.content, p.terminatorBits, p.padCodewords, vi.version)
       | .error _ => none)
    | none => none) = some ([1], [48, 49, 50, 51, 52, 53, 54], 4, 10, 1) := by decide +kernel

/-- non-vacuity, alphanumeric: "AC-42" at level H -/
example : (encodeAlphaNumeric [65, 67, 45, 52, 50] 3).isSome = true ∧
    ∀ bits vi, encodeAlphaNumeric [65, 67, 45, 52, 50] 3 = some (bits, vi) →
      parseSegments vi.version bits.toArray 2 0 [] [] =
        .ok (streamResult 2 [65, 67, 45, 52, 50] (4 + countBits vi.version 2 + alnumBitCount 5)
          (vi.totalDataBytes * 8)) :=
  ⟨by decide +kernel, fun bits vi h => alnum_stream_roundtrip _ 3 bits vi h 2 (by omega)⟩

/-- non-vacuity, byte mode: ff 00 c3 28 (not valid UTF-8) at level L -/
example : (encodeUnicode [0xFF, 0x00, 0xC3, 0x28] 0).isSome = true ∧
    ∀ bits vi, encodeUnicode [0xFF, 0x00, 0xC3, 0x28] 0 = some (bits, vi) →
      parseSegments vi.version bits.toArray 2 0 [] [] =
        .ok (streamResult 4 [0xFF, 0x00, 0xC3, 0x28] (4 + countBits vi.version 4 + 8 * 4)
          (vi.totalDataBytes * 8)) :=
  ⟨by decide +kernel, fun bits vi h => byte_stream_roundtrip _ 0 bits vi h 2 (by omega)⟩

/-- edge case evaluated directly: 17 digits at level H use 71 of the 72 data bits of version 1, so the terminator
    is a single bit and there is no pad codeword -/
example : (match encodeNumeric [49, 50, 51, 52, 53, 54, 55, 56, 57, 48, 49, 50, 51, 52, 53, 54, 55] 3 with
    | some (bits, vi) =>
      (match parseSegments vi.version bits.toArray 2 0 [] [] with
       | .ok p => some (p.modes, p.content, p.terminatorBits, p.padCodewords, vi.version)
       | .error _ => none)
    | none => none) =
    some ([1], [49, 50, 51, 52, 53, 54, 55, 56, 57, 48, 49, 50, 51, 52, 53, 54, 55], 1, 0, 1) := by
  decide +kernel

/-- non-vacuity, automatic: "HELLO WORLD" at level Q is accepted (as alphanumeric) -/
example : (encodeAuto [72, 69, 76, 76, 79, 32, 87, 79, 82, 76, 68] 2).isSome = true ∧
    ∀ bits vi, encodeAuto [72, 69, 76, 76, 79, 32, 87, 79, 82, 76, 68] 2 = some (bits, vi) →
      ∃ m used, (m = 1 ∨ m = 2 ∨ m = 4) ∧ used ≤ vi.totalDataBytes * 8 ∧
        parseSegments vi.version bits.toArray 5 0 [] [] =
          .ok (streamResult m [72, 69, 76, 76, 79, 32, 87, 79, 82, 76, 68] used (vi.totalDataBytes * 8)) :=
  ⟨by decide +kernel, fun bits vi h => (auto_stream_roundtrip _ 2 bits vi h 5 (by omega)).2.2.2⟩

/-- non-vacuity, blocks: version 5-Q (2 blocks of 15 and 2 of 16 data codewords, 18 check codewords each) with the
    data codewords 0, 1, …, 61 -/
example : ∃ blocks ec lens,
    splitToBlocks (List.range 62) ⟨5, 2, 18, 2, 15, 2, 16⟩ = .ok blocks ∧
    isoBlocks 5 2 = some (ec, lens) ∧ ec = 18 ∧ blocks.map (·.data.length) = lens ∧
    (∀ b ∈ blocks, b.ecc = calcECC b.data ec) ∧ blocks.flatMap (·.data) = List.range 62 ∧
    deinterleave (interleave blocks ⟨5, 2, 18, 2, 15, 2, 16⟩).toArray lens ec =
      blocks.map (fun b => b.data ++ eccRow ec b) :=
  blocks_roundtrip ⟨5, 2, 18, 2, 15, 2, 16⟩ (by decide +kernel) (List.range 62) (by decide)

example : isoBlocks 5 2 = some (18, [15, 15, 16, 16]) := by decide +kernel

/-- non-vacuity, packing: 16 bits -/
example : iterateBytes [true, false, true, false, false, true, false, true,
                        false, false, false, true, false, false, false, true] = [0xA5, 0x11] ∧
    [0xA5, 0x11].flatMap (fun c => msbBits c 8) =
      [true, false, true, false, false, true, false, true,
       false, false, false, true, false, false, false, true] := by
  constructor
  · exact (congrArg iterateBytes (by decide)).trans (unpack_pack8 [0xA5, 0x11] (by decide)).1
  · decide

/-- non-vacuity, data path: the byte string ff 00 c3 28 (invalid UTF-8) at level L -/
example : (encodeAuto [0xFF, 0x00, 0xC3, 0x28] 0).isSome = true ∧
    ∀ bits vi, encodeAuto [0xFF, 0x00, 0xC3, 0x28] 0 = some (bits, vi) →
      ∃ blocks ec lens m used,
        splitToBlocks (iterateBytes bits) vi = .ok blocks ∧
        isoBlocks vi.version vi.level = some (ec, lens) ∧
        (m = 1 ∨ m = 2 ∨ m = 4) ∧
        (((deinterleave (interleave blocks vi).toArray lens ec).zip lens).flatMap
          (fun (b, l) => (b.take l).flatMap (fun c => msbBits c 8))) = bits ∧
        parseSegments vi.version bits.toArray (bits.toArray.size / 4 + 2) 0 [] [] =
          .ok (streamResult m [0xFF, 0x00, 0xC3, 0x28] used (vi.totalDataBytes * 8)) :=
  ⟨by decide +kernel, fun bits vi h => data_path_roundtrip _ 0 bits vi h⟩

end BV.Props.QrB
