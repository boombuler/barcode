/-
  C08 — Codabar and 2 of 5 (standard / interleaved): acceptance, round trip through the reference decoders,
  and the 2-of-5 check-digit helper.
  The statements, put together from the lemmas of BV/Proofs/Codabar.lean and BV/Proofs/Twooffive.lean
  (shared lemmas: BV/Proofs/Ascii.lean, BV/Proofs/Utf8.lean, BV/Proofs/OneD.lean).

  Vocabulary (defined in the Proofs files, restated below by `rfl`/`Iff.rfl` lemmas):
    `drawW ws`            the module list of an element-width list that starts with a bar (bar, space, bar, …)
    `AllDigits s`, `digitsOf s`, `digitByte d`   as in C06
    Codabar:  `matchesCodabar c`  the bytes match `^[A-D][0-9\-$:/.+]*[A-D]$`
              `cbW r`             the 7 element widths of character `r` in the reference table (wide = 2)
              `symW rs`           the characters' elements separated by single narrow spaces
    2 of 5:   `Tof.Accepts c il`  non-empty ASCII digits, an even number of them when interleaved
              `widthsStd ds` / `widthsIl ds`   start ++ digit groups ++ stop as element widths (wide = 3)
-/
import BV.Proofs.Codabar
import BV.Proofs.Twooffive
namespace BV.Props.C08
open BV BV.Spec.OneD BV.Proofs.OneD
open BV.Proofs.Codabar (matchesCodabar isStartStopByte isMiddleByte keyW cbW symW joinSep)
open BV.Proofs.Twooffive (pat wOf stdW ilW startStd stopStd startIl stopIl pairs widthsStd widthsIl checkDigit)

namespace Tof
export BV.Proofs.Twooffive (Accepts)
end Tof

/-! ### the vocabulary, spelled out -/

theorem drawW_def (ws : List Nat) : drawW ws = expand (barsFrom true ws) := rfl
theorem expand_cons (c : Bool) (n : Nat) (rest : List (Bool × Nat)) :
    expand ((c, n) :: rest) = List.replicate n c ++ expand rest := rfl
theorem barsFrom_cons (c : Bool) (w : Nat) (rest : List Nat) :
    barsFrom c (w :: rest) = (c, w) :: barsFrom (!c) rest := rfl

/-- `matchesCodabar` is the anchored pattern `^[A-D][0-9\-$:/.+]*[A-D]$` on bytes -/
theorem matchesCodabar_def (c : Bytes) : matchesCodabar c = true ↔
    ∃ a mid z, c = a :: (mid ++ [z]) ∧ isStartStopByte a = true ∧ (∀ b ∈ mid, isMiddleByte b = true) ∧
      isStartStopByte z = true := BV.Proofs.Codabar.matchesCodabar_iff c

theorem isStartStopByte_def (b : UInt8) : isStartStopByte b = (65 ≤ b.toNat && b.toNat ≤ 68) := rfl
theorem isMiddleByte_def (b : UInt8) : isMiddleByte b =
    ((48 ≤ b.toNat && b.toNat ≤ 57) || b.toNat == 45 || b.toNat == 36 || b.toNat == 58 || b.toNat == 47 ||
      b.toNat == 46 || b.toNat == 43) := rfl

theorem symW_def (rs : List Nat) : symW rs = joinSep cbW [1] rs := rfl
theorem joinSep_def {α β} (f : α → List β) (sep : List β) (a b : α) (rest : List α) :
    joinSep f sep [] = [] ∧ joinSep f sep [a] = f a ∧
    joinSep f sep (a :: b :: rest) = f a ++ sep ++ joinSep f sep (b :: rest) := ⟨rfl, rfl, rfl⟩

theorem TofAccepts_def (c : Bytes) (il : Bool) :
    Tof.Accepts c il ↔ c ≠ [] ∧ AllDigits c ∧ (il = true → c.length % 2 = 0) := Iff.rfl

theorem widthsStd_def (ds : List Nat) : widthsStd ds = [2, 1, 2, 1, 1, 1] ++ (ds.map stdW).flatten ++ [2, 1, 1, 1, 2] := rfl
theorem widthsIl_def (ds : List Nat) :
    widthsIl ds = [1, 1, 1, 1] ++ ((pairs ds).map (fun p => ilW p.1 p.2)).flatten ++ [3, 1, 1] := rfl
theorem stdW_def (d : Nat) : stdW d = (twoOfFive d).flatMap (fun b => [if b then 3 else 1, 1]) := rfl
theorem ilW_def (d1 d2 : Nat) : ilW d1 d2 =
    (List.zipWith (fun a b => [if a then 3 else 1, if b then 3 else 1]) (twoOfFive d1) (twoOfFive d2)).flatten := rfl

/-! ### table certificates (finite facts about the generated tables, by evaluation) -/

/-- certificate: the generated Codabar table is the reference table (20 characters, same order), each 7-element
    narrow/wide key drawn with narrow = 1 and wide = 2 modules -/
theorem C08_codabar_table :
    Gen.Codabar.v_encodingTable = codabarTable.map (fun p => ((p.1.toNat : Int), drawW (keyW p.2))) :=
  BV.Proofs.Codabar.table_eq

/-- certificate: every reference Codabar key has 7 elements, starts and ends with a bar (odd length), the keys and
    the characters are pairwise distinct -/
theorem C08_codabar_keys :
    (∀ p ∈ codabarTable, (keyW p.2).length = 7) ∧ (codabarTable.map (·.2)).Nodup ∧ (codabarTable.map (·.1)).Nodup := by
  decide +kernel

/-- certificate: the generated 2-of-5 table is digit ↦ the reference two-wide-of-five pattern with weights
    1-2-4-7-parity, which the reference `tofDigit` reads back -/
theorem C08_tof_table :
    Gen.Twooffive.v_encodingTable = (List.range 10).map (fun d => (((48 + d : Nat) : Int), twoOfFive d)) ∧
    (∀ d : Fin 10, tofDigit (twoOfFive d.val) = some d.val) :=
  ⟨by decide, fun d => (BV.Proofs.Twooffive.pat_facts d).2⟩

/-- certificate: start/stop patterns and widths of both modes (wide = 3, narrow = 1), and the all-narrow spaces of
    the standard mode -/
theorem C08_tof_modes :
    Gen.Twooffive.v_modes =
      [(false, (drawW [2, 1, 2, 1, 1, 1], drawW [2, 1, 1, 1, 2], [(true, 3), (false, 1)])),
       (true, (drawW [1, 1, 1, 1], drawW [3, 1, 1], [(true, 3), (false, 1)]))] ∧
    Gen.Twooffive.v_nonInterleavedSpace = List.replicate 5 false ∧
    Gen.Twooffive.c_patternWidth = 5 := by decide

/-! ### Codabar -/

/-- C08, Codabar acceptance.  For EVERY byte string (any bytes, including non-ASCII and invalid UTF-8): the encoder —
    which implements Go's `content == "!" || re.ReplaceAllString(content, "!") != "!"` test literally — succeeds
    exactly when the bytes match `^[A-D][0-9\-$:/.+]*[A-D]$`; everything else is rejected with an error. -/
theorem C08_codabar_accept (c : Bytes) :
    ((∃ bc, Model.Codabar.encode c = .ok bc) ↔ matchesCodabar c = true) ∧
    (¬ matchesCodabar c = true → Model.Codabar.encode c = .error .rejected) :=
  accept_iff (BV.Proofs.Codabar.encode_accepted c scheme16) (BV.Proofs.Codabar.encode_rejected c scheme16)

/-- C08, Codabar result.  Whenever the encoder returns `bc` for `c`: `Content()` is `c`, the kind is "Codabar"; the
    drawn row is exactly the standard narrow/wide element patterns of the characters separated by single narrow
    spaces; and the reference decoder reads back exactly the text (as rune values, which for accepted — ASCII —
    text are the byte values). -/
theorem C08_codabar_roundtrip (c : Bytes) (bc : Barcode) (h : Model.Codabar.encode c = .ok bc) :
    bc.content = c ∧ bc.kind = "Codabar" ∧ bc.dims = 1 ∧ bc.h = 1 ∧ bc.checksum = none ∧
    bc.row0 = drawW (symW (c.map (·.toNat))) ∧ bc.w = bc.row0.length ∧
    runeList c = c.map (·.toNat) ∧
    codabarDecode bc.row0 = .ok (runeList c) := by
  obtain ⟨hm, rfl⟩ := ok_inv (BV.Proofs.Codabar.encode_accepted c scheme16)
    (BV.Proofs.Codabar.encode_rejected c scheme16) h
  have hrl : runeList c = c.map (·.toNat) := by
    apply BV.Proofs.Ascii.runeList_ascii
    rw [← BV.Proofs.Codabar.matchesToEnd_map] at hm
    intro b hb
    exact BV.Proofs.Codabar.matchesToEnd_lt _ hm b.toNat (List.mem_map_of_mem hb)
  refine ⟨rfl, rfl, rfl, rfl, rfl, row0_mk1D _ _ _ _ _, ?_, hrl, ?_⟩
  · rw [row0_mk1D]; rfl
  · rw [row0_mk1D, hrl]
    exact BV.Proofs.Codabar.decode_accepted c hm

/-! ### 2 of 5 -/

/-- C08, 2-of-5 acceptance.  For EVERY byte string and both modes: the encoder succeeds exactly on non-empty ASCII
    digit strings (with an even number of digits when interleaved); everything else is rejected with an error. -/
theorem C08_tof_accept (c : Bytes) (interleaved : Bool) :
    ((∃ bc, Model.Twooffive.encode c interleaved = .ok bc) ↔ Tof.Accepts c interleaved) ∧
    (¬ Tof.Accepts c interleaved → Model.Twooffive.encode c interleaved = .error .rejected) :=
  accept_iff (BV.Proofs.Twooffive.encode_accepts c interleaved scheme16)
    (BV.Proofs.Twooffive.encode_rejects c interleaved scheme16)

/-- C08, 2-of-5 result.  Whenever the encoder returns `bc` for `c`: `Content()` is `c`, the kind is "2 of 5" /
    "2 of 5 (interleaved)"; the drawn row is exactly start pattern, the digits' 2-of-5 element groups (bars with
    narrow spaces; or bars/spaces interleaved for digit pairs) and stop pattern with wide = 3 modules; and the
    reference decoder of the mode reads back exactly the digits of the text. -/
theorem C08_tof_roundtrip (c : Bytes) (interleaved : Bool) (bc : Barcode)
    (h : Model.Twooffive.encode c interleaved = .ok bc) :
    bc.content = c ∧ bc.kind = (if interleaved then "2 of 5 (interleaved)" else "2 of 5") ∧
    bc.dims = 1 ∧ bc.h = 1 ∧ bc.checksum = none ∧
    bc.row0 = drawW (if interleaved then widthsIl (digitsOf c) else widthsStd (digitsOf c)) ∧
    bc.w = bc.row0.length ∧
    runeList c = c.map (·.toNat) ∧
    (if interleaved then tofDecodeInterleaved bc.row0 else tofDecodeStandard bc.row0) = .ok (runeList c) := by
  obtain ⟨⟨hne, hd, he⟩, rfl⟩ := ok_inv (BV.Proofs.Twooffive.encode_accepts c interleaved scheme16)
    (BV.Proofs.Twooffive.encode_rejects c interleaved scheme16) h
  have hrl : runeList c = c.map (·.toNat) := BV.Proofs.Ascii.runeList_ascii c hd.ascii
  refine ⟨rfl, rfl, rfl, rfl, rfl, row0_mk1D _ _ _ _ _, ?_, hrl, ?_⟩
  · rw [BV.Proofs.Twooffive.expected, row0_mk1D]; rfl
  · rw [BV.Proofs.Twooffive.expected, row0_mk1D, hrl, ← BV.Proofs.Twooffive.digitsOf_runes c hd]
    cases interleaved with
    | false =>
      rw [if_neg Bool.false_ne_true, if_neg Bool.false_ne_true]
      exact BV.Proofs.Twooffive.decode_std _ (digitsOf_lt hd)
    | true =>
      rw [if_pos rfl, if_pos rfl]
      exact BV.Proofs.Twooffive.decode_il _ (digitsOf_lt hd) (by rw [digitsOf_length]; exact he rfl)

/-- C08, check-digit helper.  For every non-empty ASCII digit string `AddCheckSum` appends one digit `d` such that
    the 3-1 weighted sum (from the right, the new digit with weight 1) is a multiple of ten; for the empty string and
    for any string containing a non-digit byte it returns an error. -/
theorem C08_addCheckSum (c : Bytes) :
    (c ≠ [] ∧ AllDigits c → ∃ d, d < 10 ∧ Model.Twooffive.addCheckSum c = some (c ++ [digitByte d]) ∧
      tofWeightedSum (digitsOf c ++ [d]) % 10 = 0 ∧ digitsOf (c ++ [digitByte d]) = digitsOf c ++ [d]) ∧
    (c = [] ∨ ¬ AllDigits c → Model.Twooffive.addCheckSum c = none) := by
  refine ⟨fun ⟨hne, hd⟩ => ⟨checkDigit (digitsOf c), BV.Proofs.Twooffive.checkDigit_lt _,
    BV.Proofs.Twooffive.addCheckSum_digits c hne hd, BV.Proofs.Twooffive.checkDigit_spec _, ?_⟩,
    BV.Proofs.Twooffive.addCheckSum_bad c⟩
  rw [digitsOf_append]
  simp only [digitsOf, List.map_cons, List.map_nil]
  rw [digitByte_toNat _ (BV.Proofs.Twooffive.checkDigit_lt _)]
  simp

/-! ### the hypotheses are satisfiable: concrete inputs -/

/-- "A12-3$B" matches; "A12", "AxB" and a text with a two-byte UTF-8 character do not -/
example : matchesCodabar [65, 49, 50, 45, 51, 36, 66] = true ∧ matchesCodabar [65, 49, 50] = false ∧
    matchesCodabar [65, 120, 66] = false ∧ matchesCodabar [65, 0xC3, 0xA9, 66] = false := by decide

/-- "1234" is accepted in both modes, "123" only in standard mode, "12a4" and "" in neither -/
example : Tof.Accepts [49, 50, 51, 52] true ∧ Tof.Accepts [49, 50, 51, 52] false ∧
    ¬ Tof.Accepts [49, 50, 51] true ∧ Tof.Accepts [49, 50, 51] false ∧
    ¬ Tof.Accepts [49, 50, 97, 52] false ∧ ¬ Tof.Accepts [] false := by decide

/-- the check digit of "1234567" is 0 (3·7+6+3·5+4+3·3+2+3·1 = 60) -/
example : checkDigit [1, 2, 3, 4, 5, 6, 7] = 0 ∧ tofWeightedSum [1, 2, 3, 4, 5, 6, 7, 0] = 60 := by decide

/-- so the encoders return barcodes for these texts, and the round-trip theorems apply to them -/
example : (∃ bc, Model.Codabar.encode [65, 49, 50, 45, 51, 36, 66] = .ok bc) ∧
    (∃ bc, Model.Twooffive.encode [49, 50, 51, 52] true = .ok bc) ∧
    (∃ bc, Model.Twooffive.encode [49, 50, 51] false = .ok bc) :=
  ⟨(C08_codabar_accept _).1.2 (by decide), (C08_tof_accept _ _).1.2 (by decide), (C08_tof_accept _ _).1.2 (by decide)⟩

end BV.Props.C08
