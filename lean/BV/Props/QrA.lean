/-
  QrA — QR Code: tables, version choice, data bit stream, acceptance, panic freedom.
  Only property statements live here; the lemmas are in BV/Proofs/QrTables.lean (A), QrStreamA.lean (B, C),
  QrBlocks.lean (C, `splitToBlocks`), QrAccept.lean (D), QrRender.lean (D, pipeline) and QrCoords.lean (D, index ranges).

  "certificate" = the finite fact is checked by kernel evaluation over the whole generated table
  (`decide +kernel` in BV/Proofs/QrTables.lean) and then lifted to the quantified statement given here.
-/
import BV.Proofs.QrCoords
namespace BV.Props.QrA
open BV BV.Model BV.Model.Qr BV.Gen.Qr
open BV.Proofs.QrTables BV.Proofs.QrStreamA BV.Proofs.QrAccept BV.Proofs.QrBlocks BV.Proofs.QrRender BV.Proofs.QrCoords

/-! ## A — table certificates -/

/-- Certificate.  The 160 generated rows of `versionInfos` are exactly Table 9 of ISO/IEC 18004 as written
    down in `Spec.Qr.blockTable`, in table order (`isoRows` = the table flattened: version, level index, ec
    codewords per block, group 1, group 2 or 0×0); Table 9 itself lists the versions 1..40 in order, each with
    the four levels in the order L, M, Q, H (= 0, 1, 2, 3) and one or two groups per entry. -/
theorem versionInfos_eq_iso :
    versionInfos = isoRows ∧
    Spec.Qr.blockTable.map (·.1) = (List.range 40).map (· + 1) ∧
    (∀ vr ∈ Spec.Qr.blockTable, vr.2.map (·.1) = ['L', 'M', 'Q', 'H']) ∧
    (∀ vr ∈ Spec.Qr.blockTable, ∀ e ∈ vr.2, e.2.2.length = 1 ∨ e.2.2.length = 2) :=
  ⟨versionInfos_eq_isoRows, blockTable_shape⟩

/-- Certificate.  The table is sorted by version; its (version, level) keys are (1,0),(1,1),(1,2),(1,3),
    (2,0), …, (40,3); hence every row has 1 ≤ version ≤ 40 and level ≤ 3, and every such (version, level)
    occurs exactly once. -/
theorem versionInfos_sorted_complete :
    versionInfos.Pairwise (fun a b => a.version ≤ b.version) ∧
    versionInfos.map (fun vi => (vi.version, vi.level)) = (List.range 160).map (fun i => (i / 4 + 1, i % 4)) ∧
    (∀ vi ∈ versionInfos, 1 ≤ vi.version ∧ vi.version ≤ 40 ∧ vi.level ≤ 3) ∧
    (∀ v l, 1 ≤ v → v ≤ 40 → l ≤ 3 →
      (versionInfos.map (fun vi => (vi.version, vi.level))).count (v, l) = 1) :=
  ⟨versionInfos_sorted, versionInfos_keys, fun _ h => mem_versionInfos_range h, fun v l h1 h40 hl => by
    rw [versionInfos_keys_nodup.count, if_pos ((mem_keys_iff v l).mpr ⟨h1, h40, hl⟩)]⟩

/-- For every version 1..40 and level 0..3 there is exactly one row. -/
theorem versionInfos_exists_unique (v l : Nat) (h1 : 1 ≤ v) (h40 : v ≤ 40) (hl : l ≤ 3) :
    ∃ vi, vi ∈ versionInfos ∧ vi.version = v ∧ vi.level = l ∧
      ∀ vi', vi' ∈ versionInfos → vi'.version = v → vi'.level = l → vi' = vi := by
  obtain ⟨vi, hvi, e⟩ := List.mem_map.mp ((mem_keys_iff v l).mpr ⟨h1, h40, hl⟩)
  simp only [Prod.mk.injEq] at e
  refine ⟨vi, hvi, e.1, e.2, fun vi' hvi' ev el => ?_⟩
  exact nodup_map_inj _ _ versionInfos_keys_nodup vi' vi hvi' hvi
    (by simp only [Prod.mk.injEq]; exact ⟨ev.trans e.1.symm, el.trans e.2.symm⟩)

/-- Certificate.  For every generated row, the table lookup of the reference decoder
    (`specEntry` = `blockTable.lookup version` then the entry of `levelChar level`) gives the same number of ec
    codewords per block, the same block lengths in the same order (group 1 first), the same number of blocks,
    and `totalDataBytes` is the number of data codewords the decoder derives. -/
theorem versionInfos_row_spec (vi : VersionInfo) (h : vi ∈ versionInfos) :
    ∃ groups, specEntry vi.version vi.level = some (vi.errorCorrectionCodewordsPerBlock, groups) ∧
      specLens groups = List.replicate vi.numberOfBlocksInGroup1 vi.dataCodeWordsPerBlockInGroup1 ++
        List.replicate vi.numberOfBlocksInGroup2 vi.dataCodeWordsPerBlockInGroup2 ∧
      (specLens groups).length = vi.numberOfBlocksInGroup1 + vi.numberOfBlocksInGroup2 ∧
      (specLens groups).foldl (· + ·) 0 = vi.totalDataBytes := by
  obtain ⟨groups, he, hl⟩ := (rowOk_of_mem h).1
  exact ⟨groups, he, hl, by rw [hl, length_rowLens], by rw [hl, sum_rowLens]⟩

/-- Certificate over the 32 words.  For every level l ≤ 3 and mask m ≤ 7 the generated format word has 15
    bits; read most significant bit first and with the mask pattern 0x5412 removed it is a word of the
    BCH(15,5) code with generator 0x537; its five data bits are (ISO level bits of l: L=01, M=00, Q=11, H=10)
    followed by m; the reference decoder reads back level l and mask m. -/
theorem formatInfos_bch (l m : Nat) (hl : l ≤ 3) (hm : m ≤ 7) :
    (formatInfoOf l m).length = 15 ∧
    Spec.Qr.formatWordValid (bitsToNat (formatInfoOf l m) ^^^ Spec.Qr.formatMaskPattern) = true ∧
    (bitsToNat (formatInfoOf l m) ^^^ Spec.Qr.formatMaskPattern) / 2 ^ 10 = isoLevelBits l * 8 + m ∧
    Spec.Qr.levelOfFormatBits ((bitsToNat (formatInfoOf l m) ^^^ Spec.Qr.formatMaskPattern) / 2 ^ 13) = l ∧
    ((bitsToNat (formatInfoOf l m) ^^^ Spec.Qr.formatMaskPattern) / 2 ^ 10) % 8 = m :=
  BV.Proofs.QrTables.formatInfos_bch l m hl hm

/-- Certificate.  The map has exactly the keys 0..3, every inner map exactly the keys 0..7 (32 entries);
    any other level or mask gives the nil slice. -/
theorem formatInfos_entries :
    v_formatInfos.map (·.1) = [0, 1, 2, 3] ∧
    (∀ e ∈ v_formatInfos, e.2.map (·.1) = [0, 1, 2, 3, 4, 5, 6, 7]) ∧
    (∀ l m, 4 ≤ l → formatInfoOf l m = []) ∧ (∀ l m, 8 ≤ m → formatInfoOf l m = []) :=
  ⟨formatInfos_keys.1, formatInfos_keys.2, formatInfoOf_level_undefined, formatInfoOf_mask_undefined⟩

/-- Placement.  `drawFormatInfo` writes list index i of the word at the module where the reference decoder
    reads bit 14 - i of the first copy and of the second copy: the generated lists are most significant bit
    first, as `formatInfos_bch` reads them.  (`formatCells` is the literal cell list of `drawFormatInfo`,
    see `drawFormatInfo_eq`, which holds by `rfl`.) -/
theorem formatInfo_placement (dim : Nat) (h : 21 ≤ dim) :
    formatCells dim =
      (List.range 15).map (fun i => ((Spec.Qr.formatPosA (14 - i)).1, (Spec.Qr.formatPosA (14 - i)).2, i)) ++
      (List.range 15).map (fun i => ((Spec.Qr.formatPosB dim (14 - i)).1, (Spec.Qr.formatPosB dim (14 - i)).2, i)) :=
  formatCells_spec dim h

/-- Certificate over the 34 words.  For 7 ≤ v ≤ 40 the generated version word has 18 bits, is (most
    significant bit first) a word of the BCH(18,6) code with generator 0x1F25, and its six data bits are v. -/
theorem versionInfoBits_bch (v : Nat) (h7 : 7 ≤ v) (h40 : v ≤ 40) :
    ∃ bits, mapGet v_versionInfoBitsByVersion (v : Int) = some bits ∧ bits.length = 18 ∧
      Spec.Qr.versionWordValid (bitsToNat bits) = true ∧ bitsToNat bits / 2 ^ 12 = v :=
  BV.Proofs.QrTables.versionInfoBits_bch v h7 h40

/-- There is no version word for versions below 7 (or above 40): `drawVersionInfo` draws nothing. -/
theorem versionInfoBits_none (v : Nat) (h : v < 7 ∨ 40 < v) :
    mapGet v_versionInfoBitsByVersion (v : Int) = none :=
  BV.Proofs.QrTables.versionInfoBits_none v h

/-- Placement.  `drawVersionInfo` writes list element n-1-i (bit i, 0 = least significant) at the two
    places where the reference decoder reads bit i (`versionPosA`, `versionPosB`). -/
theorem versionInfo_placement {σ} (vi : VersionInfo) (set : Nat → Nat → Bool → σ → σ) (st : σ) :
    drawVersionInfo vi set st =
      match mapGet v_versionInfoBitsByVersion (vi.version : Int) with
      | none => st
      | some bits =>
        if bits.length > 0 then
          (List.range bits.length).foldl (fun st i =>
            let a := Spec.Qr.versionPosA vi.modulWidth i
            let b := Spec.Qr.versionPosB vi.modulWidth i
            let v := bits.getD (bits.length - i - 1) false
            set b.1 b.2 v (set a.1 a.2 v st)) st
        else st :=
  rfl

/-- Certificate.  The generated `charSet` is the alphanumeric set of the standard in value order; its 45
    characters are pairwise distinct, all ASCII, and `strings.IndexRune(charSet, c)` of the i-th character is i. -/
theorem charSet_eq :
    c_charSet = Spec.Qr.alnumChars ∧ c_charSet.length = 45 ∧ c_charSet.Nodup ∧
    (∀ b ∈ c_charSet, b.toNat < 128) ∧
    (∀ i : Nat, i < 45 → indexRune c_charSet (c_charSet.getD i 0).toNat = (i : Int)) :=
  ⟨BV.Proofs.QrTables.charSet_eq, by decide, charSet_nodup, charSet_ascii, fun i hi => by
    have hi : i < c_charSet.length := hi
    rw [List.getD_eq_getElem?_getD, List.getElem?_eq_getElem hi, Option.getD_some,
      indexRune_charSet_of_mem (List.getElem_mem hi), charSet_nodup.idxOf_getElem i hi]⟩

/-- Certificate: the model function evaluated on the 40 versions.  For every version 1..40
    `alignmentPatternPlacements` is the row of Annex E. -/
theorem alignment_eq_annexE (vi : VersionInfo) (h1 : 1 ≤ vi.version) (h40 : vi.version ≤ 40) :
    Spec.Qr.alignmentCentres.lookup vi.version = some vi.alignmentPatternPlacements :=
  BV.Proofs.QrTables.alignment_eq_annexE vi h1 h40

/-- The width of the character count indicator is that of Table 3, for every version and every mode value
    except kanji (8), which the encoder never uses and the reference decoder does not know. -/
theorem charCountBits_eq (vi : VersionInfo) (m : Nat) (hm : m ≠ 8) :
    vi.charCountBits m = Spec.Qr.countBits vi.version m :=
  BV.Proofs.QrTables.charCountBits_eq vi m hm

/-- The side length is 17 + 4·version. -/
theorem modulWidth_eq (vi : VersionInfo) (h1 : 1 ≤ vi.version) : vi.modulWidth = 17 + 4 * vi.version :=
  BV.Proofs.QrTables.modulWidth_eq vi h1

/-- Certificate over the 160 rows.  `totalDataBytes` is the number of data codewords of Table 9. -/
theorem totalDataBytes_eq (vi : VersionInfo) (h : vi ∈ versionInfos) :
    ∃ ec groups, specEntry vi.version vi.level = some (ec, groups) ∧
      vi.totalDataBytes = (specLens groups).foldl (· + ·) 0 := by
  obtain ⟨groups, h1, _, _, h4⟩ := versionInfos_row_spec vi h
  exact ⟨_, groups, h1, h4.symm⟩

/-! ## B — version choice -/

/-- A row returned by `findSmallestVersionInfo` is a row of the table, has the requested level, and holds
    mode indicator + character count + payload: `dataBits + 4 + charCountBits ≤ 8 · totalDataBytes` (`Fits`). -/
theorem findSmallest_fits (ecl mode dataBits : Nat) (vi : VersionInfo)
    (h : findSmallestVersionInfo ecl mode dataBits = some vi) :
    vi ∈ versionInfos ∧ vi.level = ecl ∧ dataBits + 4 + vi.charCountBits mode ≤ 8 * vi.totalDataBytes :=
  BV.Proofs.QrStreamA.findSmallest_fits h

/-- It is the smallest: no row of the same level with a smaller version fits. -/
theorem findSmallest_minimal (ecl mode dataBits : Nat) (vi : VersionInfo)
    (h : findSmallestVersionInfo ecl mode dataBits = some vi) :
    ∀ vi', vi' ∈ versionInfos → vi'.level = ecl → vi'.version < vi.version →
      ¬ (dataBits + 4 + vi'.charCountBits mode ≤ 8 * vi'.totalDataBytes) :=
  BV.Proofs.QrStreamA.findSmallest_minimal h

/-- `none` iff no row of that level fits; in particular always `none` for an undefined level (≥ 4). -/
theorem findSmallest_none_iff (ecl mode dataBits : Nat) :
    (findSmallestVersionInfo ecl mode dataBits = none ↔
      ∀ vi, vi ∈ versionInfos → vi.level = ecl →
        ¬ (dataBits + 4 + vi.charCountBits mode ≤ 8 * vi.totalDataBytes)) ∧
    (4 ≤ ecl → findSmallestVersionInfo ecl mode dataBits = none) :=
  ⟨BV.Proofs.QrStreamA.findSmallest_none_iff ecl mode dataBits, findSmallest_none_of_level ecl mode dataBits⟩

/-- The payload sizes the three encoders ask for, with n = BYTE length of the content:
    numeric 10·(n/3) + (0, 4, 7 for n mod 3 = 0, 1, 2), alphanumeric 11·(n/2) + 6·(n mod 2), byte 8·n;
    and what they return in terms of the pieces (`header` = mode indicator ++ character count). -/
theorem payload_bit_counts (content : Bytes) (ecl : Nat) :
    (encodeNumeric content ecl =
      match findSmallestVersionInfo ecl 1 (numericBits content.length) with
      | none => none
      | some vi =>
        match numericChunks content.length content with
        | none => none
        | some chunks => some (addPaddingAndTerminator (header 1 content.length vi ++ chunks) vi, vi)) ∧
    (encodeAlphaNumeric content ecl =
      match findSmallestVersionInfo ecl 2 (alnumBits content.length) with
      | none => none
      | some vi =>
        match alphaPairs (content.length / 2) (stringToAlphaIdx content) with
        | none => none
        | some (pairs, rest) =>
          if content.length % 2 = 1 then
            if (recv rest).1 < 0 then none
            else some (addPaddingAndTerminator
              (header 2 content.length vi ++ (pairs ++ msbBits (recv rest).1.toNat 6)) vi, vi)
          else some (addPaddingAndTerminator (header 2 content.length vi ++ pairs) vi, vi)) ∧
    (encodeUnicode content ecl =
      match findSmallestVersionInfo ecl 4 (byteBits content.length) with
      | none => none
      | some vi => some (addPaddingAndTerminator
          (header 4 content.length vi ++ content.flatMap (fun b => msbBits b.toNat 8)) vi, vi)) ∧
    numericBits content.length =
      10 * (content.length / 3) + (if content.length % 3 = 1 then 4 else if content.length % 3 = 2 then 7 else 0) ∧
    alnumBits content.length = 11 * (content.length / 2) + 6 * (content.length % 2) ∧
    byteBits content.length = 8 * content.length :=
  ⟨by rw [encodeNumeric_eq]; rfl, by
    unfold encodeAlphaNumeric alnumBits header c_alphaNumericMode
    have h : content.length % 2 = 0 ∨ content.length % 2 = 1 := by omega
    rw [Nat.mul_comm 11]
    rcases h with h | h <;> simp only [h] <;> rfl,
   by rw [encodeUnicode_eq]; rfl, rfl, rfl, rfl⟩

/-! ## C — length and shape of the data bit stream -/

/-- C.  `addPaddingAndTerminator` on a stream that does not exceed the capacity: the input, then
    min(4, capacity − length) zero bits, then zero bits up to the next multiple of 8, then the pad codewords
    236, 17, 236, … (`padSeq n 0`); the total length is exactly the capacity 8·totalDataBytes. -/
theorem addPaddingAndTerminator_shape (bl : List Bool) (vi : VersionInfo)
    (h : bl.length ≤ 8 * vi.totalDataBytes) :
    let cap := 8 * vi.totalDataBytes
    let t := min 4 (cap - bl.length)
    let a := (8 - (bl.length + t) % 8) % 8
    addPaddingAndTerminator bl vi =
      bl ++ (List.replicate t false ++ (List.replicate a false ++ padSeq ((cap - (bl.length + t + a)) / 8) 0)) ∧
    (addPaddingAndTerminator bl vi).length = cap :=
  ⟨addPaddingAndTerminator_padded bl vi, length_addPaddingAndTerminator bl vi h⟩

/-- C (numeric).  If `encodeNumeric` returns `(bits, vi)` then (`StreamSpec`): vi is the row the version search
    returns for `numericBits n` (so of level ecl and minimal), `bits.length = 8 · vi.totalDataBytes`,
    bits = mode indicator 0001 ++ count ++ payload of `numericBits n` bits ++ terminator ++ padding, the count
    field has the width of Table 3 and n < 2^width. -/
theorem encodeNumeric_stream (content : Bytes) (ecl : Nat) (bits : List Bool) (vi : VersionInfo)
    (h : encodeNumeric content ecl = some (bits, vi)) :
    StreamSpec 1 content (numericBits content.length) ecl bits vi :=
  BV.Proofs.QrStreamA.encodeNumeric_stream h

/-- C (alphanumeric).  The same for `encodeAlphaNumeric` (mode 0010, `alnumBits n` payload bits). -/
theorem encodeAlphaNumeric_stream (content : Bytes) (ecl : Nat) (bits : List Bool) (vi : VersionInfo)
    (h : encodeAlphaNumeric content ecl = some (bits, vi)) :
    StreamSpec 2 content (alnumBits content.length) ecl bits vi :=
  BV.Proofs.QrStreamA.encodeAlphaNumeric_stream h

/-- C (byte).  The same for `encodeUnicode` (mode 0100, 8·n payload bits). -/
theorem encodeUnicode_stream (content : Bytes) (ecl : Nat) (bits : List Bool) (vi : VersionInfo)
    (h : encodeUnicode content ecl = some (bits, vi)) :
    StreamSpec 4 content (byteBits content.length) ecl bits vi :=
  BV.Proofs.QrStreamA.encodeUnicode_stream h

/-- C (auto).  A result of `encodeAuto` is a numeric, an alphanumeric or a byte stream. -/
theorem encodeAuto_stream (content : Bytes) (ecl : Nat) (bits : List Bool) (vi : VersionInfo)
    (h : encodeAuto content ecl = some (bits, vi)) :
    StreamSpec 1 content (numericBits content.length) ecl bits vi ∨
    StreamSpec 2 content (alnumBits content.length) ecl bits vi ∨
    StreamSpec 4 content (byteBits content.length) ecl bits vi :=
  BV.Proofs.QrStreamA.encodeAuto_stream h

/-- C.  What `StreamSpec` gives in elementary terms: length = capacity, level, and the stream starts with the
    4-bit mode indicator followed by the character count of the Table 3 width, which reads back (most significant
    bit first) as the byte length of the content. -/
theorem stream_length_level_prefix (mode : Nat) (content : Bytes) (pb ecl : Nat) (bits : List Bool)
    (vi : VersionInfo) (h : StreamSpec mode content pb ecl bits vi) :
    bits.length = 8 * vi.totalDataBytes ∧ vi.level = ecl ∧ vi ∈ versionInfos ∧
    ∃ rest, bits = msbBits mode 4 ++ (msbBits content.length (Spec.Qr.countBits vi.version mode) ++ rest) ∧
      bitsToNat (msbBits content.length (Spec.Qr.countBits vi.version mode)) = content.length :=
  ⟨h.length, h.level, h.mem, h.prefix⟩

/-- C / C16 (pipeline condition).  For every defined encoding (0..3) a successful mode encoder returns a stream of
    exactly 8·totalDataBytes bits, so `IterateBytes` sends exactly `totalDataBytes` bytes; `splitToBlocks` performs
    exactly `totalDataBytes` receives: the data codewords of its `n1 + n2` blocks, concatenated, are the bytes
    sent (no receive on the closed channel, no byte left over), and it does not panic. -/
theorem producer_consumer_agree (mode : Nat) (enc : EncodeFn) (hg : getEncoder mode = some enc)
    (content : Bytes) (level : Nat) (bits : List Bool) (vi : VersionInfo)
    (h : enc content level = some (bits, vi)) :
    (iterateBytes bits).length = vi.totalDataBytes ∧
    ∃ blocks, splitToBlocks (iterateBytes bits) vi = .ok blocks ∧
      blocks.length = vi.numberOfBlocksInGroup1 + vi.numberOfBlocksInGroup2 ∧
      (∀ b ∈ blocks, b.ecc = calcECC b.data vi.errorCorrectionCodewordsPerBlock) ∧
      blocks.flatMap (·.data) = iterateBytes bits := by
  obtain ⟨hmem, _, hlen⟩ := encoder_result hg h
  have hl := (BV.Proofs.Bits.pack8_unpack vi.totalDataBytes bits hlen).1
  obtain ⟨blocks, h1, h2, h3, h4⟩ := splitToBlocks_spec vi (iterateBytes bits) (rowSide_of_mem hmem).1
  exact ⟨hl, blocks, h1, by rw [← length_rowLens, ← h2, List.length_map], h3, h4 hl⟩

/-! ## D — acceptance and panic freedom -/

/-- D (numeric), every level.  `encodeNumeric` accepts iff every byte of the content is an ASCII digit and the
    version search succeeds for `numericBits n`.  (A leading sign, which `strconv.Atoi` would accept, is rejected
    by the encoder's own check.) -/
theorem encodeNumeric_accepts_iff (content : Bytes) (ecl : Nat) :
    (encodeNumeric content ecl).isSome = true ↔
      (∀ b ∈ content, 48 ≤ b.toNat ∧ b.toNat ≤ 57) ∧
      (findSmallestVersionInfo ecl 1 (numericBits content.length)).isSome = true :=
  encodeNumeric_isSome content ecl

/-- D (alphanumeric), every level.  `encodeAlphaNumeric` accepts iff every byte is one of the 45 characters and
    the version search succeeds for `alnumBits n`.  (Content with a byte ≥ 0x80 is rejected whether or not it is
    valid UTF-8: the rune stream then contains U+FFFD or a rune ≥ 0x80, which is outside the set, and the
    consumer performs enough receives to see it.) -/
theorem encodeAlphaNumeric_accepts_iff (content : Bytes) (ecl : Nat) :
    (encodeAlphaNumeric content ecl).isSome = true ↔
      (∀ b ∈ content, b ∈ c_charSet) ∧
      (findSmallestVersionInfo ecl 2 (alnumBits content.length)).isSome = true :=
  encodeAlphaNumeric_isSome content ecl

/-- D (byte), every level.  `encodeUnicode` accepts iff the version search succeeds for 8·n. -/
theorem encodeUnicode_accepts_iff (content : Bytes) (ecl : Nat) :
    (encodeUnicode content ecl).isSome = true ↔
      (findSmallestVersionInfo ecl 4 (byteBits content.length)).isSome = true :=
  encodeUnicode_isSome content ecl

/-- D (auto).  `encodeAuto` is the first success of numeric, alphanumeric, byte, in that order. -/
theorem encodeAuto_first_success (content : Bytes) (ecl : Nat) :
    encodeAuto content ecl =
      ((encodeNumeric content ecl).orElse fun _ =>
        (encodeAlphaNumeric content ecl).orElse fun _ => encodeUnicode content ecl) ∧
    ((encodeAuto content ecl).isSome = true ↔
      (encodeNumeric content ecl).isSome = true ∨ (encodeAlphaNumeric content ecl).isSome = true ∨
      (encodeUnicode content ecl).isSome = true) :=
  ⟨encodeAuto_eq content ecl, by
    rw [encodeAuto_eq]
    cases encodeNumeric content ecl <;> cases encodeAlphaNumeric content ecl <;>
      cases encodeUnicode content ecl <;> simp⟩

/-- D.  The version search succeeds iff some row of the level fits; all encoders reject an undefined level. -/
theorem version_search_succeeds_iff (ecl mode dataBits : Nat) (content : Bytes) :
    ((findSmallestVersionInfo ecl mode dataBits).isSome = true ↔
      ∃ vi, vi ∈ versionInfos ∧ vi.level = ecl ∧ dataBits + 4 + vi.charCountBits mode ≤ 8 * vi.totalDataBytes) ∧
    (4 ≤ ecl → encodeNumeric content ecl = none ∧ encodeAlphaNumeric content ecl = none ∧
      encodeUnicode content ecl = none ∧ encodeAuto content ecl = none) :=
  ⟨findSmallest_isSome_iff ecl mode dataBits, fun h => by
    have h1 : encodeNumeric content ecl = none := by rw [encodeNumeric_eq, encodeWith_none_of_level _ _ _ h]
    have h2 : encodeAlphaNumeric content ecl = none := by
      rw [encodeAlphaNumeric_eq, encodeWith_none_of_level _ _ _ h]
    have h3 : encodeUnicode content ecl = none := by rw [encodeUnicode_eq, encodeWith_none_of_level _ _ _ h]
    exact ⟨h1, h2, h3, by rw [encodeAuto_eq, h1, h2, h3]; rfl⟩⟩

/-- D (panic freedom), every level, every defined encoding (0..3), every colour scheme.  `EncodeWithColor`
    returns the error of the mode encoder when that rejects, and otherwise a barcode; in particular never
    `.error .panic`.  Covers the whole pipeline: nil-encoder check, `splitToBlocks`, `interleave` (total),
    `render` (eight result bitmaps, a lowest-penalty index in 0..7). -/
theorem encodeWithColor_no_panic (content : Bytes) (level mode : Nat) (color : Scheme) (hm : mode ≤ 3) :
    encodeWithColor content level mode color ≠ .error .panic ∧
    ∃ enc, getEncoder mode = some enc ∧
      ((enc content level = none ∧ encodeWithColor content level mode color = .error .rejected) ∨
       ((enc content level).isSome = true ∧ ∃ bc, encodeWithColor content level mode color = .ok bc)) := by
  obtain ⟨enc, hg, h⟩ := encodeWithColor_outcome content level mode color hm
  refine ⟨?_, enc, hg, h⟩
  rcases h with ⟨_, h⟩ | ⟨_, bc, h⟩ <;> rw [h] <;> intro e <;> cases e

/-- D.  The only panic of `EncodeWithColor`: an undefined encoding (≥ 4) is the call of a nil function. -/
theorem encodeWithColor_undefined_mode (content : Bytes) (level mode : Nat) (color : Scheme) (hm : 4 ≤ mode) :
    encodeWithColor content level mode color = .error .panic :=
  BV.Proofs.QrRender.encodeWithColor_undefined_mode content level mode color hm

/-- D.  `render` alone never takes a panic path, for arbitrary data, row and colours. -/
theorem render_no_panic (data : List Nat) (vi : VersionInfo) (color : Scheme) :
    ∃ r, renderWithMask data vi color = .ok r :=
  renderWithMask_ok data vi color

/-- D / C12 / C13.  A symbol returned by `encodeQR` belongs to a row of the table of the requested level, its
    side is 17 + 4·version, its bitmap has side² bits, the mask index is in 0..7, content and colours are the
    arguments. -/
theorem encodeQR_size (content : Bytes) (level mode : Nat) (color : Scheme) (qr : QRCode) (vi : VersionInfo)
    (mask : Nat) (h : encodeQR content level mode color = .ok (qr, vi, mask)) :
    vi ∈ versionInfos ∧ vi.level = level ∧ qr.dimension = 17 + 4 * vi.version ∧
    qr.data.size = qr.dimension * qr.dimension ∧ mask < 8 ∧ qr.content = content ∧ qr.color = color :=
  BV.Proofs.QrCoords.encodeQR_size content level mode color qr vi mask h

/-- D (index ranges).  The model's `QRCode.set` is total on the ground that the Go code only uses coordinates
    inside the symbol.  For the writes of `render` this is proved: (1) the function-pattern phase, abstracted over
    its three closures (`drawnG`; the real phase is the instance `drawn_eq_drawnG`), preserves every property
    that IN-RANGE calls of the closures preserve — so it makes no other calls; (2) every module the data loop
    visits is inside the symbol; (3) all nine bitmaps keep side `modulWidth` and `modulWidth²` bits, so that
    (4) an in-range coordinate pair is an in-range bit index. -/
theorem render_writes_in_range (vi : VersionInfo) (hmem : vi ∈ versionInfos) (color : Scheme) :
    (∀ {σ : Type} (P : σ → Prop) (occ : σ → Nat → Nat → Bool)
        (setA setO : Nat → Nat → Bool → σ → σ) (setR : Nat → Nat → Nat → Bool → σ → σ),
        (∀ x y v st, x < vi.modulWidth → y < vi.modulWidth → P st → P (setA x y v st)) →
        (∀ x y v st, x < vi.modulWidth → y < vi.modulWidth → P st → P (setO x y v st)) →
        (∀ i x y v st, i < 8 → x < vi.modulWidth → y < vi.modulWidth → P st → P (setR i x y v st)) →
        ∀ st, P st → P (drawnG vi occ setA setO setR st)) ∧
    (∀ p ∈ iterateModules (drawn vi color).occupied, p.1 < vi.modulWidth ∧ p.2 < vi.modulWidth) ∧
    StOk color vi.modulWidth (drawn vi color) ∧
    (∀ data, ∀ q ∈ (written data (drawn vi color)).1, QROk color vi.modulWidth q) ∧
    (∀ x y d : Nat, x < d → y < d → x * d + y < d * d) :=
  ⟨fun P occ setA setO setR hA hO hR st h => drawnG_guard P vi hmem occ setA setO setR hA hO hR st h,
   written_positions_range vi color (mem_versionInfos_range hmem).1,
   drawn_ok vi color,
   fun data => (written_ok vi.modulWidth data _ (drawn_ok vi color)).2,
   fun _ _ _ hx hy => BV.Proofs.QrMatrix.index_lt hy hx⟩

/-- D (index ranges, reads).  The model's `QRCode.get` is total on the same ground.  For `render`: (1) the
    function-pattern phase reads `occupied` only inside the symbol (two read functions that agree there give the
    same run); (2) every point of the zig-zag walk, at which `iterateModules` reads `occupied`, is inside the
    symbol; (3) penalty rules 1–3 read only inside the symbol (two bitmaps of the same side that agree there get
    the same penalty; rule 4 folds over the bit array itself).  The remaining read, the data byte
    `bytes[curBitNo/8]`, is guarded in the code by `curBitNo < 8·len(bytes)`. -/
theorem render_reads_in_range (vi : VersionInfo) (hmem : vi ∈ versionInfos) :
    (∀ {σ : Type} (occ occ' : σ → Nat → Nat → Bool),
        (∀ st x y, x < vi.modulWidth → y < vi.modulWidth → occ st x y = occ' st x y) →
        ∀ (setA setO : Nat → Nat → Bool → σ → σ) (setR : Nat → Nat → Nat → Bool → σ → σ) (st : σ),
          drawnG vi occ setA setO setR st = drawnG vi occ' setA setO setR st) ∧
    (∀ p ∈ allPoints vi.modulWidth,
        0 ≤ p.1 ∧ p.1 < (vi.modulWidth : Int) ∧ 0 ≤ p.2 ∧ p.2 < (vi.modulWidth : Int)) ∧
    (∀ q q' : QRCode, AgreeInRange q q' →
        q.calcPenaltyRule1 = q'.calcPenaltyRule1 ∧ q.calcPenaltyRule2 = q'.calcPenaltyRule2 ∧
        q.calcPenaltyRule3 = q'.calcPenaltyRule3) := by
  refine ⟨fun occ occ' h setA setO setR st => drawnG_occ_congr vi hmem occ occ' h setA setO setR st, ?_,
    fun q q' h => ⟨calcPenaltyRule1_congr q q' h, calcPenaltyRule2_congr q q' h, calcPenaltyRule3_congr q q' h⟩⟩
  have h1 := (mem_versionInfos_range hmem).1
  rw [BV.Proofs.QrTables.modulWidth_eq vi h1]
  exact allPoints_range vi.version

/-! ## the hypotheses are satisfiable -/

-- B: 10 digits at level M go into version 1 (34 + 4 + 10 = 48 ≤ 128 bits)
example : (findSmallestVersionInfo 1 1 (numericBits 10)).map (·.version) = some 1 := by decide +kernel
-- B: 3000 bytes fit nowhere; an undefined level fits nowhere
example : findSmallestVersionInfo 0 4 (byteBits 3000) = none := by decide +kernel
-- C / D: "0123456789" is accepted as numeric, 16 data bytes at level M
example : (encodeNumeric [48, 49, 50, 51, 52, 53, 54, 55, 56, 57] 1).map (fun r => (r.1.length, r.2.version)) =
    some (128, 1) := by decide +kernel
-- D: a sign is rejected, "+12"
example : encodeNumeric [43, 49, 50] 1 = none := by decide +kernel
-- D: "AC-42" is alphanumeric; "a" is not; 0xC3 0xA9 (é) is not
example : (encodeAlphaNumeric [65, 67, 45, 52, 50] 3).isSome = true := by decide +kernel
example : encodeAlphaNumeric [97] 0 = none := by decide +kernel
example : encodeAlphaNumeric [0xC3, 0xA9] 0 = none := by decide +kernel
-- D: auto falls through to byte mode for "a"
example : (encodeAuto [97] 0).map (fun r => r.1.take 4) = some [false, true, false, false] := by decide +kernel
-- A: a format word and a version word
example : Spec.Qr.formatWordValid (bitsToNat (formatInfoOf 2 5) ^^^ Spec.Qr.formatMaskPattern) = true := by
  decide +kernel
example : (getEncoder 3).isSome = true := by decide

end BV.Props.QrA
