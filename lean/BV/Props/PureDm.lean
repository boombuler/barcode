/-
  PureDm — faithfulness preconditions of the pure-function models of these packages (Root, Utils, Datamatrix), as generated
  syntactic facts of the *current* source:
  * no package-level variable is assigned, incremented or sent to outside `init`, and no method of a type that has a
    package-level instance assigns a field through its receiver (no hidden state that could make a result depend on
    earlier calls — a memo, a free list, a resume hint);
  * no struct field is assigned directly from a slice parameter (no aliasing of caller memory);
  * the only assignments to fields through a method receiver are the three known ones in `utils` (`BitList.SetBit`,
    `BitList.grow`, and the Reed–Solomon cache in `getPolynomial`, which C15–C17 treat) — an object that several calls
    share (the encoders' package-level `ec`, its `ReedSolomonEncoder`) gets no new memory;
  * no local variable or struct field is a fixed-size array (the models work on unbounded lists; a scratch buffer of
    fixed capacity is a precondition they do not carry).
  Every property whose model treats an encoder as a function of its arguments depends on these facts, so they are among
  the obligations of each of those properties: a change that introduces such state fails this module in the check of every
  property of the family, whether or not an input exhibiting a wrong result is found (a memo keyed by a checksum can need
  a 2^-32 coincidence). (`utils.ReedSolomonEncoder`'s cache lives in a struct field and is handled by C15/C16/C17.)
-/
import BV.Gen.Root
import BV.Gen.Utils
import BV.Gen.Datamatrix
namespace BV.Props.PureDm
open BV

theorem pureDm_no_hidden_state :
    Gen.Root.fact_globalWrites = [] ∧ Gen.Root.fact_aliasAssign = [] ∧ Gen.Root.fact_fixedArrays = [] ∧ Gen.Root.fact_receiverWrites = [] ∧
    Gen.Utils.fact_globalWrites = [] ∧ Gen.Utils.fact_aliasAssign = [] ∧ Gen.Utils.fact_fixedArrays = [] ∧ Gen.Utils.fact_receiverWrites = ["BitList_SetBit:data", "BitList_grow:data", "ReedSolomonEncoder_getPolynomial:polynomes"] ∧
    Gen.Datamatrix.fact_globalWrites = [] ∧ Gen.Datamatrix.fact_aliasAssign = [] ∧ Gen.Datamatrix.fact_fixedArrays = [] ∧ Gen.Datamatrix.fact_receiverWrites = [] := by
  decide +kernel

/-- The library routines these packages call are exactly the ones the models were written against (DESIGN §7, item 5):
    a body that starts to use another routine — `math/bits.Div` instead of `big.Int.DivMod`, `hash/crc32`,
    `bytes.TrimPrefix`, `strings.HasPrefix` — is outside what the model mirrors, whether or not an input shows it. -/
theorem pureDm_external_calls :
    Gen.Root.fact_externalCalls = ["(image.Image).At", "(image.Image).Bounds", "(image.Image).ColorModel", "errors.New", "fmt.Errorf", "image.Rect", "math.Min"] ∧
    Gen.Utils.fact_externalCalls = ["(*sync.Mutex).Lock", "(*sync.Mutex).Unlock", "image.Rect"] ∧
    Gen.Datamatrix.fact_externalCalls = ["errors.New", "image.Rect", "strconv.Itoa"] := by
  decide +kernel

end BV.Props.PureDm
