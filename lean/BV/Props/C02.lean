/-
  C02 — DataMatrix: every accepted content decodes back to exactly that content.
  Assembly: `BV.Props.DmA` proves the whole chain for all contents up to one explicit hypothesis, Reed–Solomon
  validity of `rsEncode` over the DataMatrix field; `BV.Props.C17` proves exactly that.  Here the two are joined.
-/
import BV.Props.DmA
import BV.Props.C17
namespace BV.Props.C02
open BV BV.Model BV.Model.Datamatrix BV.Proofs.DmDecode

/-- Reed–Solomon validity of the DataMatrix check codewords, from C17 -/
theorem rsEncodeValid : RSEncodeValid := by
  intro d k hd hk1 hlen
  have hmem : (301, 256, 1) ∈ C17.fields := by decide
  have h := C17.C17_rs_encode 301 256 1 hmem d hd k hk1 (by omega) GF.newEncoder (C17.C17_newEncoder_inv _)
  rw [show ecField = GF.newField 301 256 1 from BV.Proofs.DmSize.ecField_eq]
  have he : (GF.encodeWith (GF.newField 301 256 1) GF.newEncoder d k).1 = GF.rsEncode (GF.newField 301 256 1) d k := h.2.2.2.1
  rw [← he]
  exact ⟨h.1, h.2.2.1⟩

/-- **C02**: for every content whose ASCII encodation has at most 1558 codewords (exactly the accepted ones,
    `DmA.accepted_iff`), the picture returned by the encoder passes every check of the ISO/IEC 16022 reference
    decoder — finder and clock tracks of every region, Annex F placement, every interleaved Reed–Solomon block,
    253-state padding — and decodes byte for byte to the content. -/
theorem C02_datamatrix : DmA.C02_statement := DmA.C02_decodes rsEncodeValid

end BV.Props.C02
