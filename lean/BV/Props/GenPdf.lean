/-
  GenPdf — the straight-line Go functions of package `pdf417`, machine-translated into `BV.Gen.Pdf417.f_*`
  (go/cmd/extract/funcs.go), agree with the hand-written model functions.
  A semantic edit of one of these Go functions changes the generated text and breaks the corresponding theorem here,
  whether or not the correspondence check samples an input that shows the difference.
-/
import BV.Gen.Pdf417Fns
import BV.Model.Pdf417
namespace BV.Props.GenPdf
open BV

@[simp] theorem idpure {α : Type} (x : α) : (pure x : Id α) = x := rfl

theorem tm3 (a : Nat) : Int.tmod (a : Int) 3 = ((a % 3 : Nat) : Int) := by
  rw [Int.tmod_eq_emod_of_nonneg (by omega)]; omega
theorem td3 (a : Nat) : Int.tdiv (a : Int) 3 = ((a / 3 : Nat) : Int) := by
  rw [Int.tdiv_eq_ediv_of_nonneg (by omega)]; omega

/-- `min`, `calculateNumberOfRows`, `securitylevel.ErrorCorrectionWordCount` -/
theorem gen_pdf_arith (a b m k c level : Nat) (_hc : 0 < c) :
    Gen.Pdf417.f_min (a : Int) (b : Int) = (Model.Pdf417.min a b : Int) ∧
    Gen.Pdf417.f_calculateNumberOfRows (m : Int) (k : Int) (c : Int) = (Model.Pdf417.calculateNumberOfRows m k c : Int) ∧
    Gen.Pdf417.f_securitylevel_ErrorCorrectionWordCount (level : Int)
      = (Model.Pdf417.errorCorrectionWordCount level : Int) := by
  refine ⟨?_, ?_, ?_⟩
  · unfold Gen.Pdf417.f_min Model.Pdf417.min
    by_cases h : a ≤ b
    · have h' : (a : Int) ≤ b := by omega
      simp [Id.run, h, h']
    · have h' : ¬ (a : Int) ≤ b := by omega
      simp [Id.run, h, h']
  · unfold Gen.Pdf417.f_calculateNumberOfRows Model.Pdf417.calculateNumberOfRows
    have hd : Int.tdiv ((m : Int) + 1 + k) (c : Int) = (((m + 1 + k) / c : Nat) : Int) := by
      rw [Int.tdiv_eq_ediv_of_nonneg (by omega)]; simp [Int.natCast_add]
    simp only [Id.run, pure, hd]
    generalize hq : (m + 1 + k) / c = q
    have hmul : (c : Int) * ((q : Int) + 1) = ((c * (q + 1) : Nat) : Int) := by simp
    simp only [hmul]
    generalize hp : c * (q + 1) = p
    by_cases h : p ≥ m + 1 + k + c
    · have h' : (p : Int) ≥ (m : Int) + 1 + k + c := by omega
      simp [h, h']
    · have h' : ¬ (p : Int) ≥ (m : Int) + 1 + k + c := by omega
      simp [h, h']
  · unfold Gen.Pdf417.f_securitylevel_ErrorCorrectionWordCount Model.Pdf417.errorCorrectionWordCount
    have : ((level : Int) + 1).toNat = level + 1 := by omega
    simp [Id.run, this, Nat.shiftLeft_eq]

/-- `getLeftCodeWord`, `getRightCodeWord` (for the non-negative arguments `encode` passes: `rows ≥ 1`,
`columns ≥ 1`) -/
theorem gen_pdf_indicators (rowNum rows columns lvl : Nat) (hr : 1 ≤ rows) (hc : 1 ≤ columns) :
    Gen.Pdf417.f_getLeftCodeWord (rowNum : Int) (rows : Int) (columns : Int) (lvl : Int)
      = (Model.Pdf417.getLeftCodeWord rowNum rows columns lvl : Int) ∧
    Gen.Pdf417.f_getRightCodeWord (rowNum : Int) (rows : Int) (columns : Int) (lvl : Int)
      = (Model.Pdf417.getRightCodeWord rowNum rows columns lvl : Int) := by
  have r1 : (rows : Int) - 1 = ((rows - 1 : Nat) : Int) := by omega
  have c1 : (columns : Int) - 1 = ((columns - 1 : Nat) : Int) := by omega
  unfold Gen.Pdf417.f_getLeftCodeWord Gen.Pdf417.f_getRightCodeWord Model.Pdf417.getLeftCodeWord
    Model.Pdf417.getRightCodeWord
  simp only [Id.run, pure, r1, c1, tm3, td3]
  have hcases : rowNum % 3 = 0 ∨ rowNum % 3 = 1 ∨ rowNum % 3 = 2 := by omega
  rcases hcases with h | h | h <;> rw [h] <;> simp [Int.natCast_add, Int.natCast_mul]

example : Gen.Pdf417.f_getLeftCodeWord 4 10 3 2 = 30 * 1 + 2 * 3 + 0 := by decide

end BV.Props.GenPdf
