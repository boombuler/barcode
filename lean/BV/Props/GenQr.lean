/-
  GenQr — the straight-line Go functions of package `qr`, machine-translated into `BV.Gen.Qr.f_*` on every run
  (go/cmd/extract/funcs.go), agree with the hand-written model functions (and, for the mask conditions, directly with the Spec).
  A semantic edit of one of these Go functions changes the generated text and breaks the corresponding theorem here,
  whether or not the correspondence check samples an input that shows the difference.
-/
import BV.Gen.QrFns
import BV.Model.Qr
import BV.Spec.Qr
namespace BV.Props.GenQr
open BV

@[simp] theorem idpure {α : Type} (x : α) : (pure x : Id α) = x := rfl

open Model.Qr in
/-- `versionInfo.totalDataBytes`, `modulWidth` -/
theorem gen_qr_sizes (vi : VersionInfo) (hv : 1 ≤ vi.version) :
    Gen.Qr.f_versionInfo_totalDataBytes vi.version vi.level vi.errorCorrectionCodewordsPerBlock
      vi.numberOfBlocksInGroup1 vi.dataCodeWordsPerBlockInGroup1 vi.numberOfBlocksInGroup2
      vi.dataCodeWordsPerBlockInGroup2 = (vi.totalDataBytes : Int) ∧
    Gen.Qr.f_versionInfo_modulWidth vi.version vi.level vi.errorCorrectionCodewordsPerBlock
      vi.numberOfBlocksInGroup1 vi.dataCodeWordsPerBlockInGroup1 vi.numberOfBlocksInGroup2
      vi.dataCodeWordsPerBlockInGroup2 = (vi.modulWidth : Int) := by
  unfold Gen.Qr.f_versionInfo_totalDataBytes Gen.Qr.f_versionInfo_modulWidth VersionInfo.totalDataBytes
    VersionInfo.modulWidth
  simp only [Id.run, pure]
  constructor
  · simp [Int.natCast_add, Int.natCast_mul]
  · have : ((vi.version - 1 : Nat) : Int) = (vi.version : Int) - 1 := by omega
    simp [Int.natCast_add, Int.natCast_mul, this]

open Model.Qr in
/-- `versionInfo.charCountBits` for the four mode indicators the code uses -/
theorem gen_qr_charCountBits (vi : VersionInfo) (m : Nat) (hm : m = 1 ∨ m = 2 ∨ m = 4 ∨ m = 8) :
    Gen.Qr.f_versionInfo_charCountBits vi.version vi.level vi.errorCorrectionCodewordsPerBlock
      vi.numberOfBlocksInGroup1 vi.dataCodeWordsPerBlockInGroup1 vi.numberOfBlocksInGroup2
      vi.dataCodeWordsPerBlockInGroup2 m = (vi.charCountBits m : Int) := by
  unfold Gen.Qr.f_versionInfo_charCountBits VersionInfo.charCountBits
  simp only [Id.run, pure]
  have c1 : Gen.Qr.c_numericMode = 1 := rfl
  have c2 : Gen.Qr.c_alphaNumericMode = 2 := rfl
  have c4 : Gen.Qr.c_byteMode = 4 := rfl
  have c8 : Gen.Qr.c_kanjiMode = 8 := rfl
  by_cases h10 : vi.version < 10
  · have h10' : (vi.version : Int) < 10 := by omega
    rcases hm with h | h | h | h <;> subst h <;> simp [c1, c2, c4, c8, h10, h10']
  · by_cases h27 : vi.version < 27
    · have h10' : ¬ (vi.version : Int) < 10 := by omega
      have h27' : (vi.version : Int) < 27 := by omega
      rcases hm with h | h | h | h <;> subst h <;> simp [c1, c2, c4, c8, h10, h27, h10', h27']
    · have h10' : ¬ (vi.version : Int) < 10 := by omega
      have h27' : ¬ (vi.version : Int) < 27 := by omega
      rcases hm with h | h | h | h <;> subst h <;> simp [c1, c2, c4, c8, h10, h27, h10', h27']

theorem beq0 (n : Nat) : (((n : Nat) : Int) == 0) = (n == 0) := by
  by_cases h : n = 0
  · subst h; rfl
  · have h' : ¬ ((n : Int) = 0) := by omega
    rw [beq_eq_false_iff_ne.mpr h', beq_eq_false_iff_ne.mpr h]

theorem tm2 (a : Nat) : Int.tmod (a : Int) 2 = ((a % 2 : Nat) : Int) := by
  rw [Int.tmod_eq_emod_of_nonneg (by omega)]; omega
theorem tm3 (a : Nat) : Int.tmod (a : Int) 3 = ((a % 3 : Nat) : Int) := by
  rw [Int.tmod_eq_emod_of_nonneg (by omega)]; omega
theorem td2 (a : Nat) : Int.tdiv (a : Int) 2 = ((a / 2 : Nat) : Int) := by
  rw [Int.tdiv_eq_ediv_of_nonneg (by omega)]; omega
theorem td3 (a : Nat) : Int.tdiv (a : Int) 3 = ((a / 3 : Nat) : Int) := by
  rw [Int.tdiv_eq_ediv_of_nonneg (by omega)]; omega

/-- `setMasked`: the value handed to `set` is `val` XOR the ISO mask condition (row = y, column = x), for each of
the eight mask numbers. -/
theorem gen_qr_setMasked (x y : Nat) (val : Bool) (mask : Nat) (hm : mask < 8) :
    Gen.Qr.f_setMasked (x : Int) (y : Int) val (mask : Int) = (val != Spec.Qr.maskCond mask y x) := by
  have hm' : mask = 0 ∨ mask = 1 ∨ mask = 2 ∨ mask = 3 ∨ mask = 4 ∨ mask = 5 ∨ mask = 6 ∨ mask = 7 := by omega
  rcases hm' with h | h | h | h | h | h | h | h <;> subst h <;>
    simp only [Gen.Qr.f_setMasked, Spec.Qr.maskCond, Id.run, pure, ← Int.natCast_add, ← Int.natCast_mul,
      tm2, tm3, td2, td3, beq0] <;> rfl

-- (no statement about mask numbers outside 0..7: `render` only passes 0..7, an edit of that dead path is harmless)

/-- runs the generated script of `drawFormatInfo`: one `set(x, y, formatInfo[k])` per entry, in order -/
def runFormatScript {σ} (f : Nat → Bool) (set : Nat → Nat → Bool → σ → σ) (st : σ) (script : List (List Int)) : σ :=
  script.foldl (fun st c =>
    match c with
    | [x, y, k] => set x.toNat y.toNat (f k.toNat) st
    | _ => st) st

open Model.Qr in
/-- `drawFormatInfo` of the model writes exactly the thirty cells that the Go function's calls of `set` name, with
    the same bit index each, in the same order (`dim = vi.modulWidth()`). -/
theorem gen_qr_drawFormatInfo {σ} (vi : VersionInfo) (usedMask : Int) (set : Nat → Nat → Bool → σ → σ) (st : σ) :
    drawFormatInfo vi usedMask set st =
      (let formatInfo : List Bool :=
        if usedMask == -1 then List.replicate 15 true else formatInfoOf vi.level usedMask.toNat
       if formatInfo.length == 15 then
         runFormatScript (fun i => formatInfo.getD i false) set st (Gen.Qr.s_drawFormatInfo vi.modulWidth)
       else st) := by
  unfold drawFormatInfo runFormatScript Gen.Qr.s_drawFormatInfo
  generalize vi.modulWidth = dim
  have h1 : ((dim : Int) - 1).toNat = dim - 1 := by omega
  have h2 : ((dim : Int) - 2).toNat = dim - 2 := by omega
  have h3 : ((dim : Int) - 3).toNat = dim - 3 := by omega
  have h4 : ((dim : Int) - 4).toNat = dim - 4 := by omega
  have h5 : ((dim : Int) - 5).toNat = dim - 5 := by omega
  have h6 : ((dim : Int) - 6).toNat = dim - 6 := by omega
  have h7 : ((dim : Int) - 7).toNat = dim - 7 := by omega
  have h8 : ((dim : Int) - 8).toNat = dim - 8 := by omega
  simp only [List.foldl, h1, h2, h3, h4, h5, h6, h7, h8]
  rfl

example : Gen.Qr.f_setMasked 3 4 true 5 = (true != Spec.Qr.maskCond 5 4 3) := by decide

end BV.Props.GenQr
