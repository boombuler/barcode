/-
  C18 — BitList behaves as an append-only bit sequence.
  Only property statements live here; lemmas are in BV/Proofs/BitList.lean.
-/
import BV.Proofs.BitList
namespace BV.Props.C18
open BV BV.Model.BitList BV.Proofs.BitList

/-- the mutating operations of `utils.BitList` -/
inductive Op
  | addBit (v : Bool)
  | addBitList (bits : List Bool)     -- variadic `AddBit(bits...)`
  | addByte (x : Nat)
  | addBits (x : Int) (k : Nat)
  | setBit (i : Nat) (v : Bool)

/-- the implementation model -/
def step (b : BL) : Op → BL
  | .addBit v => b.addBit v
  | .addBitList bits => b.addBitsList bits
  | .addByte x => b.addByte x
  | .addBits x k => b.addBits x k
  | .setBit i v => b.setBit i v

/-- the specification: a growable sequence of booleans; setting an index at or beyond the length is outside
    the contract (`none`) -/
def stepSpec (s : List Bool) : Op → Option (List Bool)
  | .addBit v => some (s ++ [v])
  | .addBitList bits => some (s ++ bits)
  | .addByte x => some (s ++ Spec.BitSeq.lowBits (x : Int) 8)
  | .addBits x k => some (s ++ Spec.BitSeq.lowBits x k)
  | .setBit i v => if i < s.length then some (s.set i v) else none

def runSpec : List Op → List Bool → Option (List Bool)
  | [], s => some s
  | op :: rest, s => (stepSpec s op).bind (runSpec rest)

theorem C18_new (n : Nat) : (new n).abs = List.replicate n false ∧ (new n).len = n :=
  ⟨abs_new n, rfl⟩

/-- the zero value is the empty sequence -/
theorem C18_empty : empty.abs = [] := abs_empty

/-- one step: every operation acts on the abstraction as the sequence operation, and keeps the invariant -/
theorem C18_step (b : BL) (op : Op) (s' : List Bool) (h : Inv b) (hs : stepSpec b.abs op = some s') :
    Inv (step b op) ∧ (step b op).abs = s' := by
  cases op with
  | addBit v => exact Option.some.inj hs ▸ addBit_spec b v h
  | addBitList bits => exact Option.some.inj hs ▸ addBitsList_spec b bits h
  | addByte x => exact Option.some.inj hs ▸ addByte_spec b x h
  | addBits x k => exact Option.some.inj hs ▸ addBits_spec b x k h
  | setBit i v =>
    simp only [stepSpec] at hs
    split at hs
    · rename_i hi
      exact Option.some.inj hs ▸ setBit_spec b i v h (length_abs b ▸ hi)
    · cases hs

/-- every history: for every sequence of operations whose `SetBit` indices stay below the current length,
    the list reached stands for exactly the sequence the specification computes -/
theorem C18_history (ops : List Op) : ∀ (b : BL) (s' : List Bool), Inv b →
    runSpec ops b.abs = some s' → Inv (ops.foldl step b) ∧ (ops.foldl step b).abs = s' := by
  induction ops with
  | nil =>
    intro b s' h hs
    simp only [runSpec, Option.some.injEq] at hs
    exact ⟨h, hs⟩
  | cons op rest ih =>
    intro b s' h hs
    simp only [runSpec] at hs
    cases h1 : stepSpec b.abs op with
    | none => simp [h1] at hs
    | some s1 =>
      simp only [h1, Option.bind_some] at hs
      have := C18_step b op s1 h h1
      simp only [List.foldl_cons]
      exact ih (step b op) s' this.1 (this.2 ▸ hs)

/-- observations in every reachable state: length, every bit below the length, and both byte views -/
theorem C18_observe (b : BL) (h : Inv b) :
    b.len = b.abs.length ∧
    (∀ i, i < b.len → b.getBit i = b.abs.getD i false) ∧
    b.getBytes = Spec.BitSeq.pack b.abs ∧
    b.iterateBytes = Spec.BitSeq.pack b.abs := by
  refine ⟨(length_abs b).symm, fun i _ => getBit_abs b h i, getBytes_eq_pack b h, ?_⟩
  rw [iterateBytes_eq_getBytes, getBytes_eq_pack b h]

/-- history and observations together, from any state that satisfies the invariant -/
theorem C18_from (b0 : BL) (ops : List Op) (s' : List Bool) (h0 : Inv b0) (hs : runSpec ops b0.abs = some s') :
    let b := ops.foldl step b0
    b.len = s'.length ∧ (∀ i, i < b.len → b.getBit i = s'.getD i false) ∧
    b.getBytes = Spec.BitSeq.pack s' ∧ b.iterateBytes = Spec.BitSeq.pack s' := by
  have h := C18_history ops b0 s' h0 hs
  have := C18_observe _ h.1
  rwa [h.2] at this

/-- the property: starting from `NewBitList(n)` or the zero value, after any history inside the contract,
    all observations are those of the bit sequence -/
theorem C18_bitlist (n : Nat) (ops : List Op) (s' : List Bool)
    (hs : runSpec ops (List.replicate n false) = some s') :
    let b := ops.foldl step (new n)
    b.len = s'.length ∧ (∀ i, i < b.len → b.getBit i = s'.getD i false) ∧
    b.getBytes = Spec.BitSeq.pack s' ∧ b.iterateBytes = Spec.BitSeq.pack s' :=
  C18_from (new n) ops s' (inv_new n) (by rw [abs_new]; exact hs)

theorem C18_bitlist_zero (ops : List Op) (s' : List Bool) (hs : runSpec ops [] = some s') :
    let b := ops.foldl step empty
    b.len = s'.length ∧ (∀ i, i < b.len → b.getBit i = s'.getD i false) ∧
    b.getBytes = Spec.BitSeq.pack s' ∧ b.iterateBytes = Spec.BitSeq.pack s' :=
  C18_from empty ops s' inv_empty (by rw [abs_empty]; exact hs)

/-- non-vacuity: a concrete history inside the contract, crossing a byte boundary -/
example : runSpec [.addByte 0xA5, .addBits 5 3, .setBit 1 true, .addBit false] (List.replicate 3 false) =
    some [false, true, false, true, false, true, false, false, true, false, true, true, false, true, false] := by
  decide

end BV.Props.C18
