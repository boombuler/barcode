/-
  C15 — encoding is a pure function: deterministic, history-free, no aliasing.

  What a proof can carry here (DESIGN §3 C15): every encoder model is a function of its arguments only; that this
  is FAITHFUL to the Go code is carried by (a) syntactic facts regenerated from /repo on every run — no
  package-level variable is written outside `init`, no struct field is assigned a slice parameter (aliasing),
  the Reed–Solomon cache is only touched inside `getPolynomial`, which holds the mutex — (b) the theorem that the
  only order-dependent construct (`range` over a map in the Code 39 / Code 93 checksum search) has a unique
  answer, and (c) the theorem that `Encode` does not depend on the cache history (C17, `BV.Props.C17`).
  Hidden state that these facts do not see is searched for by execution (histories vs. fresh processes).
-/
import BV.Proofs.Purity
import BV.Proofs.ListLemmas
import BV.Gen
import BV.Props.C17
namespace BV.Props.C15
open BV BV.Proofs.Purity

/-- (a1) no package writes a package-level variable after initialisation -/
theorem C15_no_global_writes :
    Gen.Root.fact_globalWrites = [] ∧ Gen.Utils.fact_globalWrites = [] ∧ Gen.Qr.fact_globalWrites = [] ∧
    Gen.Datamatrix.fact_globalWrites = [] ∧ Gen.Aztec.fact_globalWrites = [] ∧ Gen.Pdf417.fact_globalWrites = [] ∧
    Gen.Code128.fact_globalWrites = [] ∧ Gen.Code39.fact_globalWrites = [] ∧ Gen.Code93.fact_globalWrites = [] ∧
    Gen.Codabar.fact_globalWrites = [] ∧ Gen.Ean.fact_globalWrites = [] ∧ Gen.Twooffive.fact_globalWrites = [] := by
  decide

/-- (a2) no statement assigns a slice parameter directly to a struct field (the syntactic fact; a reference kept
    by another route, e.g. through a local variable or a sub-slice, is not excluded by it) -/
theorem C15_no_alias :
    Gen.Root.fact_aliasAssign = [] ∧ Gen.Utils.fact_aliasAssign = [] ∧ Gen.Qr.fact_aliasAssign = [] ∧
    Gen.Datamatrix.fact_aliasAssign = [] ∧ Gen.Aztec.fact_aliasAssign = [] ∧ Gen.Pdf417.fact_aliasAssign = [] ∧
    Gen.Code128.fact_aliasAssign = [] ∧ Gen.Code39.fact_aliasAssign = [] ∧ Gen.Code93.fact_aliasAssign = [] ∧
    Gen.Codabar.fact_aliasAssign = [] ∧ Gen.Ean.fact_aliasAssign = [] ∧ Gen.Twooffive.fact_aliasAssign = [] := by
  decide

/-- (a3) the generator-polynomial cache is read and written only inside `getPolynomial`, whose body starts with
    `Lock(); defer Unlock()` -/
theorem C15_cache_guarded :
    Gen.Utils.fact_polynomesAccess = ["ReedSolomonEncoder_getPolynomial"] ∧
    "ReedSolomonEncoder_getPolynomial" ∈ Gen.Utils.fact_lockedFuncs := by
  decide +kernel

/-- (b) Code 39: the check-character search `for r, v := range encodeTable { if v.value == sum …` returns the same
    character for every iteration order of the map, because the values are pairwise distinct -/
theorem C15_code39_search_order_free (tbl : List (Int × (Int × List Bool))) (v : Int)
    (hp : Gen.Code39.v_encodeTable.Perm tbl) :
    tbl.find? (fun e => e.2.1 == v) = Gen.Code39.v_encodeTable.find? (fun e => e.2.1 == v) :=
  -- `*` has the value −1 in this table: shifted by one, the values are distinct natural numbers
  find_perm_invariant (fun e => e.2.1) v _ _ hp (nodup_of_maskOf (fun i => (i + 1).toNat) (by decide +kernel))

/-- (b) Code 93: the same for both check characters -/
theorem C15_code93_search_order_free (tbl : List (Int × (Int × Int))) (v : Int)
    (hp : Gen.Code93.v_encodeTable.Perm tbl) :
    tbl.find? (fun e => e.2.1 == v) = Gen.Code93.v_encodeTable.find? (fun e => e.2.1 == v) :=
  find_perm_invariant (fun e => e.2.1) v _ _ hp (nodup_of_maskOf Int.toNat (by decide +kernel))

/-- map literals have distinct keys (a Go compile-time guarantee, re-checked on the generated tables), so
    lookups do not depend on the iteration order either -/
theorem C15_table_keys_distinct :
    (Gen.Code39.v_encodeTable.map (·.1)).Nodup ∧ (Gen.Code93.v_encodeTable.map (·.1)).Nodup ∧
    (Gen.Code39.v_extendedTable.map (·.1)).Nodup ∧ (Gen.Ean.v_encoderTable.map (·.1)).Nodup ∧
    (Gen.Codabar.v_encodingTable.map (·.1)).Nodup ∧ (Gen.Twooffive.v_encodingTable.map (·.1)).Nodup :=
  ⟨nodup_of_maskOf Int.toNat (by decide +kernel), nodup_of_maskOf Int.toNat (by decide +kernel),
    nodup_of_maskOf Int.toNat (by decide +kernel), nodup_of_maskOf Int.toNat (by decide +kernel),
    nodup_of_maskOf Int.toNat (by decide +kernel), nodup_of_maskOf Int.toNat (by decide +kernel)⟩

/-- (c) history-freedom of the shared Reed–Solomon encoders: whatever was encoded before (any sequence of
    `Encode` calls, i.e. any reachable cache), every call returns what a fresh encoder returns -/
theorem C15_rs_history_free (f : Model.GF.Field) (reqs : List (List Nat × Nat)) :
    C17.runEncoder f Model.GF.newEncoder reqs = reqs.map (fun r => Model.GF.rsEncode f r.1 r.2) :=
  C17.C17_rs_history_independent f Model.GF.newEncoder reqs (C17.C17_newEncoder_inv f)

/-- non-vacuity of (b): a genuinely different order of the Code 93 table -/
example : Gen.Code93.v_encodeTable.Perm Gen.Code93.v_encodeTable.reverse := (List.reverse_perm _).symm

end BV.Props.C15
