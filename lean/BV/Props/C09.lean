/-
  C09 — Scale: integer, centred, distortion-free enlargement or an error.
  Statements only; proofs in BV/Proofs/Scale.lean.
-/
import BV.Proofs.Scale
namespace BV.Props.C09
open BV BV.Model.Scale BV.Proofs.Scale

/-- what `Scale`/`ScaleWithFill` must return for a source `src` and a request `w × h` on `fill` -/
structure IsEnlargement (src r : View) (w h : Nat) (fill : Colour) : Prop where
  bounds : r.w = w ∧ r.h = h
  content : r.content = src.content
  metadata : r.kind = src.kind ∧ r.dims = src.dims
  checksum : r.checksum = src.checksum
  pixels : ∃ k ox oy, 1 ≤ k ∧
    -- the largest factor that fits
    src.w * k ≤ w ∧ (src.dims = 2 → src.h * k ≤ h) ∧
    (src.w * (k + 1) > w ∨ (src.dims = 2 ∧ src.h * (k + 1) > h)) ∧
    -- centred to within one pixel
    (w - src.w * k) - 2 * ox ≤ 1 ∧ 2 * ox ≤ w - src.w * k ∧
    (src.dims = 2 → (h - src.h * k) - 2 * oy ≤ 1 ∧ 2 * oy ≤ h - src.h * k) ∧
    -- every source module is one k-by-k block (1-D: k wide over the full height), the rest is fill
    (∀ x y, x < w → y < h → r.colourAt x y =
      if src.dims = 2 then enlarged src.colourAt src.w src.h k ox oy fill x y
      else enlarged1 src.colourAt src.w k ox fill x y)

/-- the scaled dimension(s) of the request are smaller than the symbol -/
def TooSmall (src : View) (w h : Nat) : Prop :=
  if src.dims = 2 then w < src.w ∨ h < src.h else w < src.w

/-- C09 for `ScaleWithFill`: for every barcode view (from any encoder, or itself a scaled barcode), every request
    `w × h`: an error exactly when the request is too small, otherwise the enlargement. -/
theorem C09_scaleWithFill (src : View) (w h : Nat) (fill : Colour)
    (hd : src.dims = 1 ∨ src.dims = 2) (hw0 : 1 ≤ src.w) (hh0 : 1 ≤ src.h) :
    (TooSmall src w h → scaleWithFill src w h fill = .error .rejected) ∧
    (¬ TooSmall src w h → ∃ r, scaleWithFill src w h fill = .ok r ∧ IsEnlargement src r w h fill) := by
  rcases hd with hd | hd
  · have h2 : ¬ src.dims = 2 := by omega
    rw [scaleWithFill, if_pos (by rw [hd]; rfl), scale1D_eq src w h fill hw0]
    simp only [TooSmall, if_neg h2]
    refine ⟨fun hs => if_pos hs, fun hs => ⟨_, if_neg hs, ⟨rfl, rfl⟩, rfl, ⟨rfl, rfl⟩, rfl,
      w / src.w, (w - src.w * (w / src.w)) / 2, 0, ?_⟩⟩
    obtain ⟨hk1, hkw, hmax⟩ := factor_spec hw0 (Nat.le_of_not_lt hs)
    exact ⟨hk1, hkw, fun hh => absurd hh h2, Or.inl hmax, (centred _).1, (centred _).2, fun hh => absurd hh h2,
      fun x y _ _ => (if_neg h2).symm⟩
  · rw [scaleWithFill, if_neg (by rw [hd]; decide), if_pos (by rw [hd]; rfl), scale2D_eq src w h fill hw0 hh0]
    simp only [TooSmall, if_pos hd]
    generalize hk : min (w / src.w) (h / src.h) = k
    refine ⟨fun hs => if_pos hs, fun hs => ⟨_, if_neg hs, ⟨rfl, rfl⟩, rfl, ⟨rfl, rfl⟩, rfl,
      k, (w - src.w * k) / 2, (h - src.h * k) / 2, ?_⟩⟩
    obtain ⟨hk1, hkw, hkh, hmax⟩ := hk ▸ factor2_spec hw0 hh0 (Nat.le_of_not_lt fun c => hs (.inl c))
      (Nat.le_of_not_lt fun c => hs (.inr c))
    exact ⟨hk1, hkw, fun _ => hkh, hmax.imp id fun hm => ⟨hd, hm⟩, (centred _).1, (centred _).2, fun _ => centred _,
      fun x y _ _ => (if_pos hd).symm⟩

/-- `Scale` is `ScaleWithFill` with the barcode's background, or white if it exposes no colour scheme -/
theorem C09_scale_fill (src : View) (w h : Int) :
    scale src w h = scaleWithFill src w h (match src.scheme with | some s => s.bg | none => white) := rfl

/-- a scaled barcode exposes no colour scheme, and carries content, metadata and checksum of its source -/
theorem C09_result_is_view (src r : View) (w h : Int) (fill : Colour) (hr : scaleWithFill src w h fill = .ok r) :
    r.scheme = none ∧ r.content = src.content ∧ r.kind = src.kind ∧ r.dims = src.dims ∧
    r.checksum = src.checksum ∧ r.model = src.model := by
  rcases scaleWithFill_shape src w h fill with he | ⟨wrap, W, H, hok⟩
  · rw [he] at hr; cases hr
  · rw [hok] at hr
    injection hr with hr
    subst hr
    exact ⟨rfl, rfl, rfl, rfl, rfl, rfl⟩

/-- chains of repeated scaling: whatever the sequence of accepted requests, content, metadata and checksum
    of the final image are those of the original barcode -/
theorem C09_chain (reqs : List (Int × Int × Colour)) : ∀ (src r : View),
    reqs.foldlM (fun v q => scaleWithFill v q.1 q.2.1 q.2.2) src = .ok r →
    r.content = src.content ∧ r.kind = src.kind ∧ r.dims = src.dims ∧ r.checksum = src.checksum := by
  induction reqs with
  | nil => intro src r h; simp [List.foldlM] at h; cases h; exact ⟨rfl, rfl, rfl, rfl⟩
  | cons q rest ih =>
    intro src r h
    simp only [List.foldlM] at h
    cases h1 : scaleWithFill src q.1 q.2.1 q.2.2 with
    | error e => simp [h1, bind, Except.bind] at h
    | ok v =>
      simp only [h1, bind, Except.bind] at h
      have hv := C09_result_is_view src v _ _ _ h1
      have := ih v r h
      exact ⟨this.1.trans hv.2.1, this.2.1.trans hv.2.2.1, this.2.2.1.trans hv.2.2.2.1, this.2.2.2.trans hv.2.2.2.2.1⟩

/-- non-vacuity: a 2×1 one-dimensional source scaled to width 7: factor 3, offset 0, one fill pixel at the right -/
example :
    let src : View := { kind := "k", dims := 1, w := 2, h := 1, colourAt := fun x _ => if x = 0 then "fg" else "bg",
                        content := [], checksum := none, model := "m", scheme := none }
    (match scaleWithFill src 7 2 "fill" with
     | .ok r => (List.range 7).map (fun x => r.colourAt x 1)
     | .error _ => []) = ["fg", "fg", "fg", "bg", "bg", "bg", "fill"] := by
  decide

end BV.Props.C09
