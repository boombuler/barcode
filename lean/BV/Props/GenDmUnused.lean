/-
  GenDmUnused — the call scripts of `Corner3` and `Corner4` (datamatrix/codelayout.go).  Both functions are dead code
  for the 24 square symbol sizes of `codeSizes`: their guards `MatrixColumns()%8 == 4` at `row == MatrixRows()-2,
  col == 0` and `MatrixColumns()%8 == 0` at `row == MatrixRows()+4, col == 2` never hold on the path `SetValues`
  takes.  No theorem here says so (nothing states which corner cases `DmSym.run` passes through).  It is known from
  running the Annex F walk on the 24 mapping sizes — corner 1 fires for 12, 20, 28, 36, 44, 108, 132 (where
  `MatrixColumns()%8 == 4`, but the walk stands at `row == MatrixRows()` when `col == 0`), corner 2 for 14 and 22,
  corners 3 and 4 for none — and from the statement coverage of every workload, which shows zero executions of both
  (DESIGN §11.9).  The tie is kept for completeness, outside the obligations of the properties.
-/
import BV.Props.GenDm
namespace BV.Props.GenDmUnused
open BV BV.Props.GenDm

open Model.Datamatrix in
theorem gen_dm_scripts_unused (l : CodeLayout) (value : UInt8) :
    l.corner3 value = runScript l value (Gen.Datamatrix.s_codeLayout_Corner3 l.size.matrixColumns l.size.matrixRows) ∧
    l.corner4 value = runScript l value (Gen.Datamatrix.s_codeLayout_Corner4 l.size.matrixColumns l.size.matrixRows) :=
  ⟨rfl, rfl⟩

end BV.Props.GenDmUnused
