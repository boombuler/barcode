/-
  DmA — DataMatrix (properties C02, C10, C12, C13): the image of every accepted content is a valid
  ISO/IEC 16022 ECC 200 square symbol that decodes to the content.
  Each statement is a short corollary of lemmas in BV/Proofs/Dm*.lean; the notions the assembled statements rest
  on (`Accepted`, `RSEncodeValid`, `infoOf`) are defined in BV/Proofs/DmDecode.lean.

  Structure of the argument
    1 `ascii_roundtrip`, `ascii_alphabet`      text stage (`encodeText`) against `Spec.decodeAscii`
    2 `padding_spec`, `padded_roundtrip`       253-state padding
    3 `size_choice`, `accepted_iff`            smallest size, rejection, no panic (C13, C10)
    4 `table_certificates`                     generated table = ISO attribute table (C12)
    5 `calcECC_blocks`                         interleaved blocks, check symbols = `rsEncode` of the block
    6 `placement_two_phase`, `placement_reference`, `placement_exactly_once`   Annex F placement (one kernel certificate over the 24 sizes)
    7 `merge_frame`                            finder L, clock tracks, region mapping (argument for every size)
    ∑ `C02_partial`, `C02_decodes`             the reference decoder returns the content

  The only ingredient not proved here is the Reed–Solomon validity of `utils.ReedSolomonEncoder` (property C17):
  it is the explicit hypothesis `RSEncodeValid` of `C02_decodes`; everything else (`C02_partial`) is unconditional.
-/
import BV.Proofs.DmDecode
namespace BV.Props.DmA
open BV BV.Model BV.Model.Datamatrix BV.Spec.Datamatrix
open BV.Proofs.DmAscii BV.Proofs.DmSize BV.Proofs.DmEcc BV.Proofs.DmSym BV.Proofs.DmPlaceM BV.Proofs.DmPlaceS
open BV.Proofs.DmTags BV.Proofs.DmFrame BV.Proofs.DmRead BV.Proofs.DmDecode

/-! ### 1. ASCII encodation -/

/-- **Item 1.**  For every content `c`, every start position `pos` and every codeword list `tail` behind the
    encodation: if the reference decodes `tail` (standing at the position behind the encodation) to `(s, p)`,
    it decodes `encodeText c ++ tail` to `(c ++ s, p)`.  In particular (`tail = []`, or `tail` = any valid
    padding, which decodes to `([], p)`) the encodation decodes byte for byte to `c`:
    greedy digit pairs `130 + 10a + b`, upper shift `235, c - 127` for bytes ≥ 128, `c + 1` otherwise. -/
theorem ascii_roundtrip (c : Bytes) (pos : Nat) (tail : List Nat) :
    decodeAscii pos (toNats (encodeText c) ++ tail) =
      (decodeAscii (pos + (encodeText c).length) tail).map (fun (s, p) => (c ++ s, p)) :=
  dec_encodeText c pos tail

/-- item 1 with nothing behind the encodation: content `c`, zero pad codewords -/
theorem ascii_roundtrip_nopad (c : Bytes) (pos : Nat) :
    decodeAscii pos (toNats (encodeText c)) = .ok (c, 0) :=
  dec_encodeText_nopad c pos

/-- **Item 1, alphabet.**  `encodeText` never emits the pad codeword 129 nor any codeword outside
    1…128, 130…229, 235; and (`asciiAlphabet`) every 235 is followed by an operand in 1…128. -/
theorem ascii_alphabet (c : Bytes) :
    asciiAlphabet (toNats (encodeText c)) = true ∧
    ∀ v ∈ toNats (encodeText c), (1 ≤ v ∧ v ≤ 128) ∨ (130 ≤ v ∧ v ≤ 229) ∨ v = 235 :=
  ⟨alphabet_encodeText c, alphabet_mem _ (alphabet_encodeText c)⟩

example : toNats (encodeText [65, 49, 50, 51, 200, 57]) = [66, 142, 52, 235, 73, 58] := by decide
example : decodeAscii 1 [66, 142, 52, 235, 73, 58] = .ok ([65, 49, 50, 51, 200, 57], 0) :=
  ascii_roundtrip_nopad [65, 49, 50, 51, 200, 57] 1

/-! ### 2. padding -/

/-- **Item 2.**  For `data.length ≤ n`, `addPadding data n` has length `n` and is `data` followed by
    `padding |data| n`: nothing if `|data| = n`, otherwise 129 and then, for every following 1-based position
    `q`, the 253-state value `padValue q` of the standard; and the reference decoder standing at the first pad
    accepts exactly this tail, counting `n - |data|` pad codewords. -/
theorem padding_spec (data : Bytes) (n : Nat) (h : data.length ≤ n) :
    addPadding data (n : Int) = data ++ padding data.length n ∧
    (addPadding data (n : Int)).length = n ∧
    padding data.length n =
      (if data.length < n then 129 :: (List.range' 0 (n - data.length - 1)).map
        (fun i => UInt8.ofNat (padValue (data.length + 2 + i))) else []) ∧
    decodeAscii (data.length + 1) (toNats (padding data.length n)) = .ok ([], n - data.length) := by
  refine ⟨addPadding_eq data n h, addPadding_length data n h, ?_, dec_padding _ n h⟩
  unfold padding padTail
  split
  · congr 2
  · rfl

/-- items 1 and 2 composed: the padded encodation decodes to the content with `n - |encodeText c|` pads -/
theorem padded_roundtrip (c : Bytes) (n : Nat) (h : (encodeText c).length ≤ n) :
    decodeAscii 1 (toNats (addPadding (encodeText c) (n : Int))) = .ok (c, n - (encodeText c).length) :=
  dec_padded c n h

example : addPadding [66, 67] 5 = [66, 67, 129, 220, 115] := by decide

/-! ### 3. size choice, acceptance (C13, C10) -/

/-- **Item 3 (C13, C10).**  With `m` the number of codewords of the ASCII encodation of `c`:
    * if `m > 1558` the encoder returns the error "to much data" (`.rejected`), it does not panic;
    * if `m ≤ 1558` it returns a barcode; the size used is the first table row `s` (rows before it, `pre`, all
      have a smaller capacity than `m`) whose capacity is at least `m`; no row of the table that holds `m`
      codewords has fewer rows or a smaller capacity; the barcode is `s.rows × s.rows`, of kind "DataMatrix",
      two-dimensional, with content `c`, the requested colour scheme and no checksum. -/
theorem size_choice (c : Bytes) (color : Scheme) :
    (1558 < (encodeText c).length → encodeWithColor c color = .error .rejected) ∧
    ((encodeText c).length ≤ 1558 → ∃ bc s pre post,
      encodeWithColor c color = .ok bc ∧ codeSizes = pre ++ s :: post ∧
      ((encodeText c).length : Int) ≤ s.dataCodewords ∧
      (∀ t ∈ pre, t.dataCodewords < ((encodeText c).length : Int)) ∧
      (∀ t ∈ codeSizes, ((encodeText c).length : Int) ≤ t.dataCodewords →
        s.rows ≤ t.rows ∧ s.dataCodewords ≤ t.dataCodewords) ∧
      (bc.w : Int) = s.columns ∧ (bc.h : Int) = s.rows ∧ s.rows = s.columns ∧
      bc.kind = "DataMatrix" ∧ bc.dims = 2 ∧ bc.content = c ∧ bc.scheme = color ∧ bc.checksum = none) := by
  refine ⟨encode_rejected c color, fun hlen => ?_⟩
  obtain ⟨bc, s, a, hok, hacc⟩ := encode_accepted c color hlen
  obtain ⟨pre, post, htab, hfit, hpre, hmin⟩ := chooseSize_spec hacc.chosen
  exact ⟨bc, s, pre, post, hok, htab, hfit, hpre, hmin, hacc.square.1, hacc.square.2.1, hacc.square.2.2,
    hacc.kind, hacc.dims, hacc.content, hacc.scheme, hacc.checksum⟩

/-- **C10.**  The encoder accepts a content iff its ASCII encodation has at most 1558 codewords; otherwise it
    returns the "rejected" error — it never panics. -/
theorem accepted_iff (c : Bytes) (color : Scheme) :
    ((∃ bc, encodeWithColor c color = .ok bc) ↔ (encodeText c).length ≤ 1558) ∧
    (¬ (encodeText c).length ≤ 1558 → encodeWithColor c color = .error .rejected) :=
  ⟨encode_ok_iff c color, fun h => encode_rejected c color (Nat.lt_of_not_le h)⟩

example : (encodeText (List.replicate 3116 48)).length = 1558 := encodeText_zeros 3116
example : ∃ bc, encodeWithColor (List.replicate 3116 48) scheme16 = .ok bc :=
  (accepted_iff _ _).1.2 (Nat.le_of_eq (encodeText_zeros 3116))
example : encodeWithColor (List.replicate 3117 48) scheme16 = .error .rejected :=
  (accepted_iff _ _).2 (by rw [encodeText_zeros]; decide)

/-! ### 4. table certificates (C12) -/

/-- **Item 4 (C12).**  The 24 generated rows, in order, agree with the 24 rows of the standard's attribute table
    (`agrees`: symbol size, regions per side, region size, mapping matrix size = `MatrixRows`/`MatrixColumns`,
    data codewords, check codewords = `ECCCount`, blocks, check codewords per block, data codewords of every
    block — including 144×144: 8×156 + 2×155); and the Galois field is GF(256) with polynomial 301 = 0x12D,
    generator base 1.  (Certificates: kernel evaluation over the table.) -/
theorem table_certificates :
    codeSizes.length = 24 ∧ attrTable.length = 24 ∧
    (∀ i, i < 24 → agrees (codeSizes.getD i default) (attrTable.getD i default) = true) ∧
    (∃ s ∈ codeSizes, s.rows = 144 ∧ s.blockCount = 10 ∧ s.errorCorrectionCodewordsPerBlock = 62 ∧
      (List.range 10).map (fun (b : Nat) => s.dataCodewordsForBlock (b : Int)) =
        [156, 156, 156, 156, 156, 156, 156, 156, 155, 155] ∧ s.dataCodewords = 8 * 156 + 2 * 155) ∧
    Gen.Datamatrix.call_NewGaloisField = [[301, 256, 1]] ∧
    ecField = GF.newField Spec.RS.dmField.pp Spec.RS.dmField.size 1 :=
  ⟨codeSizes_length, attrTable_length, fun _ hi => List.all_eq_true.mp table_agrees (_, _) (pair_mem hi), blocks_144,
    field_params, ecField_eq⟩

/-! ### 5. error correction -/

/-- **Item 5.**  For every table row `s` and every data of `s.DataCodewords()` bytes, `calcECC` does not panic and
    returns the data followed by `s.ECCCount` bytes `ecc`; de-interleaving as the standard prescribes (block `b`
    = every `BlockCount`-th codeword from `b` on) gives for every block its `DataCodewordsForBlock(b)` data
    codewords and, as its check codewords, the first `k = ErrorCorrectionCodewordsPerBlock` symbols (as bytes)
    that `ReedSolomonEncoder.Encode(block data, k)` returns.  (That these are exactly `k` symbols < 256 forming a
    valid codeword is C17.) -/
theorem calcECC_blocks (s : CodeSize) (hs : s ∈ codeSizes) (data : Bytes)
    (hlen : data.length = s.dataCodewords.toNat) :
    ∃ ecc : Bytes, calcECC data s = .ok (data ++ ecc) ∧ ecc.length = s.eccCount.toNat ∧
      ∀ b, b < s.blockCount.toNat →
        (everyNth s.blockCount.toNat b (toNats data)).length = (s.dataCodewordsForBlock (b : Int)).toNat ∧
        everyNth s.blockCount.toNat b (toNats ecc) =
          ((GF.rsEncode ecField (everyNth s.blockCount.toNat b (toNats data))
            s.errorCorrectionCodewordsPerBlock.toNat).take s.errorCorrectionCodewordsPerBlock.toNat).map (· % 256) :=
  calcECC_shape s data (table_shape hs hlen)

example : (match calcECC [66, 142, 129] (codeSizes.getD 0 default) with
    | .ok l => l == [66, 142, 129, 170, 115, 225, 118, 63] | .error _ => false) = true := by
  decide +kernel
/-- on this instance the check symbols are what C17 promises: `data ++ ecc` is a valid RS codeword -/
example : Spec.RS.dmField.valid 1 5 ([66, 142, 129] ++ GF.rsEncode ecField [66, 142, 129] 5) = true := by
  decide +kernel

/-! ### 6. placement -/

/-- **Item 6, two-phase lemma (general, for every matrix size).**  If the symbolic run `DmSym.run` over an
    `nrow × ncol` mapping matrix for `ncw` codewords answers `some st`, then for EVERY data array of `ncw` bytes
    `SetValues` on a fresh layout does not panic (no "already occupied", no index out of range, fuel
    sufficient), and the layout it returns has as matrix the data painted through the tag map of `st`
    (`paint data (tagAt st.log i)`: tag `10·chr + bit` ↦ bit `bit` of codeword `chr`, tag 1 ↦ dark, tag 0 ↦ light):
    which module receives which codeword bit does not depend on the data values. -/
theorem placement_two_phase (size : CodeSize) (color : Scheme) (nrow ncol ncw : Nat)
    (hr : size.matrixRows = (nrow : Int)) (hc : size.matrixColumns = (ncol : Int)) (st : PS)
    (hrun : run nrow ncol ncw = some st) (data : Array UInt8) (hn : data.size = ncw) :
    ∃ l, (newCodeLayout size color).setValues data = .ok l ∧ l.size = size ∧ l.color = color ∧
      l.matrix = Array.ofFn (n := BV.Proofs.DmPlaceM.cap (nrow * ncol)) (fun i => paint data (tagAt st.log i)) ∧
      l.occupy = Array.ofFn (n := BV.Proofs.DmPlaceM.cap (nrow * ncol)) (fun i => st.occ.testBit i) := by
  obtain ⟨l, h1, h2⟩ := setValues_of_run (color := color) hr hc (hn ▸ hrun)
  exact ⟨l, h1, h2.hsize, h2.hcolor, (relM_arrays h2).1, (relM_arrays h2).2⟩

/-- **Item 6, reference side (general).**  If the symbolic run answers `some st`, the Annex F placement program
    of the reference succeeds on that matrix size, places `ncw` codewords, and its array is the tag map of `st`. -/
theorem placement_reference (nrow ncol ncw : Nat) (st : PS) (hrun : run nrow ncol ncw = some st) :
    placement nrow ncol = some (arrOf (nrow * ncol) st, ncw) :=
  placement_of_run hrun

/-- **Item 6, exactly once (general).**  A successful symbolic run writes no module twice and only modules inside
    the matrix; its tags are, in order, bits 1…8 of the codewords 1…`ncw` — followed, if the lower right corner
    stayed free, by the two dark modules (tag 1) of the fixed pattern; and every module of the matrix has a tag,
    except the two light modules of that fixed pattern (left of and above the corner module).  Every
    (codeword, bit) pair therefore sits on exactly one module and every module carries exactly one of them
    (or belongs to the fixed pattern). -/
theorem placement_exactly_once (nrow ncol ncw : Nat) (st : PS) (hrun : run nrow ncol ncw = some st) :
    (st.log.map Prod.fst).Nodup ∧ (∀ p ∈ st.log, p.1 < nrow * ncol) ∧
    ((st.log.length = nrow * ncol ∧ st.log.map Prod.snd = tagsRev ncw) ∨
     (st.log.length + 2 = nrow * ncol ∧ st.log.map Prod.snd = 1 :: 1 :: tagsRev ncw ∧
      tagAt st.log (nrow * ncol - 1) = 1 ∧ tagAt st.log (nrow * ncol - 1 - ncol - 1) = 1 ∧
      tagAt st.log (nrow * ncol - 1 - 1) = 0 ∧ tagAt st.log (nrow * ncol - 1 - ncol) = 0)) ∧
    (∀ i, i < nrow * ncol → tagAt st.log i ≠ 0 ∨
      (st.log.length + 2 = nrow * ncol ∧ (i = nrow * ncol - 1 - 1 ∨ i = nrow * ncol - 1 - ncol))) :=
  ⟨(run_cells hrun).1, (run_cells hrun).2, run_tags hrun, fun i hi => run_covers hrun i hi⟩

example : tagsRev 2 = [28, 27, 26, 25, 24, 23, 22, 21, 18, 17, 16, 15, 14, 13, 12, 11] := by decide

/-- **Item 6, the certificate** (kernel evaluation, `BV/Proofs/DmCert.lean`): for the mapping matrix of every
    standard size the symbolic run succeeds with `dataCW + eccCW` codewords.  Together with the three theorems
    above: for each of the 24 sizes `SetValues` never panics, its tag map is the placement array of Annex F
    (with whichever corner cases the walk meets, and the fixed lower-right pattern), and covers every module exactly once. -/
theorem placement_certificates :
    ∀ a ∈ attrTable, ∃ st, run a.mapping a.mapping (a.dataCW + a.eccCW) = some st ∧
      placement a.mapping a.mapping = some (arrOf (a.mapping * a.mapping) st, a.dataCW + a.eccCW) := by
  intro a ha
  obtain ⟨st, hst⟩ := BV.Proofs.DmCert.run_table a ha
  exact ⟨st, hst, placement_of_run hst⟩

example : (run 8 8 8).isSome = true :=
  Option.isSome_iff_exists.mpr (BV.Proofs.DmCert.run_table ⟨10, 8, 1, 8, 3, 5, 1⟩ (by decide))
example : ∃ st, run 10 10 12 = some st ∧ placement 10 10 = some (arrOf 100 st, 12) :=
  placement_certificates ⟨12, 10, 1, 10, 5, 7, 1⟩ (by decide)

/-- read-back: what was painted through the tag map of a successful run is read back, codeword for codeword,
    by the reference through its placement array -/
theorem placement_read_back (nrow ncol ncw : Nat) (st : PS) (hrun : run nrow ncol ncw = some st)
    (data : Array UInt8) (hn : data.size = ncw) (mm : Nat → Nat → Bool)
    (hmm : ∀ i, i < nrow * ncol → mm (i / ncol) (i % ncol) = paint data (tagAt st.log i)) :
    ∃ cw, readCodewords nrow ncol (arrOf (nrow * ncol) st) ncw mm = some cw ∧
      cw.toList = data.toList.map UInt8.toNat :=
  read_back hrun data hn mm hmm

/-! ### 7. merge -/

/-- **Item 7** (`BV/Proofs/DmMerge.lean`: `Merge` draws the expected picture for every size whose attributes are
    consistent and whose region size is even; that the 24 rows are such is read off the tables).
    For every table row `s` with its partner `a` of the standard and every layout of that size
    (with an allocated matrix): `Merge` does not panic, keeps size and colour, and in the image it returns every
    data region is bordered by the solid L (left, bottom) and the alternating clock track (top, right) exactly as
    `Spec.finderOk` demands, while the data regions, borders removed and butted together
    (`Spec.mappingModule`), are the mapping matrix of the layout. -/
theorem merge_frame (i : Nat) (hi : i < 24) (l : CodeLayout) (hl : l.size = codeSizes.getD i default)
    (hmat : (attrTable.getD i default).mapping * (attrTable.getD i default).mapping ≤ l.matrix.size) :
    ∃ c, l.merge = .ok c ∧ c.size = l.size ∧ c.color = l.color ∧ c.content = [] ∧
      finderOk (attrTable.getD i default) (darkOf c) = true ∧
      ∀ row col, row < (attrTable.getD i default).mapping → col < (attrTable.getD i default).mapping →
        mappingModule (attrTable.getD i default) (darkOf c) row col =
          l.matrix.getD (col + row * (attrTable.getD i default).mapping) false :=
  BV.Proofs.DmFrame.merge_frame (pair_fits (pair_mem hi)) l hl hmat

/-! ### C02 assembled -/

/-- **C02 without the Reed–Solomon check (unconditional).**  For every content whose ASCII encodation has at most
    1558 codewords the encoder returns a barcode `bc` (no panic) which is, for the chosen table row `s` and its
    partner `a` in the standard's table (`Accepted`): `a.size × a.size`, kind "DataMatrix"; `finderOk a bc.dark`
    holds; the reference's placement for `a.mapping` succeeds with `dataCW + eccCW` codewords and reading
    `bc.dark` through it returns exactly the padded ASCII encodation followed by the check codewords computed by
    `calcECC`; and `decodeAscii` of the data codewords is the content, with `dataCW - |encodeText c|` pads. -/
theorem C02_partial (c : Bytes) (color : Scheme) (hlen : (encodeText c).length ≤ 1558) :
    ∃ bc s a, encodeWithColor c color = .ok bc ∧ Accepted c color bc s a :=
  encode_accepted c color hlen

/-- The full statement of C02 for the model: the reference decoder accepts the image and returns the content
    (and the attributes of the size). -/
def C02_statement : Prop :=
  ∀ (c : Bytes) (color : Scheme), (encodeText c).length ≤ 1558 →
    ∃ bc a, encodeWithColor c color = .ok bc ∧ a ∈ attrTable ∧
      decode bc.w bc.h bc.dark = .ok
        { rows := a.size, cols := a.size, regions := a.regionsPerSide * a.regionsPerSide,
          regionsPerSide := a.regionsPerSide, mappingSize := a.mapping, dataCodewords := a.dataCW,
          eccCodewords := a.eccCW, blocks := a.blocks, padCount := a.dataCW - (encodeText c).length,
          content := c }

/-- **C02, given C17.**  If the Reed–Solomon encoder of `utils` over GF(256)/0x12D returns, for byte data `d` and
    `1 ≤ k`, `|d| + k ≤ 255`, exactly `k` symbols that make `d ++ ecc` a codeword with roots α¹…α^k
    (`RSEncodeValid`, property C17), then C02 holds: every accepted content decodes to itself. -/
theorem C02_decodes (hrs : RSEncodeValid) : C02_statement := by
  intro c color hlen
  obtain ⟨bc, s, a, hok, hacc, hdec⟩ := encode_decodes hrs c color hlen
  exact ⟨bc, a, hok, (List.of_mem_zip hacc.pair).2, hdec⟩

/-- a concrete symbol, end to end through the real reference decoder (including its Reed–Solomon check):
    "A12" in a 10×10 symbol -/
example : (match encodeWithColor [65, 49, 50] scheme16 with
    | .ok bc => (match decode bc.w bc.h bc.dark with
      | .ok info => info.content == [65, 49, 50] && info.rows == 10 && info.padCount == 1
      | .error _ => false)
    | .error _ => false) = true := by decide +kernel

end BV.Props.DmA
