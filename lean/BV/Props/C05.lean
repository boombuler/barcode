/-
  C05 — Code 128: start character, data characters in code sets A/B/C with all switches, modulo-103 check character,
  stop pattern; interpreting the characters gives back exactly the content.  (Also the Code 128 part of C14.)
  Only property statements live here; lemmas are in BV/Proofs/Code128.lean (symbol level: the encoder loop against
  `Spec.OneD.c128Interpret`) and BV/Proofs/Code128Bits.lean (module level: tables, `Spec.OneD.c128Decode`).

  Vocabulary from the proof files:
  * `InAlpha r`      `r < 128 ∨ 0xF1 ≤ r ≤ 0xF4` — ASCII and the four FNC placeholders U+00F1..U+00F4
  * `setOf start`    code set of a start value: 103 ↦ A, 104 ↦ B, 105 ↦ C
  * `expand true ws` the module list of an element-width list `ws` (bar first, alternating)
-/
import BV.Proofs.Code128Bits
namespace BV.Props.C05
open BV BV.Model.Code128 BV.Spec.OneD BV.Proofs.Code128 BV.Proofs.Bars

/-- **Symbol level, all rune lists.** For every non-empty rune list over the alphabet (no upper bound on the length
    is needed here) `getCodeIndexList` never returns nil; its result is a start symbol 103/104/105 followed by data
    symbols that are all `< 103`, and the reference interpreter of ISO/IEC 15417 (code sets A, B, C, all code-set
    switches, FNC1–4), started in the code set of the start symbol, reads the data symbols as exactly the input. -/
theorem C05_symbols (rs : List Nat) (h1 : 1 ≤ rs.length) (ha : ∀ r ∈ rs, InAlpha r) :
    ∃ idxs start, getCodeIndexList rs = some idxs ∧ idxs.head? = some start ∧
      (start = 103 ∨ start = 104 ∨ start = 105) ∧ (∀ v ∈ idxs.tail, v < 103) ∧
      c128Interpret (setOf start) idxs.tail = some rs := by
  obtain ⟨start, data, h, hs, hd, hi⟩ := symbols_spec rs h1 ha
  exact ⟨start :: data, start, h, rfl, hs, hd, hi⟩

/-- **The tables.** The 107 generated module patterns are the expansions of the reference width table
    (ISO/IEC 15417 Table 1); the 106 start/data patterns have 11 modules, the stop pattern 13. -/
theorem C05_table :
    Gen.Code128.v_encodingTable = c128Table.map (expand true) ∧
    (∀ v < 106, (pattern v).length = 11) ∧ (pattern 106).length = 13 :=
  ⟨table_expand, fun _ h => pattern_length h, pattern_stop.1⟩

/-- **Module level, with check character (`Encode`); contains C14 for Code 128.** For every content of 1..80 runes
    over the alphabet the encoder succeeds; the module row is the concatenation of the reference patterns of the
    symbols from `getCodeIndexList`, the modulo-103 check character and the stop pattern (so the width is
    `11 * (n + 1) + 13`); the reference decoder accepts the row, reads exactly these symbol values, finds the check
    character correct and interprets the data as exactly the content; `CheckSum()` is the reference check value, which
    is the value of the drawn check character. -/
theorem C05_roundtrip (content : Bytes) (h1 : 1 ≤ (runeList content).length)
    (h80 : (runeList content).length ≤ 80) (ha : ∀ r ∈ runeList content, InAlpha r) :
    ∃ bc idxs info chk,
      encode content = .ok bc ∧ getCodeIndexList (runeList content) = some idxs ∧
      chk = c128CheckValue (idxs.headD 0) idxs.tail ∧
      bc.row0 = ((idxs ++ [chk]).map (fun v => expand true (c128Table.getD v []))).flatten ++
        expand true (c128Table.getD 106 []) ∧
      bc.w = 11 * (idxs.length + 1) + 13 ∧
      c128Decode true bc.row0 = .ok info ∧
      info.runes = runeList content ∧ info.symbols = idxs ++ [chk] ∧ info.check = some chk ∧
      bc.checksum = some (chk : Int) ∧ bc.content = content := by
  obtain ⟨start, data, hidx, hs, hd, hi⟩ := symbols_spec (runeList content) h1 ha
  obtain ⟨hlen, hdec⟩ :=
    decode_symbols true start data _ hs hd hi (start :: data ++ [c128CheckValue start data]) rfl
  refine ⟨_, start :: data,
    { runes := runeList content, symbols := start :: data ++ [c128CheckValue start data],
      check := some (c128CheckValue start data) },
    c128CheckValue start data, (encode_eq content start data h1 h80 hidx).1, hidx, rfl, ?_, ?_, ?_,
    rfl, rfl, rfl, rfl, rfl⟩
  · rw [Proofs.OneD.row0_mk1D, symbolBits_eq_expand]
  · rw [w_mk1D, hlen, List.length_append]; rfl
  · rw [Proofs.OneD.row0_mk1D]; exact hdec

/-- **Module level, no-checksum variant (`EncodeWithoutChecksum`).** As `C05_roundtrip`, but there is no check
    character in the row and `CheckSum()` is absent. -/
theorem C05_roundtrip_noChecksum (content : Bytes) (h1 : 1 ≤ (runeList content).length)
    (h80 : (runeList content).length ≤ 80) (ha : ∀ r ∈ runeList content, InAlpha r) :
    ∃ bc idxs info,
      encodeWithoutChecksum content = .ok bc ∧ getCodeIndexList (runeList content) = some idxs ∧
      bc.row0 = (idxs.map (fun v => expand true (c128Table.getD v []))).flatten ++
        expand true (c128Table.getD 106 []) ∧
      bc.w = 11 * idxs.length + 13 ∧
      c128Decode false bc.row0 = .ok info ∧
      info.runes = runeList content ∧ info.symbols = idxs ∧ info.check = none ∧
      bc.checksum = none ∧ bc.content = content := by
  obtain ⟨start, data, hidx, hs, hd, hi⟩ := symbols_spec (runeList content) h1 ha
  obtain ⟨hlen, hdec⟩ := decode_symbols false start data _ hs hd hi (start :: data) (List.append_nil _).symm
  refine ⟨_, start :: data, { runes := runeList content, symbols := start :: data, check := none },
    (encode_eq content start data h1 h80 hidx).2, hidx, ?_, ?_, ?_,
    rfl, rfl, rfl, rfl, rfl⟩
  · rw [Proofs.OneD.row0_mk1D, symbolBits_eq_expand]
  · rw [w_mk1D]; exact hlen
  · rw [Proofs.OneD.row0_mk1D]; exact hdec

/-- **C14 for Code 128.** `CheckSum()` of a Code 128 symbol made with `Encode` is the modulo-103 value that the
    standard prescribes for its start and data characters, which is the value of the check character drawn in the
    symbol and read back by the reference decoder; the no-checksum variant reports no checksum. -/
theorem C14_code128 (content : Bytes) (h1 : 1 ≤ (runeList content).length)
    (h80 : (runeList content).length ≤ 80) (ha : ∀ r ∈ runeList content, InAlpha r) :
    (∃ bc idxs info,
      encode content = .ok bc ∧ getCodeIndexList (runeList content) = some idxs ∧
      c128Decode true bc.row0 = .ok info ∧
      bc.checksum = some ((c128CheckValue (idxs.headD 0) idxs.tail : Nat) : Int) ∧
      info.check = some (c128CheckValue (idxs.headD 0) idxs.tail) ∧
      info.symbols.getLast? = some (c128CheckValue (idxs.headD 0) idxs.tail)) ∧
    (∃ bc, encodeWithoutChecksum content = .ok bc ∧ bc.checksum = none) := by
  obtain ⟨bc, idxs, info, chk, he, hi, hc, _, _, hd, _, hs, hck, hcs, _⟩ := C05_roundtrip content h1 h80 ha
  obtain ⟨bc', _, _, he', _, _, _, _, _, _, _, hn, _⟩ := C05_roundtrip_noChecksum content h1 h80 ha
  subst hc
  exact ⟨⟨bc, idxs, info, he, hi, hd, hcs, hck, by rw [hs]; simp⟩, ⟨bc', he', hn⟩⟩

/-- **Rejection.** An empty content, more than 80 runes, or a rune outside the alphabet (this includes every invalid
    UTF-8 byte, which Go reads as U+FFFD) is answered with an error by both variants. -/
theorem C05_rejects (content : Bytes)
    (h : (runeList content).length = 0 ∨ 80 < (runeList content).length ∨ ∃ r ∈ runeList content, ¬ InAlpha r) :
    encode content = .error .rejected ∧ encodeWithoutChecksum content = .error .rejected := by
  refine encode_reject content fun ⟨h1, h80, ha⟩ => ?_
  rcases h with h | h | ⟨r, hr, hn⟩
  · omega
  · omega
  · exact hn (ha r hr)

/-- **Totality.** Both variants either return a symbol or an error, never panic, on every byte string; they accept
    exactly the contents of 1..80 runes over the alphabet.  (The model reads a table with a default where Go would
    panic on the index, so the last two conjuncts hold of the model by construction; that every symbol value indexes the
    107-entry pattern table is `C05_symbols`, start 103–105 and data below 103, and `Code128.checksum_lt`.) -/
theorem C05_accepts_iff (content : Bytes) :
    ((∃ bc, encode content = .ok bc) ↔
      (1 ≤ (runeList content).length ∧ (runeList content).length ≤ 80 ∧ ∀ r ∈ runeList content, InAlpha r)) ∧
    ((∃ bc, encodeWithoutChecksum content = .ok bc) ↔
      (1 ≤ (runeList content).length ∧ (runeList content).length ≤ 80 ∧ ∀ r ∈ runeList content, InAlpha r)) ∧
    encode content ≠ .error .panic ∧ encodeWithoutChecksum content ≠ .error .panic := by
  by_cases hok : 1 ≤ (runeList content).length ∧ (runeList content).length ≤ 80 ∧ ∀ r ∈ runeList content, InAlpha r
  · obtain ⟨bc, _, _, _, h, _⟩ := C05_roundtrip content hok.1 hok.2.1 hok.2.2
    obtain ⟨bc', _, _, h', _⟩ := C05_roundtrip_noChecksum content hok.1 hok.2.1 hok.2.2
    rw [h, h']
    exact ⟨⟨fun _ => hok, fun _ => ⟨_, rfl⟩⟩, ⟨fun _ => hok, fun _ => ⟨_, rfl⟩⟩, by simp, by simp⟩
  · obtain ⟨e1, e2⟩ := encode_reject content hok
    rw [e1, e2]
    simp [hok]

/-! ### the hypotheses are satisfiable: a content mixing lower case, digits (set C), a control character (set A) and
    the FNC1 / FNC4 placeholders (`"aB123456\x01ñ7ô"` in UTF-8) -/

def sample : Bytes := [97, 66, 49, 50, 51, 52, 53, 54, 1, 0xC3, 0xB1, 55, 0xC3, 0xB4]

example : 1 ≤ (runeList sample).length ∧ (runeList sample).length ≤ 80 ∧ ∀ r ∈ runeList sample, InAlpha r := by
  decide +kernel

example : ∃ bc, encode sample = .ok bc := (C05_accepts_iff sample).1.2 (by decide +kernel)

example : runeList sample = [97, 66, 49, 50, 51, 52, 53, 54, 1, 241, 55, 244] ∧
    getCodeIndexList (runeList sample) = some [104, 65, 34, 99, 12, 34, 56, 101, 65, 102, 23, 101] := by
  decide +kernel

end BV.Props.C05
